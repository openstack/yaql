import Yaql.Model.Token
import Yaql.Model.FloatRound
/-!
Model of `yaql/language/lexer.py` as ply 3.11 runs it (`ply.lex.Lexer.token`).

ply builds ONE master regular expression `(?P<t_A>..)|(?P<t_B>..)|...` and tries it at the current
position with `re.match(lexdata, lexpos)`; the FIRST alternative that matches wins (not the longest).
The alternatives are ordered:
  * function rules in source order: DOLLAR, NUMBER, FUNC, KEYWORD_STRING, QUOTED_STRING,
    DOUBLE_QUOTED_STRING, QUOTED_VERBATIM_STRING;
  * then the string rules (operator symbols, MAPPING, INDEXER, MAP) by DECREASING length of the
    regular-expression text (`re.escape(symbol)`), ties in the order of `dir(object)`, i.e. by rule name.
Before that, characters of `t_ignore` are skipped; if nothing matches, a character of `literals`
is a token of its own; otherwise `t_error` raises `YaqlLexicalException(char, position)`.

Every rule below is the deterministic reading of its regular expression under the hypotheses of
`CharCfg` (a digit is a word character, `_` is one, quotes / `$` / `.` / `(` / blanks are not): under
these the backtracking of Python's `re` has exactly one way to succeed, which is what is computed.
The character classes `\w`, `\d` (re.UNICODE) are parameters; `\N{name}` lookup is an oracle.

Strings are `List Char`; offsets count code points (as Python's `lexpos` does).
-/
namespace Yaql.Lexer
open Yaql.Syntax

/-! ## configuration -/

/-- characters that the model needs to be NON-word characters -/
def nonWordChars : List Char :=
  [' ', '\t', '\r', '\n', '\'', '"', '`', '\\', '$', '.', '(', ')', '[', ']', '{', '}', ',']

/-- Python's `re` character classes under `re.UNICODE`, as parameters -/
structure CharCfg where
  /-- `\w` -/
  isWord : Char → Bool
  /-- `\d` -/
  isDigit : Char → Bool
  /-- the decimal value `int()` / `float()` give to a `\d` character -/
  digitVal : Char → Nat
  digit_word : ∀ c, isDigit c = true → isWord c = true
  digit_lt : ∀ c, isDigit c = true → digitVal c < 10
  underscore_word : isWord '_' = true
  underscore_nondigit : isDigit '_' = false
  nonword : ∀ c, c ∈ nonWordChars → isWord c = false

/-- one string rule of the ply lexer (`t_NAME = 'regex'`): a literal text -/
structure StrRule where
  name : List Char          -- ply rule name without `t_`
  pat : List Char           -- the literal text the regex matches
  relen : Nat               -- length of the regex text (ply's sort key)
  kind : TokKind
deriving Repr, DecidableEq

structure LexCfg where
  chars : CharCfg
  /-- the string rules in the order ply tries them -/
  rules : List StrRule
  /-- keys of the operator table (`t.value in self._operators_table` in `t_KEYWORD_STRING`) -/
  opWords : List (List Char)
  /-- `\N{name}` -> character, `none` = the codec rejects the name -/
  names : List Char → Option Char
  /-- `sys.get_int_max_str_digits()`; 0 = no limit -/
  maxDigits : Nat

/-- what makes the lexer stop before the end of the text -/
inductive LexErr where
  /-- `YaqlLexicalException(value, position)` -/
  | lexical (value : List Char) (pos : Nat)
  /-- NOT an exception of the real code: the escape `\uD800`..`\uDFFF` at `pos` denotes a lone
      surrogate, which a Python `str` can hold but Lean's `Char` cannot - outside the model -/
  | surrogate (pos : Nat)
deriving DecidableEq, Repr, Inhabited

instance {ε α} [DecidableEq ε] [DecidableEq α] : DecidableEq (Except ε α) := fun a b =>
  match a, b with
  | .ok x, .ok y => if h : x = y then isTrue (by rw [h]) else isFalse (by intro e; cases e; exact h rfl)
  | .error x, .error y => if h : x = y then isTrue (by rw [h]) else isFalse (by intro e; cases e; exact h rfl)
  | .ok _, .error _ => isFalse (by intro e; cases e)
  | .error _, .ok _ => isFalse (by intro e; cases e)

/-! ## building the string rules from an operator table (`Lexer.__init__` + ply's ordering) -/

/-- `re._special_chars_map`: characters `re.escape` prefixes with a backslash -/
def reSpecial (c : Char) : Bool :=
  c ∈ ['(', ')', '[', ']', '{', '}', '?', '*', '+', '-', '|', '^', '$', '\\', '.', '&', '~', '#',
       ' ', '\t', '\n', '\r', Char.ofNat 11, Char.ofNat 12]

/-- `len(re.escape(s))` -/
def escLen : List Char → Nat
  | [] => 0
  | c :: r => (if reSpecial c then 2 else 1) + escLen r

/-- `YaqlFactory._name_generator`: digits of `value` in base 26, least significant first -/
def opNameDigits : Nat → Nat → List Char
  | 0, _ => []
  | f + 1, t => if t = 0 then [] else Char.ofNat (65 + t % 26) :: opNameDigits f (t / 26)

/-- lexeme name of the `i`-th (1-based) distinct operator symbol -/
def opName (i : Nat) : List Char := ['O', 'P', '_'] ++ opNameDigits (i + 1) i

/-- Python's `str <` (lexicographic by code point, a proper prefix is smaller); here as `≤` -/
def nameLe : List Char → List Char → Bool
  | [], _ => true
  | _ :: _, [] => false
  | a :: as, b :: bs => if a.toNat < b.toNat then true else if b.toNat < a.toNat then false else nameLe as bs

def insertBy {α} (le : α → α → Bool) (x : α) : List α → List α
  | [] => [x]
  | y :: ys => if le x y then x :: y :: ys else y :: insertBy le x ys

/-- stable insertion sort (`list.sort` is stable) -/
def sortBy {α} (le : α → α → Bool) (l : List α) : List α := l.foldr (insertBy le) []

def opRulesFrom : Nat → List (List Char) → List StrRule
  | _, [] => []
  | i, s :: r => ⟨opName i, s, escLen s, .op s⟩ :: opRulesFrom (i + 1) r

/-- string rules of `Lexer(yaql_operators)`: `ops` = the keys of the operator table other than
`[]`, `{}` in insertion order.  Rules whose regex is `NEVER_MATCHING_RE` are left out.  ply
collects the rules in `dir()` order (sorted by name) and sorts stably by decreasing regex length. -/
def mkRules (ops : List (List Char)) (hasIndexer hasMap : Bool) (nameValueOp : Option (List Char)) :
    List StrRule :=
  let base :=
    (if hasIndexer then [⟨['I', 'N', 'D', 'E', 'X', 'E', 'R'], ['['], 2, TokKind.indexer⟩] else []) ++
    (if hasMap then [⟨['M', 'A', 'P'], ['{'], 1, TokKind.map⟩] else []) ++
    (match nameValueOp with
     | some s => [⟨['M', 'A', 'P', 'P', 'I', 'N', 'G'], s, escLen s, TokKind.mapping⟩]
     | none => []) ++
    opRulesFrom 1 ops
  sortBy (fun a b => b.relen ≤ a.relen) (sortBy (fun a b => nameLe a.name b.name) base)

/-- the configuration of `YaqlFactory.create()` for an operator table -/
def LexCfg.ofTable (chars : CharCfg) (ops : List (List Char)) (hasIndexer hasMap : Bool)
    (nameValueOp : Option (List Char)) (names : List Char → Option Char) (maxDigits : Nat) : LexCfg :=
  { chars, rules := mkRules ops hasIndexer hasMap nameValueOp,
    opWords := ops ++ (if hasIndexer then [['[', ']']] else []) ++ (if hasMap then [['{', '}']] else []),
    names, maxDigits }

/-! ## results -/

/-- outcome of the master regex + token action at one position -/
inductive Matched where
  | tok (t : Token) (len : Nat)     -- `len` = number of characters matched
  | err (e : LexErr)
deriving DecidableEq, Repr, Inhabited

/-- outcome of one `lexer.token()` call -/
inductive TokStep where
  | eof
  | tok (t : Token) (next : Nat)    -- `next` = `lexpos` after the call
  | err (e : LexErr)
deriving DecidableEq, Repr, Inhabited

/-! ## character-level helpers -/

/-- `t_ignore = ' \t\r\n'` -/
def isIgnored (c : Char) : Bool := c == ' ' || c == '\t' || c == '\r' || c == '\n'

/-- `literals = '()],}'` -/
def isLiteral (c : Char) : Bool := c == '(' || c == ')' || c == ']' || c == ',' || c == '}'

/-- `\b` after a word character: the next character is not a word character (or the text ends) -/
def boundaryAfter (cc : CharCfg) : List Char → Bool
  | [] => true
  | x :: _ => !cc.isWord x

/-- `[^\W\d]` -/
def identStart (cc : CharCfg) (c : Char) : Bool := cc.isWord c && !cc.isDigit c

/-! ## NUMBER: `\b\d+(\.?\d+)?\b`, then `int()` / `float()` -/

structure NumMatch where
  int : List Char
  frac : Option (List Char)
deriving DecidableEq, Repr

/-- the optional group `(\.?\d+)?` tried right after the greedy `\d+` (`after` = the text behind the
digits): it succeeds only as `.` digits followed by a boundary - with an empty `\.?` the inner `\d+` finds no
digit left, with fewer digits taken the final `\b` would fall between two word characters -/
def fracPart (cc : CharCfg) (after : List Char) : Option (List Char) :=
  match after with
  | c :: a2 =>
      if c = '.' then
        let d2 := a2.takeWhile cc.isDigit
        if !d2.isEmpty && boundaryAfter cc (a2.dropWhile cc.isDigit) then some d2 else none
      else none
  | [] => none

/-- the text NUMBER matches at `rest` (`pw`: the previous character is a word character, then the leading
`\b` fails). Greedy `\d+`, then `fracPart`; without the group the final `\b` needs a non-word character
(or the end) behind the digits - taking fewer digits never helps, a digit is a word character. -/
def matchNumber (cc : CharCfg) (pw : Bool) (rest : List Char) : Option NumMatch :=
  if pw then none else
  let d1 := rest.takeWhile cc.isDigit
  if d1.isEmpty then none else
  let after := rest.dropWhile cc.isDigit
  match fracPart cc after with
  | some d2 => some ⟨d1, some d2⟩
  | none => if boundaryAfter cc after then some ⟨d1, none⟩ else none

/-- `int(text)` for a text of `\d` characters -/
def digitsVal (cc : CharCfg) (ds : List Char) : Nat := ds.foldl (fun a d => 10 * a + cc.digitVal d) 0

/-- the same digits spelled with ASCII `0`..`9` -/
def asciiDigits (cc : CharCfg) (ds : List Char) : List Char := ds.map fun d => Char.ofNat (48 + cc.digitVal d)

def NumMatch.len (m : NumMatch) : Nat :=
  match m.frac with
  | some d2 => m.int.length + 1 + d2.length
  | none => m.int.length

/-- `float(text)` for a text `a.b` of `\d` characters: the decimal rational `digits(a b) / 10^|b|`, correctly
rounded to binary64 (`FloatRound.roundRat`: nearest, ties to even - proved in `Props/FloatRound.lean`); a literal beyond
the double range is `inf` (`float('1' * 400 + '.5')`), never an error. -/
def literalFloat (cc : CharCfg) (a b : List Char) : UInt64 :=
  match FloatRound.roundRat (digitsVal cc (a ++ b) : Nat) (10 ^ b.length) with
  | .ok w => w
  | .overflow _ => FloatRound.pinfBits
  | .zeroDen => FloatRound.qnan        -- unreachable, `10^k ≠ 0` (`Yaql.Props.C16.literalFloat_spec` in `Props/C16Float.lean`)

/-- `t_NUMBER`: float iff the text has a dot; `int()` of more than `maxDigits` digits raises
`ValueError`, which the rule turns into `YaqlLexicalException(text, lexpos)`.  `float()` of such a
text never raises. A float token carries its decimal text (ASCII digits) and the double it denotes. -/
def convNumber (cfg : LexCfg) (m : NumMatch) (pos : Nat) : Matched :=
  match m.frac with
  | some d2 =>
      .tok ⟨.number, .flt (asciiDigits cfg.chars m.int ++ '.' :: asciiDigits cfg.chars d2)
        (literalFloat cfg.chars m.int d2), pos⟩ m.len
  | none =>
      if cfg.maxDigits != 0 && cfg.maxDigits < m.int.length then .err (.lexical m.int pos)
      else .tok ⟨.number, .int (digitsVal cfg.chars m.int), pos⟩ m.len

/-! ## FUNC `\b[^\W\d]\w*\(` and KEYWORD_STRING `(?!__)\b[^\W\d]\w*\b` -/

def matchFunc (cc : CharCfg) (pw : Bool) (rest : List Char) : Option (List Char) :=
  match rest with
  | [] => none
  | c :: _ =>
      if !pw && identStart cc c then
        match rest.dropWhile cc.isWord with
        | p :: _ => if p = '(' then some (rest.takeWhile cc.isWord) else none
        | [] => none
      else none

def startsDunder : List Char → Bool
  | a :: b :: _ => a == '_' && b == '_'
  | _ => false

def matchKeyword (cc : CharCfg) (pw : Bool) (rest : List Char) : Option (List Char) :=
  if startsDunder rest then none else
  match rest with
  | [] => none
  | c :: _ => if !pw && identStart cc c then some (rest.takeWhile cc.isWord) else none

def kwTrue : List Char := ['t', 'r', 'u', 'e']
def kwFalse : List Char := ['f', 'a', 'l', 's', 'e']
def kwNull : List Char := ['n', 'u', 'l', 'l']

/-- the action of `t_KEYWORD_STRING` -/
def classifyKeyword (cfg : LexCfg) (w : List Char) (pos : Nat) : Token :=
  if cfg.opWords.contains w then ⟨.op w, .text w, pos⟩
  else if w = kwTrue then ⟨.true_, .none, pos⟩
  else if w = kwFalse then ⟨.false_, .none, pos⟩
  else if w = kwNull then ⟨.null_, .none, pos⟩
  else ⟨.keyword, .text w, pos⟩

/-! ## the three string rules `q([^q\\]|\\.)*q` (no DOTALL: `.` is any character but `\n`) -/

/-- content of the string token whose opening quote has just been read, if the regex matches -/
def scanStr (q : Char) : List Char → Option (List Char)
  | [] => none
  | c :: r =>
      if c = q then some []
      else if c = '\\' then
        match r with
        | [] => none
        | e :: r' => if e = '\n' then none else (scanStr q r').map (fun s => c :: e :: s)
      else (scanStr q r).map (fun s => c :: s)

/-- ``.replace('\\`', '`')`` -/
def unescapeBackquote : List Char → List Char
  | [] => []
  | c :: r =>
      -- a backslash right before a back quote is dropped (the back quote then stands for itself)
      if c = '\\' && r.head? = some '`' then unescapeBackquote r
      else c :: unescapeBackquote r

/-! ## `decode_escapes`: `ESCAPE_SEQUENCE_RE.sub(decode_match, s)` -/

def hexVal (c : Char) : Option Nat :=
  let n := c.toNat
  if 48 ≤ n && n ≤ 57 then some (n - 48)
  else if 97 ≤ n && n ≤ 102 then some (n - 87)
  else if 65 ≤ n && n ≤ 70 then some (n - 55)
  else none

def hexNum : Nat → List Char → Option Nat
  | acc, [] => some acc
  | acc, c :: r => match hexVal c with
      | some v => hexNum (16 * acc + v) r
      | none => none

/-- what `codecs.decode(escape, 'unicode-escape')` does with one matched escape -/
inductive Esc where
  | ok (c : Char)
  | bad                -- ValueError -> YaqlLexicalException
  | surrogate          -- a lone surrogate: outside the model
deriving DecidableEq, Repr

structure EscMatch where
  len : Nat            -- length of the matched escape, backslash included
  res : Esc
deriving DecidableEq, Repr

def isSurrogate (v : Nat) : Bool := 0xD800 ≤ v && v ≤ 0xDFFF

def codePoint (v : Nat) : Esc :=
  if isSurrogate v then .surrogate else if v ≤ 0x10FFFF then .ok (Char.ofNat v) else .bad

/-- `\\U........` / `\\u....` / `\\x..` after the letter: `n` characters other than `\n` -/
def hexEscape (n : Nat) (t : List Char) : Option EscMatch :=
  let ds := t.take n
  if ds.length = n && ds.all (fun c => c != '\n') then
    some ⟨n + 2, match hexNum 0 ds with | some v => codePoint v | none => .bad⟩
  else none

def isOct (c : Char) : Bool := 48 ≤ c.toNat && c.toNat ≤ 55

def octVal (ds : List Char) : Nat := ds.foldl (fun a d => 8 * a + (d.toNat - 48)) 0

/-- `\\[0-7]{1,3}` -/
def octEscape (t : List Char) : Option EscMatch :=
  let ds := (t.take 3).takeWhile isOct
  if ds.isEmpty then none else some ⟨ds.length + 1, .ok (Char.ofNat (octVal ds))⟩

/-- `\\N\{[^}]+\}` -/
def nameEscape (cfg : LexCfg) (t : List Char) : Option EscMatch :=
  match t with
  | n :: b :: r =>
      if n = 'N' && b = '{' then
        let name := r.takeWhile (fun c => c != '}')
        match r.dropWhile (fun c => c != '}') with
        | _ :: _ =>
            if name.isEmpty then none
            else some ⟨name.length + 4, match cfg.names name with | some c => .ok c | none => .bad⟩
        | [] => none
      else none
  | _ => none

/-- `\\[\\'"abfnrtv]` -/
def singleEscape (c : Char) : Option EscMatch :=
  if c = '\\' then some ⟨2, .ok '\\'⟩
  else if c = '\'' then some ⟨2, .ok '\''⟩
  else if c = '"' then some ⟨2, .ok '"'⟩
  else if c = 'a' then some ⟨2, .ok (Char.ofNat 7)⟩
  else if c = 'b' then some ⟨2, .ok (Char.ofNat 8)⟩
  else if c = 'f' then some ⟨2, .ok (Char.ofNat 12)⟩
  else if c = 'n' then some ⟨2, .ok '\n'⟩
  else if c = 'r' then some ⟨2, .ok '\r'⟩
  else if c = 't' then some ⟨2, .ok '\t'⟩
  else if c = 'v' then some ⟨2, .ok (Char.ofNat 11)⟩
  else none

/-- `ESCAPE_SEQUENCE_RE` tried right after a backslash (`t` = the text after it): the ORDERED
alternation - the first alternative that matches decides, even when it then fails to decode -/
def escAt (cfg : LexCfg) (t : List Char) : Option EscMatch :=
  match t with
  | [] => none
  | c :: t' =>
      ((((((if c = 'U' then hexEscape 8 t' else none).or
        (if c = 'u' then hexEscape 4 t' else none)).or
        (if c = 'x' then hexEscape 2 t' else none)).or
        (octEscape t)).or
        (nameEscape cfg t)).or
        (singleEscape c))

def consOk (c : Char) : Except LexErr (List Char) → Except LexErr (List Char)
  | .ok l => .ok (c :: l)
  | .error e => .error e

/-- `re.sub` scanning left to right; `skip` = characters still covered by the last match,
`off` = offset in `s` of the head of the list; `base` = offset of `s` in the expression -/
def decodeGo (cfg : LexCfg) (base : Nat) : Nat → Nat → List Char → Except LexErr (List Char)
  | _, _, [] => .ok []
  | skip + 1, off, _ :: t => decodeGo cfg base skip (off + 1) t
  | 0, off, c :: t =>
      if c = '\\' then
        match escAt cfg t with
        | none => consOk c (decodeGo cfg base 0 (off + 1) t)
        | some m =>
            match m.res with
            | .ok v => consOk v (decodeGo cfg base (m.len - 1) (off + 1) t)
            | .bad => .error (.lexical (c :: t.take (m.len - 1)) (base + off))
            | .surrogate => .error (.surrogate (base + off))
      else consOk c (decodeGo cfg base 0 (off + 1) t)

/-- `decode_escapes(s, position)` -/
def decodeEscapes (cfg : LexCfg) (s : List Char) (position : Nat) : Except LexErr (List Char) :=
  decodeGo cfg position 0 0 s

/-! ## the master regex at one position -/

def firstStrRule (rules : List StrRule) (rest : List Char) : Option StrRule :=
  rules.find? (fun r => !r.pat.isEmpty && r.pat.isPrefixOf rest)

/-- token action of `t_QUOTED_STRING` / `t_DOUBLE_QUOTED_STRING` -/
def quotedTok (cfg : LexCfg) (content : List Char) (pos : Nat) : Matched :=
  match decodeEscapes cfg content (pos + 1) with
  | .ok v => .tok ⟨.quoted, .text v, pos⟩ (content.length + 2)
  | .error e => .err e

/-- string rules, literals, `t_error` -/
def symbolAt (cfg : LexCfg) (c : Char) (rest : List Char) (pos : Nat) : Matched :=
  match firstStrRule cfg.rules rest with
  | some sr => .tok ⟨sr.kind, .text sr.pat, pos⟩ sr.pat.length
  | none =>
      if isLiteral c then .tok ⟨.lit c, .text [c], pos⟩ 1
      else .err (.lexical [c] pos)

/-- the rules at a character that is not ignored. `pw`: the previous character of the text is a
word character (`\b` looks behind `lexpos`); `rest` = the text from `lexpos` on -/
def ruleAt (cfg : LexCfg) (pw : Bool) (rest : List Char) (pos : Nat) : Matched :=
  match rest with
  | [] => .err (.lexical [] pos)
  | c :: r =>
      if c = '$' then
        let w := r.takeWhile cfg.chars.isWord
        .tok ⟨.dollar, .text (c :: w), pos⟩ (w.length + 1)
      else
      match matchNumber cfg.chars pw rest with
      | some m => convNumber cfg m pos
      | none =>
      match matchFunc cfg.chars pw rest with
      | some w => .tok ⟨.func, .text w, pos⟩ (w.length + 1)
      | none =>
      match matchKeyword cfg.chars pw rest with
      | some w => .tok (classifyKeyword cfg w pos) w.length
      | none =>
      match (if c = '\'' || c = '"' then scanStr c r else none) with
      | some content => quotedTok cfg content pos
      | none =>
      match (if c = '`' then scanStr c r else none) with
      | some content => .tok ⟨.quoted, .text (unescapeBackquote content), pos⟩ (content.length + 2)
      | none => symbolAt cfg c rest pos

/-! ## `token()` and the whole text -/

/-- skip `t_ignore`, then the rules -/
def scanTok (cfg : LexCfg) : Bool → List Char → Nat → TokStep
  | _, [], _ => .eof
  | pw, c :: r, pos =>
      if isIgnored c then scanTok cfg (cfg.chars.isWord c) r (pos + 1)
      else match ruleAt cfg pw (c :: r) pos with
        | .tok t len => .tok t (pos + len)
        | .err e => .err e

/-- is the character before offset `pos` a word character -/
def prevWord (cfg : LexCfg) (text : List Char) (pos : Nat) : Bool :=
  match pos with
  | 0 => false
  | p + 1 => match text[p]? with
      | some c => cfg.chars.isWord c
      | none => false

/-- one `lexer.token()` call on the lexer state `{lexdata = text, lexpos = pos}` -/
def nextTok (cfg : LexCfg) (text : List Char) (pos : Nat) : TokStep :=
  scanTok cfg (prevWord cfg text pos) (text.drop pos) pos

def consTok (t : Token) : Except LexErr (List Token) → Except LexErr (List Token)
  | .ok l => .ok (t :: l)
  | .error e => .error e

/-- all tokens from a position on. Structural recursion over the text, each character is visited
once: `skip` = characters still inside the token emitted last. (That this is the iteration of
`nextTok` - `Yaql.Props.C03Lex.lexFrom_step` - needs every token to be at least one character
long: `nextTok_progress`.) -/
def lexGo (cfg : LexCfg) : Nat → Bool → List Char → Nat → Except LexErr (List Token)
  | _, _, [], _ => .ok []
  | skip + 1, _, c :: r, pos => lexGo cfg skip (cfg.chars.isWord c) r (pos + 1)
  | 0, pw, c :: r, pos =>
      if isIgnored c then lexGo cfg 0 (cfg.chars.isWord c) r (pos + 1)
      else match ruleAt cfg pw (c :: r) pos with
        | .tok t len => consTok t (lexGo cfg (len - 1) (cfg.chars.isWord c) r (pos + 1))
        | .err e => .error e

def lexFrom (cfg : LexCfg) (text : List Char) (pos : Nat) : Except LexErr (List Token) :=
  lexGo cfg 0 (prevWord cfg text pos) (text.drop pos) pos

/-- the token list of a text (what the parser pulls), or where the lexer stops -/
def lexAll (cfg : LexCfg) (text : List Char) : Except LexErr (List Token) :=
  lexGo cfg 0 false text 0

end Yaql.Lexer
