import Yaql.Model.Eval
import Yaql.Model.Limits
/-!
# The reference interpreter with the two resource limits (property C08 over the C04 evaluator)

`evalL` is `Yaql.Eval.eval` (same constructs, same order of evaluation, same context discipline)
plus the two mechanisms of `yaql/language/utils.py` placed where the real code applies them:

* **memory quota** (`limit_memory_usage`, `yaql.memoryQuota = Q`, `Q <= 0` disables):
  - `runner.call` measures the result of *every* function call - every node of an expression that
    is not a constant is a call (`stepL`: one `measure` after the node's own work);
  - `SmartType.convert` measures every value bound to a parameter, in parameter order, after all
    eager arguments have been evaluated and the overload has been chosen (so an exception of
    argument evaluation or of overload resolution comes first) and before the payload runs
    (`withConv`, `bindIter`, the `measure` lines of `callMethodL` / `callFnL` / `rawL`);
    `receiver.f(..)` is `#operator_.(receiver, f(..))`: the receiver is bound once more before the
    method's other arguments are evaluated;
  - the payloads with a check of their own: `#list` (running total of the elements), `#map` /
    `dict(k => v)` (running total of the rule objects), `dict(items)` / `toDict` (the growing
    dict after every insertion), `+` on lists / dicts (both operands), `sum` (= repeated `+` calls),
    `orderBy` (keys are bound to `#operator_<` / `#operator_>`), `coll.name` (one `#operator_.`
    call per element);
  - sizes are `sys.getsizeof` (shallow): `sizeofV` over the constants of `ECfg` (regenerated from
    the running CPython); a FrozenDict measures the table it wraps (`fdictSize`).  Objects that are
    not data (iterators, generators, orderings, contexts) count `objMax`, an upper bound of what
    the real objects measure (and at least `objMin`): a check whose outcome depends on where in that
    interval the real size lies is "no prediction"; expression nodes bound to lambda / constant
    parameters (48 bytes) are not measured: below `objMax` the model makes no claim about the real engine.
    A size the model does not know (floats, sets, host objects, dicts whose keys are partly strings:
    the table size depends on the insertion history) is "no prediction" (`outOfDomain`) when the
    quota is enabled.
* **iterator limit** (`limit_iterable`, `yaql.limitIterators = N`, negative = `none` disables):
  every value bound to a parameter declared `Iterable()` / `Iterator()` passes `bindIter`: a sized
  collection is refused by `len` at once, an iterator is wrapped into the counting generator
  (`limitLazy`: at most `N` items, `TooLarge` when item `N + 1` is pulled - `Limits.limNext` /
  `Limits.run`, see `Props.C08Eval.limitLazy_run`); `list(..)` limits every iterator it opens and
  the flattened stream; the finaliser (`finaliseL`) passes every collection at every depth of the
  result through `#iter`.  `Sequence()` parameters (`len` of a list, `x[i]`) are measured but NOT
  limited - that is what yaqltypes.Sequence does.

Lazy sequences are, as in `Eval`, "the items it yields, then normal end or an exception"; the two
new exceptions are ordinary exceptions: they are captured into the tail of a generator and surface
only if the consumer gets that far.

Where `Eval` orders two *ordinary* exceptions differently from the code (`dict(items)` and the
finaliser drain the source before they look at the items), `evalL` keeps `Eval`'s order - so that
`evalL` without limits IS `Eval.eval` (`Props.C08Eval.evalL_off`) - and puts the limit exceptions
where the code raises them.
-/
namespace Yaql.EvalLimits
open Yaql Yaql.Value Yaql.Eval

/-! ## errors, limits, sizes -/

inductive LErr where
  | base (e : Eval.Err)     -- an outcome of the uninstrumented interpreter
  | quota                   -- MemoryQuotaExceededException
  | tooLarge                -- CollectionTooLargeException
deriving DecidableEq, Repr, Inhabited

abbrev RL := Except LErr

/-- no prediction: out of fuel / outside the modelled domain -/
def noPred : LErr → Bool
  | .base .fuel | .base .outOfDomain => true
  | _ => false

/-- one of the two new outcomes -/
def isLim : LErr → Bool
  | .quota | .tooLarge => true
  | _ => false

def liftR (x : Eval.R α) : RL α :=
  match x with
  | .ok a => .ok a
  | .error e => .error (.base e)

def liftSeqL (x : Seq.R α) : RL α := liftR (Eval.liftSeq x)

/-- the two engine options -/
structure Lim where
  N : Option Nat      -- yaql.limitIterators (`none` = negative = unlimited)
  Q : Int             -- yaql.memoryQuota (`<= 0` = disabled)
deriving Repr

def Lim.off : Lim := { N := none, Q := 0 }

/-- `sys.getsizeof` constants beyond `Limits.SizeCfg` (all regenerated from the running CPython) -/
structure ECfg where
  sz : Limits.SizeCfg
  noneSz : Nat                    -- sys.getsizeof(None)
  boolSz : Nat                    -- sys.getsizeof(True)
  intBase : Nat                   -- int: intBase + intDigit * max(1, number of digits)
  intDigit : Nat
  digitBits : Nat                 -- bits per digit (30)
  objMin : Nat                    -- bounds of the size of every non-data object that gets measured
  objMax : Nat                    --   (iterators, generators, orderings, contexts)
  ruleSz : Nat                    -- sys.getsizeof(utils.MappingRule(..))
  dictEmpty : Nat                 -- sys.getsizeof({})
  dictUni : List (Nat × Nat)      -- (n, size): a dict with <= n string keys grown by insertion; ascending
  dictGen : List (Nat × Nat)      -- ... with keys none of which is a string
  listGrow : List (Nat × Nat)     -- (n, slots): `list(<generator of <= n items>)` has `slots` allocated
deriving Repr

def lookupLe : List (Nat × Nat) → Nat → Option Nat
  | [], _ => none
  | (m, v) :: r, n => if n ≤ m then some v else lookupLe r n

/-- number of `2^bits` digits of `n >= 1` (at most `fuel`) -/
def digitsFuel : Nat → Nat → Nat → Option Nat
  | 0, _, _ => none
  | f + 1, b, n => if n < 2 ^ b then some 1 else (digitsFuel f b (n / 2 ^ b)).map (· + 1)

def intSize (c : ECfg) (i : Int) : Option Nat :=
  (digitsFuel 64 c.digitBits i.natAbs).map fun d => c.intBase + c.intDigit * d

def maxCp : List Char → Nat
  | [] => 0
  | ch :: r => Nat.max ch.toNat (maxCp r)

/-- a one-character latin-1 string is a cached singleton that may carry a utf-8 copy: not modelled -/
def strSizeOf (c : ECfg) (s : List Char) : Option Nat :=
  let cls := Limits.strClassOf (maxCp s)
  if s.length = 1 && cls == .latin1 then none else some (c.sz.strSize cls s.length)

def isStr : Value → Bool
  | .str _ => true
  | _ => false

/-- `sys.getsizeof` of a builtin dict that was filled by insertions (no deletions): determined by the
    number of keys when the keys are all strings (compact unicode table) or all non-strings; a mixed
    history is not modelled -/
def dictTable (c : ECfg) (keys : List Value) : Option Nat :=
  if keys.isEmpty then some c.dictEmpty
  else if keys.all isStr then lookupLe c.dictUni keys.length
  else if keys.all (fun k => !isStr k) then lookupLe c.dictGen keys.length
  else none

/-- what the model knows about `sys.getsizeof(x)`: between `lo` and `hi` (data: `lo = hi`) -/
structure Sz where
  lo : Nat
  hi : Nat
deriving Repr, DecidableEq

def Sz.exact (n : Nat) : Sz := ⟨n, n⟩

/-- an object that is not data: an iterator / generator / ordering / context -/
def objSzOf (c : ECfg) : Sz := ⟨c.objMin, c.objMax⟩

def plainDictSize (c : ECfg) (d : KV) : Option Sz := (dictTable c (d.map (·.1))).map Sz.exact

/-- `sys.getsizeof(value, 0)` as `limit_memory_usage` sees it (shallow) -/
def sizeofV (c : ECfg) : Value → Option Sz
  | .null => some (.exact c.noneSz)
  | .bool _ => some (.exact c.boolSz)
  | .int i => (intSize c i).map Sz.exact
  | .str s => (strSizeOf c s).map Sz.exact
  | .tuple l => some (.exact (c.sz.seqSize .tuple l.length))
  | .list l => some (.exact (c.sz.seqSize .list l.length))
  | .dict kvs => (dictTable c (kvs.map (·.1))).map fun t => .exact (c.sz.fdictSize t)   -- FrozenDict: wrapper + the table it owns
  | .iter _ => some (objSzOf c)
  | .flt _ | .set _ | .host _ => none

/-- the sizes, if the model knows every one of them -/
def allSome : List (Option Sz) → Option (List Sz)
  | [] => some []
  | none :: _ => none
  | some n :: r => (allSome r).map (n :: ·)

/-- `limit_memory_usage(engine, (1, x1), (1, x2), ...)`: the running total is compared after every term.
    With sizes known up to an interval: passes if it passes with the upper bounds, raises if it raises with
    the lower bounds, no prediction in between (and for a size the model does not know). -/
def measureAll (L : Lim) (ss : List (Option Sz)) : RL Unit :=
  if L.Q ≤ 0 then .ok ()
  else match allSome ss with
    | none => .error (.base .outOfDomain)
    | some ns =>
      if Limits.limitMemory L.Q (ns.map fun n => ((1 : Int), n.hi)) then .ok ()
      else if Limits.limitMemory L.Q (ns.map fun n => ((1 : Int), n.lo)) then .error (.base .outOfDomain)
      else .error .quota

/-- `limit_memory_usage(engine, (1, x))` -/
def measure (L : Lim) (s : Option Sz) : RL Unit := measureAll L [s]

def measureEach (L : Lim) : List (Option Sz) → RL Unit
  | [] => .ok ()
  | s :: r => do measure L s; measureEach L r

/-- `limit_iterable` on a sized collection -/
def limitLen (L : Lim) (len : Nat) : RL Unit :=
  match Limits.limitSized L.N len with
  | .ok _ => .ok ()
  | .error _ => .error .tooLarge

/-- `limit_iterable` on an iterator, as the items / the tail the consumer will see -/
def limitLazy (L : Lim) (s : VL × Option LErr) : VL × Option LErr :=
  match L.N with
  | none => s
  | some n => if n < s.1.length then (s.1.take n, some .tooLarge) else s

/-! ## run-time objects -/

inductive ObjL where
  | val (v : Value)
  | lazy (items : VL) (err : Option LErr)
  | ordered (items : VL) (err : Option LErr)
  | ctx (c : Ctx)
deriving Repr, Inhabited

abbrev EvL := Ctx → Expr → RL ObjL

def objSz (c : ECfg) : ObjL → Option Sz
  | .val v => sizeofV c v
  | _ => some (objSzOf c)

def toVL : ObjL → RL Value
  | .val v => .ok v
  | .lazy items none => .ok (.iter items)
  | _ => .error (.base .outOfDomain)

def toIterL : ObjL → Option (VL × Option LErr)
  | .val (.tuple l) | .val (.list l) | .val (.iter l) => some (l, none)
  | .lazy items e | .ordered items e => some (items, e)
  | _ => none

def truthyObjL : ObjL → Bool
  | .val v => truthy v
  | _ => true

def isLazyL : ObjL → Bool
  | .val v => hasIter v
  | _ => true

def readVarL (C : Ctx) (x : Name) : RL ObjL :=
  match C.get x with
  | none => .ok (.val .null)
  | some v => if hasIter v then .error (.base .outOfDomain) else .ok (.val v)

/-- the conversion of a parameter declared `Iterable()` / `Iterator()`: `SmartType.convert` measures the
    value, `limit_iterable` checks `len` of a sized collection and wraps anything else -/
def bindIter (c : ECfg) (L : Lim) (o : ObjL) : RL (VL × Option LErr) := do
  measure L (objSz c o)
  match o with
  | .val (.tuple l) | .val (.list l) => do limitLen L l.length; pure (l, none)
  | .val (.iter l) => pure (limitLazy L (l, none))
  | .lazy xs e | .ordered xs e => pure (limitLazy L (xs, e))
  | _ => .error (.base .outOfDomain)

/-- an exception becomes data (the tail of a generator) - except "no prediction" -/
def capture (x : RL α) : RL (Except LErr α) :=
  match x with
  | .ok a => .ok (.ok a)
  | .error e => if noPred e then .error e else .ok (.error e)

/-! ## generators (as in `Eval`, over the larger exception type) -/

def mapL (f : Value → RL Value) : VL → Option LErr → RL (VL × Option LErr)
  | [], e => .ok ([], e)
  | x :: xs, e => do
    match ← capture (f x) with
    | .error er => pure ([], some er)
    | .ok v => let r ← mapL f xs e; pure (v :: r.1, r.2)

def filterL (p : Value → RL Bool) : VL → Option LErr → RL (VL × Option LErr)
  | [], e => .ok ([], e)
  | x :: xs, e => do
    match ← capture (p x) with
    | .error er => pure ([], some er)
    | .ok b => let r ← filterL p xs e; pure (if b then x :: r.1 else r.1, r.2)

def flatMapL (f : Value → RL (VL × Option LErr)) : VL → Option LErr → RL (VL × Option LErr)
  | [], e => .ok ([], e)
  | x :: xs, e => do
    match ← capture (f x) with
    | .error er => pure ([], some er)
    | .ok (vs, some er) => pure (vs, some er)
    | .ok (vs, none) => let r ← flatMapL f xs e; pure (vs ++ r.1, r.2)

def takeWhileL (p : Value → RL Bool) : VL → Option LErr → RL (VL × Option LErr)
  | [], e => .ok ([], e)
  | x :: xs, e => do
    match ← capture (p x) with
    | .error er => pure ([], some er)
    | .ok true => let r ← takeWhileL p xs e; pure (x :: r.1, r.2)
    | .ok false => pure ([], none)

def dropWhileL (p : Value → RL Bool) : VL → Option LErr → RL (VL × Option LErr)
  | [], e => .ok ([], e)
  | x :: xs, e => do
    match ← capture (p x) with
    | .error er => pure ([], some er)
    | .ok true => dropWhileL p xs e
    | .ok false => pure (x :: xs, e)

def findL (p : Value → RL Bool) (i : Nat) : VL → Option LErr → RL (Option Nat)
  | [], none => .ok none
  | [], some e => .error e
  | x :: xs, e => do
    if (← p x) then pure (some i) else findL p (i + 1) xs e

def foldL (f : Value → Value → RL Value) (acc : Value) : VL → Option LErr → RL Value
  | [], none => .ok acc
  | [], some e => .error e
  | x :: xs, e => do let a ← f acc x; foldL f a xs e

/-- the loop of `to_dict`: `result[key] = value; limit_memory_usage(engine, (1, result))` -/
def toDictL (c : ECfg) (L : Lim) (kf vf : Value → RL Value) (acc : KV) : VL → Option LErr → RL KV
  | [], none => .ok acc
  | [], some e => .error e
  | x :: xs, e => do
    let k ← kf x
    let v ← vf x
    if hashable k then do
      let acc' := Seq.dSet acc k v
      measure L (plainDictSize c acc')
      toDictL c L kf vf acc' xs e
    else .error (.base (keyErr k))

def drain (s : VL × Option LErr) : RL VL :=
  match s.2 with
  | none => .ok s.1
  | some e => .error e

/-! ## operators -/

/-- exceptions of overload resolution (and "no prediction"): raised before any parameter is converted -/
def isResolution : Eval.Err → Bool
  | .noFunction | .noMethod | .unknownFunction | .unknownMethod | .mapping | .fuel | .outOfDomain => true
  | _ => false

/-- a builtin whose `Eval` model is a pure function of its evaluated arguments: overload resolution comes
    first, then the parameter conversions `conv`, then the payload (with its own exception) -/
def withConv (res : Eval.R α) (conv : RL Unit) : RL α :=
  match res with
  | .ok a => do conv; pure a
  | .error e => if isResolution e then .error (.base e) else do conv; .error (.base e)

/-- parameter conversions and the payload's own check of a binary operator -/
def convBin (c : ECfg) (L : Lim) (op : BinOp) (a b : Value) : RL Unit :=
  match op, a, b with
  | .add, .tuple x, .tuple y => do
    -- combine_lists: both `Iterable()`; `limit_memory_usage(engine, (1, left), (1, right))`
    measure L (sizeofV c a); limitLen L x.length
    measure L (sizeofV c b); limitLen L y.length
    measureAll L [sizeofV c a, sizeofV c b]
  | .add, .dict _, .dict _ => do
    measure L (sizeofV c a); measure L (sizeofV c b)
    measureAll L [sizeofV c a, sizeofV c b]
  | _, _, _ => do measure L (sizeofV c a); measure L (sizeofV c b)

/-- one call of a strict binary operator on values (also what `sum` and the delegates do) -/
def binCall (c : ECfg) (L : Lim) (op : BinOp) (a b : Value) : RL Value := do
  let r ← withConv (Eval.binopV op a b) (convBin c L op a b)
  measure L (sizeofV c r)
  pure r

def binopL (c : ECfg) (L : Lim) (op : BinOp) (x y : ObjL) : RL ObjL :=
  match x, y with
  | .ctx _, _ | _, .ctx _ =>
    match op with
    | .eq | .ne => .error (.base .outOfDomain)
    | .lt | .le | .gt | .ge => .error (.base .outOfDomain)
    | _ => .error (.base .noFunction)
  | x, y =>
    if isLazyL x || isLazyL y then .error (.base .outOfDomain)
    else do let a ← toVL x; let b ← toVL y; let r ← binCall c L op a b; pure (.val r)

def unopL (c : ECfg) (L : Lim) (op : UnOp) (x : ObjL) : RL ObjL :=
  match op, x with
  | .not, .val v =>
    if hasIter v then .error (.base .outOfDomain)
    else do measure L (sizeofV c v); pure (.val (.bool (!truthy v)))
  | .not, _ => .error (.base .outOfDomain)
  | .neg, .val (.int i) => do measure L (sizeofV c (.int i)); pure (.val (.int (-i)))
  | .neg, .val (.flt _) => .error (.base .outOfDomain)
  | .neg, .val v => if hasIter v then .error (.base .outOfDomain) else .error (.base .noFunction)
  | .neg, .ctx _ => .error (.base .noFunction)
  | .neg, _ => .error (.base .outOfDomain)

/-- `Eval.indexer` on the data part -/
def indexerV (r : ObjL) (args : VL) : Eval.R Value :=
  match r, args with
  | .val (.tuple l), [k] | .val (.list l), [k] =>
    match intOfIndex k with
    | some i => liftSeq (Seq.pyIndex l i)
    | none => .error .noFunction
  | .val (.dict d), [k] =>
    if hashable k then (match Seq.dGet d k with | some v => .ok v | none => .error .key) else .error (keyErr k)
  | .val (.dict d), [k, dflt] =>
    if hashable k then .ok ((Seq.dGet d k).getD dflt) else .error (keyErr k)
  | _, _ => .error .noFunction

def indexerL (c : ECfg) (L : Lim) (r : ObjL) (args : VL) : RL ObjL := do
  let v ← withConv (indexerV r args) (do measure L (objSz c r); measureEach L (args.map (sizeofV c)))
  pure (.val v)

/-- `x.name` for an element that is not a collection: `dict_keyword_access`, or `get_property` -/
def memberFlatL (c : ECfg) (L : Lim) (name : Name) (x : Value) : RL Value := do
  let v ← (match Eval.memberV name x with
    -- neither a dict nor a collection: `get_property(obj, name)` binds the object, then `#property#name` is not found
    | .error .unknownFunction => (do measure L (sizeofV c x); .error (.base .unknownFunction) : RL Value)
    | res => withConv res (measure L (sizeofV c x)))
  measure L (sizeofV c v)
  pure v

mutual
/-- `x.name` for one element of a collection: one `#operator_.` call.  An element that is a collection
    itself goes to `collection_attribution` again: it is bound to the `Iterable()` parameter (measured; a
    sized collection is refused by `len` at once, an iterator is wrapped into the counting generator), the
    call returns a `map` object (measured as the result of the call) whose items - one more `#operator_.`
    call each - are computed when somebody consumes it; as in `Eval` that object is data of the outer
    projection, so it must not carry an exception (`toVL`: a limit exception waiting in it is "no prediction"). -/
def memberVL (c : ECfg) (L : Lim) (name : Name) : Value → RL Value
  | .tuple l => do
    measure L (sizeofV c (.tuple l)); limitLen L l.length
    let s ← memberVLs c L name l
    let v ← toVL (.lazy s.1 s.2)
    measure L (sizeofV c v)
    pure v
  | .list l => do
    measure L (sizeofV c (.list l)); limitLen L l.length
    let s ← memberVLs c L name l
    let v ← toVL (.lazy s.1 s.2)
    measure L (sizeofV c v)
    pure v
  | .iter l => do
    measure L (sizeofV c (.iter l))
    let s ← memberVLs c L name l
    let v ← toVL (ObjL.lazy (limitLazy L s).1 (limitLazy L s).2)
    measure L (sizeofV c v)
    pure v
  | .null => memberFlatL c L name .null
  | .bool b => memberFlatL c L name (.bool b)
  | .int i => memberFlatL c L name (.int i)
  | .flt f => memberFlatL c L name (.flt f)
  | .str t => memberFlatL c L name (.str t)
  | .dict d => memberFlatL c L name (.dict d)
  | .set t => memberFlatL c L name (.set t)
  | .host h => memberFlatL c L name (.host h)
/-- `map(lambda t: operator(t, name), l)` under the limits (= `mapL (memberVL c L name) l none`) -/
def memberVLs (c : ECfg) (L : Lim) (name : Name) : List Value → RL (VL × Option LErr)
  | [] => .ok ([], none)
  | x :: xs => do
    match ← capture (memberVL c L name x) with
    | .error er => pure ([], some er)
    | .ok v => let r ← memberVLs c L name xs; pure (v :: r.1, r.2)
end

theorem memberVLs_eq (c : ECfg) (L : Lim) (name : Name) :
    ∀ l : List Value, memberVLs c L name l = mapL (memberVL c L name) l none
  | [] => by rw [memberVLs]; rfl
  | x :: xs => by rw [memberVLs, mapL, memberVLs_eq c L name xs]

def memberOfL (c : ECfg) (L : Lim) (r : ObjL) (name : Name) : RL ObjL :=
  match r with
  | .val (.dict d) => do
    measure L (objSz c r)
    match Seq.dGet d (.str name) with
    | some v => pure (.val v)
    | none => .error (.base .key)
  | .val (.set _) => .error (.base .outOfDomain)
  | r =>
    match toIterL r with
    | some _ => do
      let (items, err) ← bindIter c L r
      let s ← mapL (memberVL c L name) items err
      pure (.lazy s.1 s.2)
    | none => do
      measure L (objSz c r)                     -- `get_property(obj, name)`
      .error (.base .unknownFunction)

def mkDictL (ps : KV) : RL ObjL :=
  if ps.all (fun p => hashable p.1) then .ok (.val (.dict (Seq.dOfPairs ps)))
  else .error (.base (if ps.any (fun p => hasIter p.1) then .outOfDomain else .type))

/-! ## `list(...)`: iterators among the arguments are opened, each through `limit_iterable`; the
flattened stream is the `Iterable()` argument of `to_list` -/

/-- two streams one after the other: the tail of the first ends the stream -/
def catS (a b : VL × Option LErr) : VL × Option LErr :=
  match a.2 with
  | some e => (a.1, some e)
  | none => (a.1 ++ b.1, b.2)

/-- concatenation of streams with exception tails: the first tail ends the stream -/
def catStreams : List (VL × Option LErr) → VL × Option LErr
  | [] => ([], none)
  | s :: r => catS s (catStreams r)

mutual
/-- `rec(seq)` for one element of the sequence: an iterator is opened through `limit_iterable` -/
def recV (L : Lim) : Value → VL × Option LErr
  | .iter l => recItems L L.N l
  | v => ([v], none)
/-- the items the limiter lets through (budget `b`: `none` = no limit), opened in turn -/
def recItems (L : Lim) : Option Nat → VL → VL × Option LErr
  | _, [] => ([], none)
  | some 0, _ :: _ => ([], some .tooLarge)
  | b, x :: xs => catS (recV L x) (recItems L (b.map (· - 1)) xs)
end

/-- the stream one argument of `list(...)` contributes (an ordering / a context object inside the list is
    outside the domain: "no prediction" at the point where the consumer gets there) -/
def listArgL (L : Lim) : ObjL → VL × Option LErr
  | .lazy items err =>
    let s := limitLazy L (items, err)
    catS (recItems L none s.1) ([], s.2)
  | .val v => recV L v
  | _ => ([], some (.base .outOfDomain))

/-! ## sorting -/

def errsOfL : List (Except LErr Value) → List LErr
  | [] => []
  | .error e :: r => e :: errsOfL r
  | .ok _ :: r => errsOfL r

def oksOfL : List (Except LErr Value) → VL
  | [] => []
  | .ok v :: r => v :: oksOfL r
  | .error _ :: r => oksOfL r

/-- the keys are bound to `#operator_<` / `#operator_>` (every key takes part in a comparison when there
    are two or more elements) -/
def keyQuota (c : ECfg) (L : Lim) : VL → List LErr
  | [] => []
  | k :: r =>
    match measure L (sizeofV c k) with
    | .ok _ => keyQuota c L r
    | .error e => e :: keyQuota c L r

/-- the exception a sort raises, given every exception its comparisons can raise: none; the one they all
    agree on; which of several different ones comes first depends on the sort algorithm (no prediction) -/
def sortErr : List LErr → RL (Option LErr)
  | [] => .ok none
  | e :: rest =>
    if e == .base .outOfDomain || rest.any (· != e) then .error (.base .outOfDomain) else .ok (some e)

def sortKeyedL (c : ECfg) (L : Lim) (asc : Bool) (items : VL) (keys : List (Except LErr Value)) :
    RL (VL × Option LErr) :=
  if items.length ≤ 1 then .ok (items, none)
  else do
    let r ← sortErr (errsOfL keys
      ++ (match Seq.keysComparable (oksOfL keys) with | some e => [LErr.base (Err.ofSeq e)] | none => [])
      ++ keyQuota c L (oksOfL keys))
    match r with
    | none =>
      let sorted := ((oksOfL keys).zip items).mergeSort
        (fun p q => Seq.sortLe Seq.ltT Seq.gtT [(id, asc)] p.1 q.1)
      pure (sorted.map (·.2), none)
    | some e => pure ([], some e)

def keysL (f : Value → RL Value) : VL → RL (List (Except LErr Value))
  | [] => .ok []
  | x :: xs => do let k ← capture (f x); let r ← keysL f xs; pure (k :: r)

/-! ## the evaluator -/

def evalListL (ev : EvL) (C : Ctx) : List Expr → RL VL
  | [] => .ok []
  | e :: es => do let o ← ev C e; let v ← toVL o; let vs ← evalListL ev C es; pure (v :: vs)

def evalObjsL (ev : EvL) (C : Ctx) : List Expr → RL (List ObjL)
  | [] => .ok []
  | e :: es => do let o ← ev C e; let os ← evalObjsL ev C es; pure (o :: os)

def evalPairsL (ev : EvL) (C : Ctx) : List (Expr × Expr) → RL KV
  | [] => .ok []
  | (k, v) :: r => do
    let ko ← ev C k; let kv ← toVL ko
    let vo ← ev C v; let vv ← toVL vo
    let rest ← evalPairsL ev C r
    pure ((kv, vv) :: rest)

def applyLamL (ev : EvL) (D : Ctx) (body : Expr) (args : VL) : RL ObjL :=
  ev (argFrame args [] :: D) body

def lamVL (ev : EvL) (D : Ctx) (body : Expr) (args : VL) : RL Value := do
  let o ← applyLamL ev D body args
  toVL o

def lamBL (ev : EvL) (D : Ctx) (body : Expr) (args : VL) : RL Bool := do
  let o ← applyLamL ev D body args
  pure (truthyObjL o)

def lamManyL (ev : EvL) (D : Ctx) (body : Expr) (x : Value) : RL (VL × Option LErr) := do
  let o ← applyLamL ev D body [x]
  match o with
  | .ctx _ => .error (.base .outOfDomain)
  | o =>
    match toIterL o with
    | some s => pure s
    | none => do let v ← toVL o; pure ([v], none)

/-- one item of `dict(items)`: `it = iter(t); key = next(it); value = next(it)` -/
def pairOf (it : Value) : RL (Value × Value) :=
  match it with
  | .tuple (k :: v :: _) | .list (k :: v :: _) => .ok (k, v)
  | .tuple _ | .list _ => .error (.base .stopIteration)
  | _ => .error (.base .outOfDomain)

/-- the pairs `dict(items)` reads after `acc`, with the growing dict measured after every insertion -/
def dictItemsL (c : ECfg) (L : Lim) : KV → VL → RL KV
  | _, [] => .ok []
  | acc, it :: r => do
    let p ← pairOf it
    measure L (plainDictSize c (Seq.dOfPairs (acc ++ [p])))
    let rest ← dictItemsL c L (acc ++ [p]) r
    pure (p :: rest)

/-- the common shape of a method over a collection: the receiver is type-checked when the overload is
    mapped, the other eager arguments are evaluated (`pre`), then the receiver is converted (`Iterable()`:
    measured and limited), then the remaining conversions and the payload run (`k`) -/
def withIter {β : Type} (c : ECfg) (L : Lim) (bad : Eval.Err) (r : ObjL) (pre : RL β)
    (k : β → VL × Option LErr → RL ObjL) : RL ObjL :=
  match toIterL r with
  | none => .error (.base bad)
  | some _ => do let a ← pre; let s ← bindIter c L r; k a s

/-- an `int` argument (`take`, `skip`) -/
def intArg (bad : Eval.Err) (no : ObjL) : RL Int :=
  match no with
  | .val (.int k) => .ok k
  | .val (.bool _) => .error (.base .outOfDomain)
  | _ => if isLazyL no then .error (.base .outOfDomain) else .error (.base bad)

/-- the names `unpack` is given -/
def unpackNames (ev : EvL) (C : Ctx) (bad : Eval.Err) (names : List Expr) : RL (VL × List Name) :=
  if names.any (fun a => match a with | .lit (.str _) => false | .lit _ => true | _ => false) then .error (.base bad)
  else do
    let ns ← evalListL ev C names
    let strs := ns.filterMap fun v => match v with | .str s => some s | _ => none
    if strs.length != ns.length then .error (.base bad) else pure (ns, strs)

/-- a definite exception becomes "no prediction" -/
def hideBase (x : RL α) : RL α :=
  match x with
  | .error (.base _) => .error (.base .outOfDomain)
  | y => y

/-- methods: `receiver.f(args)`; the receiver has been bound to `#operator_.` already -/
def callMethodL (c : ECfg) (L : Lim) (ev : EvL) (C : Ctx) (bad : Eval.Err) (r : ObjL) (f : Fn)
    (args : List Expr) : RL ObjL :=
  match f, args with
  | .select, [l] => withIter c L bad r (pure ()) fun _ s => do
      let t ← mapL (fun x => lamVL ev C l [x]) s.1 s.2; pure (.lazy t.1 t.2)
  | .where_, [l] => withIter c L bad r (pure ()) fun _ s => do
      let t ← filterL (fun x => lamBL ev C l [x]) s.1 s.2; pure (.lazy t.1 t.2)
  | .selectMany, [l] => withIter c L bad r (pure ()) fun _ s => do
      let t ← flatMapL (lamManyL ev C l) s.1 s.2; pure (.lazy t.1 t.2)
  | .takeWhile, [l] => withIter c L bad r (pure ()) fun _ s => do
      let t ← takeWhileL (fun x => lamBL ev C l [x]) s.1 s.2; pure (.lazy t.1 t.2)
  | .skipWhile, [l] => withIter c L bad r (pure ()) fun _ s => do
      let t ← dropWhileL (fun x => lamBL ev C l [x]) s.1 s.2; pure (.lazy t.1 t.2)
  | .orderBy, [l] => withIter c L bad r (pure ()) fun _ s =>
      match s.2 with
      | some er => pure (.ordered [] (some er))
      | none => do
        let ks ← if s.1.length ≤ 1 then pure [] else keysL (fun x => lamVL ev C l [x]) s.1
        let t ← sortKeyedL c L true s.1 ks
        pure (.ordered t.1 t.2)
  | .orderByDescending, [l] => withIter c L bad r (pure ()) fun _ s =>
      match s.2 with
      | some er => pure (.ordered [] (some er))
      | none => do
        let ks ← if s.1.length ≤ 1 then pure [] else keysL (fun x => lamVL ev C l [x]) s.1
        let t ← sortKeyedL c L false s.1 ks
        pure (.ordered t.1 t.2)
  | .any, [] => withIter c L bad r (pure ()) fun _ s => do
      let hit ← findL (fun _ => .ok true) 0 s.1 s.2; pure (.val (.bool hit.isSome))
  | .any, [l] => withIter c L bad r (pure ()) fun _ s => do
      let hit ← findL (fun x => lamBL ev C l [x]) 0 s.1 s.2; pure (.val (.bool hit.isSome))
  | .all, [] => withIter c L bad r (pure ()) fun _ s => do
      let hit ← findL (fun x => .ok (!truthy x)) 0 s.1 s.2; pure (.val (.bool hit.isNone))
  | .all, [l] => withIter c L bad r (pure ()) fun _ s => do
      let hit ← findL (fun x => do let b ← lamBL ev C l [x]; pure (!b)) 0 s.1 s.2
      pure (.val (.bool hit.isNone))
  | .indexWhere, [l] => withIter c L bad r (pure ()) fun _ s => do
      let hit ← findL (fun x => lamBL ev C l [x]) 0 s.1 s.2
      pure (.val (.int (match hit with | some i => i | none => -1)))
  | .toDict, [k] => withIter c L bad r (pure ()) fun _ s => do
      let d ← toDictL c L (fun x => lamVL ev C k [x]) (fun x => .ok x) [] s.1 s.2; pure (.val (.dict d))
  | .toDict, [k, v] => withIter c L bad r (pure ()) fun _ s => do
      let d ← toDictL c L (fun x => lamVL ev C k [x]) (fun x => lamVL ev C v [x]) [] s.1 s.2
      pure (.val (.dict d))
  | .aggregate, [l] => withIter c L bad r (pure ()) fun _ s =>
      match s.1, s.2 with
      | [], none => .error (.base .type)                -- reduce() of empty iterable with no initial value
      | [], some er => .error er
      | x :: xs, e => do let v ← foldL (fun a b => lamVL ev C l [a, b]) x xs e; pure (.val v)
  | .aggregate, [l, seed] =>
    withIter c L bad r (do let so ← ev C seed; toVL so) fun sd s => do
      measure L (sizeofV c sd)
      let v ← foldL (fun a b => lamVL ev C l [a, b]) sd s.1 s.2
      pure (.val v)
  | .sum, [] => withIter c L bad r (pure ()) fun _ s =>
      match s.1, s.2 with
      | [], none => .error (.base .type)
      | [], some er => .error er
      | x :: xs, e => do let v ← foldL (binCall c L .add) x xs e; pure (.val v)
  | .sum, [init] =>
    withIter c L bad r (do let io ← ev C init; toVL io) fun i s => do
      measure L (sizeofV c i)
      let v ← foldL (binCall c L .add) i s.1 s.2
      pure (.val v)
  | .first, [] => withIter c L bad r (pure ()) fun _ s =>
      match s.1, s.2 with
      | x :: _, _ => pure (.val x)
      | [], some er => .error er
      | [], none => .error (.base .stopIteration)
  | .first, [d] =>
    withIter c L bad r (ev C d) fun dobj s => do
      measure L (objSz c dobj)
      match s.1, s.2 with
      | x :: _, _ => pure (.val x)
      | [], some er => .error er
      | [], none => pure dobj
  | .toList, [] => withIter c L bad r (pure ()) fun _ s => do
      let xs ← drain s; pure (.val (.tuple xs))
  | .take, [n] =>
    withIter c L bad r (do let no ← ev C n; intArg bad no) fun k s => do
      measure L (sizeofV c (.int k))
      if k < 0 then .error (.base .value)
      else pure (.lazy (s.1.take k.toNat) (if k.toNat ≤ s.1.length then none else s.2))
  | .skip, [n] =>
    withIter c L bad r (do let no ← ev C n; intArg bad no) fun k s => do
      measure L (sizeofV c (.int k))
      if k < 0 then .error (.base .value)
      else pure (.lazy (s.1.drop k.toNat) s.2)
  | .len, [] =>
    match r with
    | .val (.tuple l) | .val (.list l) => do
      measure L (objSz c r)                 -- `Sequence()`: measured, not limited
      pure (.val (.int l.length))
    | .val (.iter _) | .lazy _ _ => do
      let s ← bindIter c L r                -- `Iterator()`
      let l ← drain s; pure (.val (.int l.length))
    | .val (.dict d) => do measure L (objSz c r); pure (.val (.int d.length))
    | .val (.str s) => do measure L (objSz c r); pure (.val (.int s.length))
    | .val (.set _) => .error (.base .outOfDomain)
    | _ => .error (.base bad)
  | .get, [k] =>
    match r with
    | .val (.dict d) => do
      let ko ← ev C k
      let kv ← toVL ko
      measure L (objSz c r); measure L (sizeofV c kv)
      if hashable kv then pure (.val ((Seq.dGet d kv).getD .null)) else .error (.base (keyErr kv))
    | _ => .error (.base bad)
  | .get, [k, dflt] =>
    match r with
    | .val (.dict d) => do
      let ko ← ev C k
      let kv ← toVL ko
      let dobj ← ev C dflt
      let dv ← toVL dobj
      measure L (objSz c r); measure L (sizeofV c kv); measure L (sizeofV c dv)
      if hashable kv then pure (.val ((Seq.dGet d kv).getD dv)) else .error (.base (keyErr kv))
    | _ => .error (.base bad)
  | .unpack, names =>
    withIter c L bad r (unpackNames ev C bad names) fun nm s => do
      measureEach L (nm.1.map (sizeofV c))
      let n := nm.2.length
      -- `islice(sequence, len(args) + 1)` reaches the end of a source that raises; without names
      -- `chain(lst, sequence)` consumes the rest (the limiter raises at item N + 1, a raising source raises)
      match (if n = 0 || s.1.length < n + 1 then s.2 else none) with
      | some er => .error er
      | none =>
      if n = 0 then pure (.ctx ({ vars := bindNamed [] (bindPos 1 s.1) } :: C))
      else if (s.1.take (n + 1)).length != n then .error (.base .value)
      else pure (.ctx ({ vars := bindNamed [] (nm.2.zip s.1) } :: C))
  | .let_, _ | .with_, _ | .def_, _ | .list, _ | .dict, _ => .error (.base .unknownMethod)
  | _, _ => .error (.base bad)

/-- functions: `f(args, k => v)` -/
def callFnL (c : ECfg) (L : Lim) (ev : EvL) (C : Ctx) (f : Fn) (args : List Expr) (kw : List (Expr × Expr)) :
    RL ObjL :=
  match f with
  | .let_ => do
    let names ← liftR (kwNames kw)
    let vs ← evalListL ev C args
    let kvs ← evalListL ev C (kw.map (·.2))
    measureEach L (vs.map (sizeofV c)); measureEach L (kvs.map (sizeofV c))
    pure (.ctx (argFrame vs (names.zip kvs) :: C))
  | .with_ =>
    if !kw.isEmpty then (do let _ ← liftR (kwNames kw); .error (.base .noFunction))
    else do
      let vs ← evalListL ev C args
      measureEach L (vs.map (sizeofV c))
      pure (.ctx (argFrame vs [] :: C))
  | .def_ =>
    if !kw.isEmpty then .error (.base .outOfDomain)
    else match args with
      | [nameE, body] => do
        let no ← ev C nameE
        match no with
        | .val (.str name) => do
          measure L (sizeofV c (.str name))
          pure (.ctx ({ funs := [(fnKey name, body)] } :: C))
        | o => if isLazyL o then .error (.base .outOfDomain) else .error (.base .noFunction)
      | _ => .error (.base .noFunction)
  | .list =>
    if !kw.isEmpty then .error (.base .outOfDomain)
    else do
      let os ← evalObjsL ev C args
      measureEach L (os.map (objSz c))
      -- `delegate(rec(args))`: the flattened generator is the `Iterable()` argument of `to_list`
      measure L (some (objSzOf c))
      let xs ← drain (limitLazy L (catStreams (os.map (listArgL L))))
      pure (.val (.tuple xs))
  | .dict =>
    match args, kw with
    | [], kw => do
      let ps ← evalPairsL ev C kw
      measureAll L (ps.map fun _ => some (.exact c.ruleSz))
      mkDictL ps
    | [e], [] => do
      let o ← ev C e
      match toIterL o with
      | none => .error (.base .noFunction)
      | some _ => do
        let s ← bindIter c L o
        match s.2 with
        | some (.base b) => .error (.base b)
        | some er => do
          -- the limiter will raise after these items; an ill-formed item among them raises before that, but
          -- `Eval` would look at the (unknown) end of the uncut source first: no prediction
          let _ ← hideBase (dictItemsL c L [] s.1)
          .error er
        | none => do
          let ps ← dictItemsL c L [] s.1
          mkDictL ps
    | _, _ => .error (.base .outOfDomain)
  | .len | .any | .all =>
    if !kw.isEmpty then .error (.base .outOfDomain)
    else match args with
      | [] => .error (.base .noFunction)
      | recv :: rest => do
        let arityOk := match f, rest with
          | .len, [] => true
          | .any, [] | .any, [_] | .all, [] | .all, [_] => true
          | _, _ => false
        if !arityOk then .error (.base .noFunction)
        else do let r ← ev C recv; callMethodL c L ev C .noFunction r f rest
  | _ => .error (.base .unknownFunction)

/-- the work of one node that is a function call, before `runner.call` measures its result -/
def rawL (c : ECfg) (L : Lim) (ev : EvL) (C : Ctx) : Expr → RL ObjL
  | .lit v => .ok (.val v)
  | .kw s => .ok (.val (.str s))
  | .var x => readVarL C x
  | .list es => do
    let vs ← evalListL ev C es
    measureEach L (vs.map (sizeofV c))
    measureAll L (vs.map (sizeofV c))       -- build_list: the running total of the elements
    pure (.val (.tuple vs))
  | .map kvs => do
    let ps ← evalPairsL ev C kvs
    measureAll L (ps.map fun _ => some (.exact c.ruleSz))
    mkDictL ps
  | .index e args =>
    if (args.length = 1 || args.length = 2) && !isConst e then do
      let r ← ev C e
      let vs ← evalListL ev C args
      indexerL c L r vs
    else .error (.base .noFunction)
  | .un op e => do let r ← ev C e; unopL c L op r
  | .bin .and a b => do let x ← ev C a; if truthyObjL x then ev C b else pure x
  | .bin .or a b => do let x ← ev C a; if truthyObjL x then pure x else ev C b
  | .bin op a b =>
    if litOk op a && litOk op b then do let x ← ev C a; let y ← ev C b; binopL c L op x y
    else .error (.base .noFunction)
  | .arrow l r => do
    let cx ← ev C l
    match cx with
    | .ctx C' => do measure L (objSz c cx); ev C' r
    | _ => .error (.base .noFunction)
  | .member e name => do let r ← ev C e; memberOfL c L r name
  | .call f args kw => callFnL c L ev C f args kw
  | .ucall f args kw =>
    match C.getFun (fnKey f) with
    | none => .error (.base .unknownFunction)
    | some (body, D) => do
      let names ← liftR (kwNames kw)
      let vs ← evalListL ev C args
      let kvs ← evalListL ev C (kw.map (·.2))
      -- `wrapper(*args, **kwargs)`: every argument is bound to a parameter
      measureEach L (vs.map (sizeofV c)); measureEach L (kvs.map (sizeofV c))
      ev (argFrame vs (names.zip kvs) :: D) body
  | .method e f args kw => do
    let r ← ev C e
    if !kw.isEmpty then .error (.base .outOfDomain)
    else do
      measure L (objSz c r)                  -- `#operator_.(receiver, expr)`
      callMethodL c L ev C .noMethod r f args
  | .umethod e _ => do
    let r ← ev C e
    measure L (objSz c r)
    .error (.base .unknownMethod)

/-- one layer: constants are not calls; every other node is a call whose result `runner.call` measures -/
def stepL (c : ECfg) (L : Lim) (ev : EvL) (C : Ctx) (e : Expr) : RL ObjL :=
  if isConst e then rawL c L ev C e
  else do
    let o ← rawL c L ev C e
    measure L (objSz c o)
    pure o

/-- the interpreter under limits `L` -/
def evalL (c : ECfg) (L : Lim) : Nat → EvL
  | 0 => fun _ _ => .error (.base .fuel)
  | n + 1 => stepL c L (evalL c L n)

/-! ## finalisation: `#finalize(obj)` = `convert_output_data(obj, #iter, engine)` -/

mutual
/-- below the top level: every collection is the `Iterable()` argument of one `#iter` call -/
def walkV (c : ECfg) (L : Lim) : Value → RL Unit
  | .tuple l => do measure L (some (.exact (c.sz.seqSize .tuple l.length))); limitLen L l.length; walkL c L none l
  | .list l => do measure L (some (.exact (c.sz.seqSize .list l.length))); limitLen L l.length; walkL c L none l
  | .set l => do measure L none; limitLen L l.length; walkL c L none l
  | .iter l => do measure L (some (objSzOf c)); walkL c L L.N l       -- the counting generator
  | .dict kvs => do limitLen L kvs.length; walkP c L kvs           -- `obj.items()`: an ItemsView, checked by `len`
  | _ => .ok ()
/-- the elements in order; budget `b` = how many items the limiter still lets through (`none` = all) -/
def walkL (c : ECfg) (L : Lim) : Option Nat → List Value → RL Unit
  | _, [] => .ok ()
  | some 0, _ :: _ => .error .tooLarge
  | b, x :: xs => do walkV c L x; walkL c L (b.map (· - 1)) xs
def walkP (c : ECfg) (L : Lim) : List (Value × Value) → RL Unit
  | [] => .ok ()
  | (k, v) :: r => do walkV c L k; walkV c L v; walkP c L r
end

/-- `sys.getsizeof` of the converted top-level result -/
def outSize (c : ECfg) : Value → Option Sz
  | .list xs | .tuple xs => (lookupLe c.listGrow xs.length).map fun slots => .exact (c.sz.listHdr + c.sz.ptr * slots)
  | .dict d => plainDictSize c d
  | v => sizeofV c v

/-- a limit exception of the walk and an unhashable converted key in the same result: which comes first is
    not modelled -/
def afterWalk (ok : Bool) (w : RL Unit) : RL Unit :=
  match w with
  | .ok _ => .ok ()
  | .error e => if isLim e && !ok then .error (.base .outOfDomain) else .error e

/-- the items `#iter(obj)` lets through at the top level: walked in order, then the tail of the source; the
    converted list is what `#finalize` returns (measured by `runner.call`) -/
def finIter (c : ECfg) (L : Lim) (s : VL × Option LErr) : RL Final :=
  match s.2 with
  | some (.base b) => .error (.base b)
  | tl => do
    afterWalk (Seq.finOkL s.1) (do walkL c L none s.1; match tl with | some er => .error er | none => pure ())
    if Seq.finOkL s.1 then do
      measure L (outSize c (.list s.1))
      pure (.data (.list s.1))
    else .error (.base .type)

/-- a result that is no sequence -/
def finVal (c : ECfg) (L : Lim) (v : Value) : RL Final := do
  measure L (sizeofV c v)                      -- `#finalize(obj)`
  afterWalk (Seq.finOk v) (walkV c L v)
  if Seq.finOk v then do
    measure L (outSize c v)
    pure (.data v)
  else .error (.base .type)

def finaliseL (c : ECfg) (L : Lim) (o : ObjL) : RL Final :=
  match o with
  | .ctx _ => do measure L (some (objSzOf c)); pure .context
  | o =>
    match toIterL o with
    | some _ => do
      measure L (objSz c o)                    -- `#finalize(obj)`
      let s ← bindIter c L o                   -- `#iter(obj)`
      finIter c L s
    | none =>
      match o with
      | .val v => finVal c L v
      | _ => .error (.base .outOfDomain)

/-- `engine(text).evaluate(data=doc)` with `yaql.limitIterators = L.N`, `yaql.memoryQuota = L.Q` -/
def runL (c : ECfg) (L : Lim) (fuel : Nat) (doc : Value) (e : Expr) : RL Final := do
  let o ← evalL c L fuel [{ vars := [(['$', '1'], doc)] }] e
  finaliseL c L o

end Yaql.EvalLimits
