import Yaql.Model.Lexer
import Yaql.Model.Parser
/-!
`engine(text)`: the lexer and the parser run interleaved - ply's `parse` pulls one token at a
time and feeds it to the LR automaton, so the first error in *text order* is the one raised: a
grammar error at token `k` wins over a lexical error behind it.

`lexPrefix` is `Yaql.Lexer.lexGo` that keeps the tokens read before a lexical error
(`Yaql.Props.C03.lexGo_eq_prefix`, `lexPrefix_ok`, `lexPrefixGo_err` tie the two).
-/
namespace Yaql.Parse
open Yaql.Lexer Yaql.Syntax

def consP (t : Token) (r : List Token × Option LexErr) : List Token × Option LexErr := (t :: r.1, r.2)

/-- the tokens the lexer hands out before it stops, and why it stopped (`none` = end of text) -/
def lexPrefixGo (cfg : LexCfg) : Nat → Bool → List Char → Nat → List Token × Option LexErr
  | _, _, [], _ => ([], none)
  | skip + 1, _, c :: r, pos => lexPrefixGo cfg skip (cfg.chars.isWord c) r (pos + 1)
  | 0, pw, c :: r, pos =>
      if isIgnored c then lexPrefixGo cfg 0 (cfg.chars.isWord c) r (pos + 1)
      else match ruleAt cfg pw (c :: r) pos with
        | .tok t len => consP t (lexPrefixGo cfg (len - 1) (cfg.chars.isWord c) r (pos + 1))
        | .err e => ([], some e)

def lexPrefix (cfg : LexCfg) (text : List Char) : List Token × Option LexErr :=
  lexPrefixGo cfg 0 false text 0

/-- everything `engine(text)` can end with -/
inductive Outcome where
  | ok (tree : Ast)
  /-- `YaqlLexicalException(value, position)` -/
  | lexical (value : List Char) (pos : Nat)
  /-- `YaqlGrammarException(.., position)`; `none` = unexpected end of statement -/
  | grammar (pos : Option Nat)
  /-- outside the model: the text spells a lone surrogate (see `LexErr.surrogate`) -/
  | surrogate (pos : Nat)
deriving Repr, Inhabited

def parseText (lc : LexCfg) (pc : Cfg) (text : List Char) : Outcome :=
  let (toks, stop) := lexPrefix lc text
  match run pc {} toks with
  | .error (.grammar p) => .grammar p
  | .ok st =>
      match stop with
      | some (.lexical v p) => .lexical v p
      | some (.surrogate p) => .surrogate p
      | none =>
          match finish pc st with
          | .ok t => .ok t
          | .error (.grammar p) => .grammar p

end Yaql.Parse
