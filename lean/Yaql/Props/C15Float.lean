import Yaql.Model.Scalar
import Yaql.Props.FloatRound
/-!
C15, `float(int)`: the conversion the mixed int/float operators apply to an integer operand (`Scalar.toFloat`,
CPython `PyLong_AsDouble`) is `FloatRound.roundRat i 1`, so the characteristic properties proved in
`Props/FloatRound.lean` hold for it - proved inside the model, not trusted to the platform:
exact up to 2^53, otherwise the nearest double (ties to even), `OverflowError` exactly from `2^1024 - 2^970` on, monotone.
What stays a parameter of the model (`FloatOps`): `+ - * /` on two doubles.
-/
namespace Yaql.Props.C15
open Yaql.Scalar Yaql.FloatRound Yaql.Props.FloatRound

theorem toFloat_eq_roundRat (i : Int) :
    toFloat i = match roundRat i 1 with | .ok w => .ok w | _ => .error .overflow := by
  unfold toFloat
  rw [floatOfInt_eq]
  cases roundRat i 1 <;> rfl

theorem toFloat_ok {i : Int} {w : UInt64} : toFloat i = .ok w ↔ roundRat i 1 = .ok w := by
  rw [← floatOfInt_some]
  unfold toFloat
  cases floatOfInt i <;> simp

/-- **`float(int)` is the correctly rounded conversion.**
(1) exact: an integer up to `2^53` in magnitude is converted without error (`decode w` is the integer);
(2) nearest: the value of the result is at least as near to `i` as the value of any finite double;
(3) a tie between two doubles goes to the one with the even significand (lowest bit 0);
(4) `OverflowError` exactly when `|i| ≥ 2^1024 - 2^970`, no other error;
(5) monotone: `i ≤ j` implies `float(i) ≤ float(j)`. -/
theorem float_of_int (i : Int) :
    (i.natAbs ≤ 2 ^ 53 → ∃ w, toFloat i = .ok w ∧ decode w = extOfInt i) ∧
    (∀ w, toFloat i = .ok w → ∃ z, decode w = .fin z ∧ ∀ w' z', decode w' = .fin z' →
      |(i : ℚ) - valQ z| ≤ |(i : ℚ) - valQ z'|) ∧
    (∀ w, toFloat i = .ok w → ∀ z : Int, RepU z.natAbs → z ≠ sval i 1 →
      ((scale : Int) * i - sval i 1 * (1 : Nat)).natAbs = ((scale : Int) * i - z * (1 : Nat)).natAbs → w.toNat % 2 = 0) ∧
    ((toFloat i = .error .overflow ↔ (2 ^ 1024 - 2 ^ 970 : ℚ) ≤ |(i : ℚ)|) ∧ ∀ e, toFloat i = .error e → e = .overflow) ∧
    (∀ j a b, i ≤ j → toFloat i = .ok a → toFloat j = .ok b → Ext.le (decode a) (decode b) = true) := by
  refine ⟨?_, ?_, ?_, ⟨?_, ?_⟩, ?_⟩
  · intro h
    obtain ⟨w, h1, h2⟩ := roundRat_int_small i h
    exact ⟨w, toFloat_ok.mpr h1, h2⟩
  · intro w h
    obtain ⟨z, hz, hn⟩ := roundRat_nearest i 1 w (toFloat_ok.mp h)
    refine ⟨z, hz, fun w' z' hw' => ?_⟩
    have := hn w' z' hw'
    simpa using this
  · intro w h z hz hne htie
    exact roundRat_tie_even i 1 w (toFloat_ok.mp h) z hz hne htie
  · have hov := roundRat_overflow_iff_rat i 1 (by decide)
    simp only [Nat.cast_one, div_one] at hov
    rw [← hov, toFloat_eq_roundRat]
    cases hr : roundRat i 1 with
    | ok w => simp
    | overflow neg => have := roundRat_overflow_sign hr; subst this; simp
    | zeroDen => exact absurd hr (roundRat_total _ _ (by decide))
  · intro e h
    rw [toFloat_eq_roundRat] at h
    cases hr : roundRat i 1 <;> rw [hr] at h <;> cases h <;> rfl
  · intro j a b hij ha hb
    have := roundRat_mono i j 1 1 (by decide) (by decide) (by omega)
    rw [toFloat_ok.mp ha, toFloat_ok.mp hb] at this
    exact this

-- non-vacuity / examples (tests): 2^53 + 1 is a tie and rounds to the even neighbour 2^53; 2^53 + 3 rounds up to 2^53 + 4
example : toFloat (2 ^ 53 + 1) = .ok 0x4340000000000000 ∧ toFloat (2 ^ 53 + 3) = .ok 0x4340000000000002 ∧
    toFloat (-(2 ^ 53 + 1)) = .ok 0xC340000000000000 ∧ toFloat (2 ^ 1024 - 2 ^ 970) = .error .overflow ∧
    toFloat (2 ^ 1024 - 2 ^ 970 - 1) = .ok 0x7FEFFFFFFFFFFFFF := by decide +kernel

end Yaql.Props.C15
