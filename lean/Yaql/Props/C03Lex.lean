import Yaql.Lemmas.Lexer
/-!
C03 (lexer half) - parsing is total: what the lexer model contributes.

* `nextTok_progress`: every successful `token()` call advances and stays inside the text;
* `lexical_position_inside`: a lexical error names a non-empty piece of the text at its position
  (so the position is inside the text);
* `conversions_total`: the token actions (`int()`/`float()`, `decode_escapes`) yield a value or a
  lexical error inside the token - nothing else (the one extra outcome of the MODEL, an escape that
  denotes a lone surrogate, is not an error of the real code: Lean's `Char` cannot hold the value);
* `lexFrom_step`: `lexAll`/`lexFrom` (structural recursion over the text, no fuel) is the iteration of
  `nextTok` - which needs progress.
-/
namespace Yaql.Props.C03Lex
open Yaql.Lexer Yaql.Syntax

/-- a lexical complaint about the text `l` that starts at offset `pos`: it names an offset `k` inside `l`, as
position `pos + k`, and the value reported is a non-empty piece of the text standing exactly there -/
def Inside (l : List Char) (pos : Nat) (e : LexErr) : Prop :=
  ∃ k, k < l.length ∧
    match e with
    | .lexical v p => p = pos + k ∧ v ≠ [] ∧ v <+: l.drop k
    | .surrogate p => p = pos + k

theorem Inside.drop {l : List Char} {pos : Nat} {e : LexErr} (i : Nat) (h : Inside (l.drop i) (pos + i) e) :
    Inside l pos e := by
  obtain ⟨k, hk, h⟩ := h
  rw [List.length_drop] at hk
  refine ⟨i + k, by omega, ?_⟩
  cases e with
  | lexical v p =>
      obtain ⟨hp, hv, hpre⟩ := h
      rw [List.drop_drop] at hpre
      exact ⟨by omega, hv, hpre⟩
  | surrogate p => exact h.trans (Nat.add_assoc _ _ _)

theorem Inside.shift {c : Char} {r : List Char} {pos : Nat} {e : LexErr} (h : Inside r (pos + 1) e) :
    Inside (c :: r) pos e :=
  Inside.drop 1 h

theorem Inside.append {l : List Char} {pos : Nat} {e : LexErr} (t : List Char) (h : Inside l pos e) :
    Inside (l ++ t) pos e := by
  obtain ⟨k, hk, h⟩ := h
  refine ⟨k, by rw [List.length_append]; omega, ?_⟩
  cases e with
  | lexical v p =>
      obtain ⟨hp, hv, hpre⟩ := h
      rw [List.drop_append_of_le_length (Nat.le_of_lt hk)]
      exact ⟨hp, hv, hpre.trans (List.prefix_append _ _)⟩
  | surrogate p => exact h

theorem Inside.of_drop {text : List Char} {pos p : Nat} {v : List Char} (h : Inside (text.drop pos) pos (.lexical v p)) :
    pos ≤ p ∧ p < text.length ∧ v ≠ [] ∧ v <+: text.drop p := by
  obtain ⟨k, hk, rfl, hv, hpre⟩ := h
  rw [List.length_drop] at hk
  rw [List.drop_drop] at hpre
  exact ⟨Nat.le_add_right _ _, by omega, hv, hpre⟩

/-- what the rules may answer on the text `l` at offset `pos`: a token that starts there and covers at least
one and at most all of the characters, or a complaint inside the text -/
def RuleOk (l : List Char) (pos : Nat) : Matched → Prop
  | .tok t len => t.pos = pos ∧ 1 ≤ len ∧ len ≤ l.length
  | .err e => Inside l pos e

/-- the same for a `token()` call, which may skip ignored characters first and reports where it stopped -/
def StepOk (l : List Char) (pos : Nat) : TokStep → Prop
  | .eof => True
  | .tok t next => pos ≤ t.pos ∧ t.pos < next ∧ next ≤ pos + l.length
  | .err e => Inside l pos e

theorem convNumber_spec (cfg : LexCfg) {pw : Bool} {rest : List Char} {m : NumMatch} (pos : Nat)
    (hm : matchNumber cfg.chars pw rest = some m) : RuleOk rest pos (convNumber cfg m pos) := by
  obtain ⟨h1, h2, h3, h4⟩ := matchNumber_spec cfg.chars hm
  have err : Inside rest pos (.lexical m.int pos) :=
    ⟨0, by omega, rfl, h2, by rw [List.drop_zero, h1]; exact List.takeWhile_prefix _⟩
  simp only [convNumber]
  split
  · exact ⟨rfl, h3, h4⟩
  · split
    · exact err
    · exact ⟨rfl, h3, h4⟩

theorem matchFunc_spec (cc : CharCfg) {pw : Bool} {rest w : List Char} (h : matchFunc cc pw rest = some w) :
    w.length + 1 ≤ rest.length := by
  cases rest with
  | nil => cases h
  | cons c r =>
      simp only [matchFunc] at h
      split at h
      · split at h
        · rename_i p t hd
          split at h
          · cases h
            have := length_take_drop_while cc.isWord (c :: r)
            rw [hd] at this
            simp only [List.length_cons] at this ⊢
            omega
          · cases h
        · cases h
      · cases h

theorem matchKeyword_spec (cc : CharCfg) {pw : Bool} {rest w : List Char} (h : matchKeyword cc pw rest = some w) :
    1 ≤ w.length ∧ w.length ≤ rest.length := by
  revert h
  fun_cases matchKeyword cc pw rest with
  | case1 => intro h; cases h
  | case2 => intro h; cases h
  | case3 c r hs =>
      intro h; cases h
      have hw : cc.isWord c = true := by
        simp only [identStart, Bool.and_eq_true] at hs
        exact hs.2.1
      exact ⟨by simp [hw], takeWhile_length_le _ _⟩
  | case4 => intro h; cases h

theorem firstStrRule_spec {rules : List StrRule} {rest : List Char} {sr : StrRule}
    (h : firstStrRule rules rest = some sr) : 1 ≤ sr.pat.length ∧ sr.pat.length ≤ rest.length := by
  have := List.find?_some h
  simp only [Bool.and_eq_true, Bool.not_eq_true', List.isEmpty_eq_false_iff] at this
  exact ⟨List.length_pos_iff.mpr this.1, (List.isPrefixOf_iff_prefix.mp this.2).length_le⟩

theorem consOk_error {c : Char} {r : Except LexErr (List Char)} {e : LexErr} (h : consOk c r = .error e) :
    r = .error e := by
  cases r with
  | ok l => cases h
  | error e' => exact h

theorem consTok_error {t : Token} {r : Except LexErr (List Token)} {e : LexErr} (h : consTok t r = .error e) :
    r = .error e := by
  cases r with
  | ok l => cases h
  | error e' => exact h

/-- where and what `decode_escapes` complains about: an escape text that stands in the content at the
reported offset; a surrogate report likewise lies inside -/
theorem decodeGo_error (cfg : LexCfg) (base : Nat) (l : List Char) (skip off : Nat) (e : LexErr)
    (h : decodeGo cfg base skip off l = .error e) :
    Inside l (base + off) e ∧ ∀ v p, e = .lexical v p → v.head? = some '\\' := by
  have next : ∀ {c : Char} {r : List Char} {off : Nat} {Q : Prop}, Inside r (base + (off + 1)) e ∧ Q → Inside (c :: r) (base + off) e ∧ Q :=
    fun h => ⟨h.1.shift, h.2⟩
  fun_induction decodeGo cfg base skip off l with
  | case1 => cases h
  | case2 _ _ _ _ ih => exact next (ih h)
  | case3 _ _ _ ih => exact next (ih (consOk_error h))
  | case4 _ _ _ _ _ _ ih => exact next (ih (consOk_error h))
  | case5 =>
      cases h
      exact ⟨⟨0, by simp, rfl, by simp, by simpa using List.take_prefix _ _⟩, fun v p hv => by cases hv; rfl⟩
  | case6 =>
      cases h
      exact ⟨⟨0, by simp, rfl⟩, fun v p hv => by cases hv⟩
  | case7 _ _ _ _ ih => exact next (ih (consOk_error h))

theorem quotedTok_spec (cfg : LexCfg) (q : Char) (content tail : List Char) (pos : Nat) :
    RuleOk (q :: (content ++ q :: tail)) pos (quotedTok cfg content pos) := by
  simp only [quotedTok, decodeEscapes]
  cases hd : decodeGo cfg (pos + 1) 0 0 content with
  | ok v => exact ⟨rfl, by omega, by simp⟩
  | error e => exact ((decodeGo_error cfg (pos + 1) content 0 0 e hd).1.append _).shift

theorem symbolAt_spec (cfg : LexCfg) (c : Char) (r : List Char) (pos : Nat) :
    RuleOk (c :: r) pos (symbolAt cfg c (c :: r) pos) := by
  simp only [symbolAt]
  split
  · exact ⟨rfl, firstStrRule_spec ‹_›⟩
  · split
    · exact ⟨rfl, Nat.le_refl _, by simp⟩
    · exact ⟨0, by simp, rfl, by simp, by simp⟩

theorem classifyKeyword_pos (cfg : LexCfg) (w : List Char) (pos : Nat) : (classifyKeyword cfg w pos).pos = pos := by
  fun_cases classifyKeyword cfg w pos <;> rfl

theorem ruleAt_cases {P : Matched → Prop} (cfg : LexCfg) (pw : Bool) (c : Char) (r : List Char) (pos : Nat)
    (dollar : P (.tok ⟨.dollar, .text (c :: r.takeWhile cfg.chars.isWord), pos⟩ ((r.takeWhile cfg.chars.isWord).length + 1)))
    (number : ∀ m, matchNumber cfg.chars pw (c :: r) = some m → P (convNumber cfg m pos))
    (func : ∀ w, matchFunc cfg.chars pw (c :: r) = some w → P (.tok ⟨.func, .text w, pos⟩ (w.length + 1)))
    (keyword : ∀ w, matchKeyword cfg.chars pw (c :: r) = some w → P (.tok (classifyKeyword cfg w pos) w.length))
    (quoted : ∀ s, scanStr c r = some s → P (quotedTok cfg s pos))
    (backquoted : ∀ s, scanStr c r = some s →
      P (.tok ⟨.quoted, .text (unescapeBackquote s), pos⟩ (s.length + 2)))
    (symbol : P (symbolAt cfg c (c :: r) pos)) :
    P (ruleAt cfg pw (c :: r) pos) := by
  simp only [ruleAt]
  split
  · exact dollar
  · split
    · exact number _ ‹_›
    · split
      · exact func _ ‹_›
      · split
        · exact keyword _ ‹_›
        · split
          · rename_i s hs
            split at hs
            · exact quoted s hs
            · cases hs
          · split
            · rename_i s hs
              split at hs
              · exact backquoted s hs
              · cases hs
            · exact symbol

theorem ruleAt_spec (cfg : LexCfg) (pw : Bool) (c : Char) (r : List Char) (pos : Nat) :
    RuleOk (c :: r) pos (ruleAt cfg pw (c :: r) pos) := by
  have str : ∀ s, scanStr c r = some s → s.length + 2 ≤ (c :: r).length := by
    intro s hs
    obtain ⟨_, tail, rfl⟩ := scanStr_spec c r s hs
    simp
  refine ruleAt_cases cfg pw c r pos ?_ ?_ ?_ ?_ ?_ ?_ ?_
  · exact ⟨rfl, Nat.le_add_left _ _, Nat.succ_le_succ (takeWhile_length_le _ r)⟩
  · exact fun m hm => convNumber_spec cfg pos hm
  · exact fun w hw => ⟨rfl, Nat.le_add_left _ _, matchFunc_spec cfg.chars hw⟩
  · exact fun w hw => ⟨classifyKeyword_pos cfg w pos, matchKeyword_spec cfg.chars hw⟩
  · intro s hs
    obtain ⟨_, tail, rfl⟩ := scanStr_spec c r s hs
    exact quotedTok_spec cfg c s tail pos
  · exact fun s hs => ⟨rfl, Nat.le_add_left _ _, str s hs⟩
  · exact symbolAt_spec cfg c r pos

theorem StepOk.shift {c : Char} {r : List Char} {pos : Nat} : ∀ {s : TokStep}, StepOk r (pos + 1) s → StepOk (c :: r) pos s
  | .eof, _ => trivial
  | .tok _ _, ⟨h1, h2, h3⟩ => ⟨Nat.le_of_succ_le h1, h2, by rw [List.length_cons]; omega⟩
  | .err _, h => Inside.shift h

theorem scanTok_spec (cfg : LexCfg) : ∀ (l : List Char) (pw : Bool) (pos : Nat), StepOk l pos (scanTok cfg pw l pos)
  | [], _, _ => trivial
  | c :: r, pw, pos => by
      simp only [scanTok]
      split
      · exact (scanTok_spec cfg r _ (pos + 1)).shift
      · have hr := ruleAt_spec cfg pw c r pos
        generalize ruleAt cfg pw (c :: r) pos = m at hr
        cases m with
        | tok t len =>
            obtain ⟨hp, h1, h2⟩ := hr
            exact ⟨by omega, by omega, by omega⟩
        | err e => exact hr

/-- a `token()` call that returns a token has moved `lexpos` forward, not beyond
the end of the text, and the token starts at or after the old and before the new `lexpos`. -/
theorem nextTok_progress (cfg : LexCfg) (text : List Char) (pos : Nat) {t : Token} {next : Nat}
    (h : nextTok cfg text pos = .tok t next) :
    pos < next ∧ next ≤ text.length ∧ pos ≤ t.pos ∧ t.pos < next := by
  have hs := scanTok_spec cfg (text.drop pos) (prevWord cfg text pos) pos
  rw [show scanTok cfg _ _ pos = .tok t next from h] at hs
  obtain ⟨h1, h2, h3⟩ := hs
  rw [List.length_drop] at h3
  exact ⟨by omega, by omega, h1, h2⟩

/-- a lexical error raised by a `token()` call reports a position at or after
`lexpos` and inside the text, and its value is a non-empty piece of the text standing exactly at that
position (for `t_error`: the one offending character; for a numeral beyond the digit limit: the numeral,
at the token start; for an ill-formed escape: the escape text, inside its string token). -/
theorem lexical_position_inside (cfg : LexCfg) (text : List Char) (pos : Nat) {v : List Char} {p : Nat}
    (h : nextTok cfg text pos = .err (.lexical v p)) :
    pos ≤ p ∧ p < text.length ∧ v ≠ [] ∧ v <+: text.drop p := by
  have hs := scanTok_spec cfg (text.drop pos) (prevWord cfg text pos) pos
  rw [show scanTok cfg _ _ pos = .err (.lexical v p) from h] at hs
  exact Inside.of_drop hs

/-- the same for a whole text (`lexAll`): wherever the lexer stops, the complaint is inside the text -/
theorem lexGo_error_inside (cfg : LexCfg) (l : List Char) (k : Nat) (pw : Bool) (pos : Nat) (e : LexErr)
    (h : lexGo cfg k pw l pos = .error e) : Inside l pos e := by
  fun_induction lexGo cfg k pw l pos with
  | case1 => cases h
  | case2 _ _ _ _ _ ih => exact (ih h).shift
  | case3 _ _ _ _ _ ih => exact (ih h).shift
  | case4 _ _ _ _ _ _ _ _ ih => exact (ih (consTok_error h)).shift
  | case5 pw c r pos _ e' hr =>
      cases h
      have := ruleAt_spec cfg pw c r pos
      rwa [hr] at this

theorem lexAll_error_inside (cfg : LexCfg) (text : List Char) {v : List Char} {p : Nat}
    (h : lexAll cfg text = .error (.lexical v p)) :
    p < text.length ∧ v ≠ [] ∧ v <+: text.drop p :=
  (Inside.of_drop (text := text) (pos := 0) (lexGo_error_inside cfg text 0 false 0 _ h)).2

/-- the two conversions done inside token actions have no third outcome.
(1) For every text the NUMBER rule matches: an integer (no dot, within the digit limit), a float (dot), or -
exactly when there is no dot and the digit limit is exceeded - the lexical error `(numeral, token start)`.
(2) For every content of a single- or double-quoted token: the decoded string, or a lexical error whose value is an
escape text (it starts with a backslash) standing in the content at the reported position, or - model only -
the report that an escape inside the content denotes a lone surrogate. -/
theorem conversions_total (cfg : LexCfg) :
    (∀ (m : NumMatch) (pos : Nat),
      (m.frac = none ∧ ¬ (cfg.maxDigits ≠ 0 ∧ cfg.maxDigits < m.int.length) ∧
        convNumber cfg m pos = .tok ⟨.number, .int (digitsVal cfg.chars m.int), pos⟩ m.len) ∨
      (∃ d2, m.frac = some d2 ∧
        convNumber cfg m pos =
          .tok ⟨.number, .flt (asciiDigits cfg.chars m.int ++ '.' :: asciiDigits cfg.chars d2)
            (literalFloat cfg.chars m.int d2), pos⟩ m.len) ∨
      (m.frac = none ∧ cfg.maxDigits ≠ 0 ∧ cfg.maxDigits < m.int.length ∧
        convNumber cfg m pos = .err (.lexical m.int pos))) ∧
    (∀ (content : List Char) (pos : Nat),
      (∃ v, decodeEscapes cfg content pos = .ok v) ∨
      (∃ k e, decodeEscapes cfg content pos = .error (.lexical e (pos + k)) ∧ k < content.length ∧
        e.head? = some '\\' ∧ e <+: content.drop k) ∨
      (∃ k, decodeEscapes cfg content pos = .error (.surrogate (pos + k)) ∧ k < content.length)) := by
  constructor
  · intro m pos
    unfold convNumber
    split
    · exact Or.inr (Or.inl ⟨_, ‹_›, rfl⟩)
    · split
      · rename_i hl
        simp only [Bool.and_eq_true, bne_iff_ne, decide_eq_true_eq] at hl
        exact Or.inr (Or.inr ⟨‹_›, hl.1, hl.2, rfl⟩)
      · rename_i hl
        simp only [Bool.and_eq_true, bne_iff_ne, decide_eq_true_eq] at hl
        exact Or.inl ⟨‹_›, hl, rfl⟩
  · intro content pos
    simp only [decodeEscapes]
    cases hd : decodeGo cfg pos 0 0 content with
    | ok v => exact Or.inl ⟨v, rfl⟩
    | error e =>
        obtain ⟨⟨k, hk, hi⟩, hh⟩ := decodeGo_error cfg pos content 0 0 e hd
        cases e with
        | lexical v p =>
            obtain ⟨rfl, _, hpre⟩ := hi
            exact Or.inr (Or.inl ⟨k, v, rfl, hk, hh v _ rfl, hpre⟩)
        | surrogate p =>
            obtain rfl : p = pos + 0 + k := hi
            exact Or.inr (Or.inr ⟨k, rfl, hk⟩)

/-! ## `lexAll` is the iteration of `token()` -/

theorem drop_cons_prevWord (cfg : LexCfg) {text : List Char} {pos : Nat} {c : Char} {r : List Char}
    (h : text.drop pos = c :: r) :
    r = text.drop (pos + 1) ∧ prevWord cfg text (pos + 1) = cfg.chars.isWord c ∧ pos < text.length := by
  have hlt : pos < text.length := by
    cases Nat.lt_or_ge pos text.length with
    | inl h' => exact h'
    | inr h' => rw [List.drop_eq_nil_of_le h'] at h; cases h
  rw [List.drop_eq_getElem_cons hlt] at h
  cases h
  exact ⟨rfl, by simp [prevWord, hlt], hlt⟩

/-- with `k` characters of the last token still to skip the lexer is where `lexFrom` starts `k` characters on -/
theorem lexGo_drop (cfg : LexCfg) (text : List Char) : ∀ (k pos : Nat) (pw : Bool), (k = 0 → pw = prevWord cfg text pos) →
    lexGo cfg k pw (text.drop pos) pos = lexFrom cfg text (pos + k)
  | 0, pos, pw, h => by rw [h rfl]; rfl
  | k + 1, pos, pw, _ => by
      cases hd : text.drop pos with
      | nil =>
          have : text.drop (pos + (k + 1)) = [] := by
            rw [← List.drop_drop, hd, List.drop_nil]
          simp [lexFrom, lexGo, this]
      | cons c r =>
          obtain ⟨rfl, hpw, _⟩ := drop_cons_prevWord cfg hd
          rw [lexGo, lexGo_drop cfg text k (pos + 1) _ (fun _ => hpw.symm), Nat.add_assoc, Nat.add_comm 1 k]

/-- the token list from a position on is: nothing at the end of the text, the
error of the next `token()` call, or its token followed by the token list from where that call stopped.
`lexFrom`/`lexAll` are defined by structural recursion over the text (Lean accepts them without fuel and
without a termination proof obligation), so this equation - whose recursive occurrence is at the strictly
larger position `next` (`nextTok_progress`) - characterises them as the iteration of `token()`. -/
theorem lexFrom_step (cfg : LexCfg) (text : List Char) (pos : Nat) :
    lexFrom cfg text pos =
      match nextTok cfg text pos with
      | .eof => .ok []
      | .tok t next => consTok t (lexFrom cfg text next)
      | .err e => .error e := by
  simp only [lexFrom, nextTok]
  cases hd : text.drop pos with
  | nil => simp [lexGo, scanTok]
  | cons c r =>
      obtain ⟨rfl, hpw, hlt⟩ := drop_cons_prevWord cfg hd
      simp only [lexGo, scanTok]
      split
      ·
        rw [← hpw]
        exact lexFrom_step cfg text (pos + 1)
      · have hr := ruleAt_spec cfg (prevWord cfg text pos) c (text.drop (pos + 1)) pos
        cases hm : ruleAt cfg (prevWord cfg text pos) (c :: text.drop (pos + 1)) pos with
        | err e => rfl
        | tok t len =>
            rw [hm] at hr
            simp only
            rw [lexGo_drop cfg text (len - 1) (pos + 1) _ (fun _ => hpw.symm),
              show pos + 1 + (len - 1) = pos + len by have := hr.2.1; omega]
            rfl
termination_by text.length - pos
decreasing_by omega

theorem lexAll_eq_lexFrom (cfg : LexCfg) (text : List Char) : lexAll cfg text = lexFrom cfg text 0 := rfl

/-- the number of `token()` calls is bounded by the length of the text: `next` strictly grows and never
exceeds the length (a direct consequence of progress) -/
theorem calls_bounded (cfg : LexCfg) (text : List Char) (pos : Nat) {t : Token} {next : Nat}
    (h : nextTok cfg text pos = .tok t next) : text.length - next < text.length - pos := by
  have := nextTok_progress cfg text pos h
  omega

/-! ## the hypotheses are satisfiable: concrete calls on the ASCII configuration -/

-- `a +` from offset 1: the blank is skipped, `+` is the token, `lexpos` moves from 1 to 3
example : nextTok asciiCfg ['a', ' ', '+'] 1 = .tok ⟨.op ['+'], .text ['+'], 2⟩ 3 := by rw [asciiCfg_eq]; decide +kernel
-- from the middle of a word nothing matches: `\b` looks behind `lexpos`
example : nextTok asciiCfg ['a', 'b'] 1 = .err (.lexical ['b'] 1) := by rw [asciiCfg_eq]; decide +kernel
-- an ill-formed escape: reported with its text, at its own position inside the token
example : nextTok asciiCfg ['x', ' ', '"', 'a', '\\', 'U', '0', '0', '1', '1', '0', '0', '0', '0', '"'] 1 =
    .err (.lexical ['\\', 'U', '0', '0', '1', '1', '0', '0', '0', '0'] 4) := by decide +kernel
example : nextTok asciiCfg ['a'] 1 = .eof := by decide +kernel
example : lexFrom asciiCfg ['a', ' ', '+'] 1 = .ok [⟨.op ['+'], .text ['+'], 2⟩] := by rw [asciiCfg_eq]; decide +kernel
-- a numeral beyond the digit limit (limit 3 here)
example : lexAll { asciiCfg with maxDigits := 3 } ['1', '2', '3', '4'] = .error (.lexical ['1', '2', '3', '4'] 0) := by
  decide +kernel

end Yaql.Props.C03Lex
