import Yaql.Model.Eval
/-!
# C04 - core evaluation semantics follow the language reference

Theorems about the reference interpreter `Yaql.Eval.eval` (`Model/Eval.lean`).  All of them hold
for **every** expression, context, document and amount of fuel.

| theorem | says |
|---|---|
| `frame`, `frame_root` | a context handed back by an evaluation started in `C` is new frames on top of `C` or of an ancestor of `C` (pre-existing frames occur unmodified); nothing else leaves an evaluation |
| `sibling_independence` | in `[e1, e2]` the second element is evaluated in the unchanged context, whatever `e1` bound |
| `no_leak_arg`, `no_leak_lambda`, `no_leak_callee` | the same for operands / arguments, for the stages of a method chain, for the caller of a `def`-ined function |
| `shadowing`, `shadowing_let` | lookup returns the nearest binding |
| `unknown_null` | a name nobody binds is null |
| `dollar_alias` | `$`, `$1`, the empty name (and `1`) are one variable |
| `lambda_binds_innermost`, `lambda_dollar`, `get_argFrame`, `with_numbering` | in a lambda body `$k` is the k-th argument of the innermost application, whatever is bound outside |
| `closure_lexical`, `closure_lexical_args`, `ucall_eq` | a `def`-ined function called from any later context gives what it gives in the context it was defined in |
| `member_maps`, `member_elementwise`, `memberV_dict`, `memberV_nested` | `coll.name` = `coll.select($.name)`; each element is projected by its own kind, whatever its neighbours are |
| `fuel_mono` | more fuel never changes a definite outcome |
| `empty_frame_invisible` | a frame that binds nothing cannot be observed (why the model may elide the call frames of pure builtins) |
| `let_names_verbatim`, `let_other_name`, `kwarg_names_verbatim`, `def_names_verbatim` | names are data: a binding is visible exactly under its own normal form |
| `def_call_own_args`, `def_call_pure`, `def_calls_independent`, `def_then_call` | a call of a `def`-ined function is the body on the argument VALUES of that call: equal values give equal results, and nothing of an earlier call (its arguments, its result) occurs in a later one |
| `def_identity_faithful`, `def_identity_injective` | arguments are handed over as they are: `1`, `true`, `1.0` stay three values |
| `host_var_visible`, `host_var_topmost`, `doc_position_irrelevant`, `dollar_from_any_depth` | a variable bound at any depth of the host's context chain is read from every scope of the program; where in the chain `$` is bound makes no difference |
| `toDict_by_keyword`, `lambda_by_keyword`, `select_by_keyword`, `noOverload_raises`, `positional_id` | an argument of a builtin method passed by keyword is that argument at the position of its parameter; a keyword that names no parameter matches no overload; a program without keyword arguments is evaluated as it is |

## For the properties that build on this (C09 context clause, C18)

**No evaluation returns a modified version of a pre-existing context.**  In this model a context
is an immutable value `Ctx = List Frame`; `eval : Nat -> Ctx -> Expr -> Except Err Obj` receives the
calling context as an argument and has no store to write to.  The only way a context can leave an
evaluation is as the result `Obj.ctx C'`, and `frame` shows `C'` shares a non-empty suffix of whole
frames with the context the evaluation started in: everything that existed before is still there,
unchanged; writes are new frames on top.  Every sub-evaluation that follows (sibling elements,
later arguments, the continuation of a method chain, the caller after a call returns) is handed the
caller's own context value again (`sibling_independence`, `no_leak_*`).  That the Python objects
behave like these values - that no code path writes into a context object after it has been handed
out - is what the differential run of `harness/props/c04.py` checks on the real engine.
-/
namespace Yaql.Props.C04
open Yaql Yaql.Eval
open Yaql.Context (normName alookup aset)

/-! ## stability under more fuel

Results are ordered flatly with "out of fuel" at the bottom: `x ⊑ y` iff `x` ran out of fuel or `y = x`.
`Err.fuel` is never captured, so every construct of the evaluator is monotone in the knot `ev`
(`monotonicity` composes the lemmas below along the definitions), and `eval n ⊑ eval (n + 1)`. -/

section fuel
open Lean.Order

scoped instance : PartialOrder (R α) := inferInstanceAs (PartialOrder (FlatOrder (.error .fuel)))

theorem le_cases {x y : R α} (h : x ⊑ y) : x = .error .fuel ∨ x = y := by
  cases h
  · exact .inl rfl
  · exact .inr rfl

scoped instance : MonoBind R where
  bind_mono_left h := by
    rcases le_cases h with rfl | rfl
    · exact .bot
    · exact .refl
  bind_mono_right {_ _ a _ _} h := by
    cases a
    · exact .refl
    · exact h _

variable {γ : Type} [PartialOrder γ]

@[partial_fixpoint_monotone]
theorem monotone_capture (f : γ → R α) (hf : monotone f) : monotone fun c => capture (f c) := by
  intro c c' h
  show capture (f c) ⊑ capture (f c')
  rcases le_cases (hf c c' h) with h | h
  · rw [h]; exact .bot
  · exact h ▸ .refl

@[partial_fixpoint_monotone]
theorem monotone_mapL (f : γ → Value → R Value) (hf : monotone f) (xs : VL) (e : Option Err) :
    monotone fun c => mapL (f c) xs e :=
  monotone_compose hf (g := fun f => mapL f xs e) <| by
    induction xs with
    | nil => exact monotone_const _
    | cons x xs ih => unfold mapL; repeat' first | assumption | monotonicity

@[partial_fixpoint_monotone]
theorem monotone_filterL (f : γ → Value → R Bool) (hf : monotone f) (xs : VL) (e : Option Err) :
    monotone fun c => filterL (f c) xs e :=
  monotone_compose hf (g := fun f => filterL f xs e) <| by
    induction xs with
    | nil => exact monotone_const _
    | cons x xs ih => unfold filterL; repeat' first | assumption | monotonicity

@[partial_fixpoint_monotone]
theorem monotone_flatMapL (f : γ → Value → R (VL × Option Err)) (hf : monotone f) (xs : VL) (e : Option Err) :
    monotone fun c => flatMapL (f c) xs e :=
  monotone_compose hf (g := fun f => flatMapL f xs e) <| by
    induction xs with
    | nil => exact monotone_const _
    | cons x xs ih => unfold flatMapL; repeat' first | assumption | monotonicity

@[partial_fixpoint_monotone]
theorem monotone_takeWhileL (f : γ → Value → R Bool) (hf : monotone f) (xs : VL) (e : Option Err) :
    monotone fun c => takeWhileL (f c) xs e :=
  monotone_compose hf (g := fun f => takeWhileL f xs e) <| by
    induction xs with
    | nil => exact monotone_const _
    | cons x xs ih => unfold takeWhileL; repeat' first | assumption | monotonicity

@[partial_fixpoint_monotone]
theorem monotone_dropWhileL (f : γ → Value → R Bool) (hf : monotone f) (xs : VL) (e : Option Err) :
    monotone fun c => dropWhileL (f c) xs e :=
  monotone_compose hf (g := fun f => dropWhileL f xs e) <| by
    induction xs with
    | nil => exact monotone_const _
    | cons x xs ih => unfold dropWhileL; repeat' first | assumption | monotonicity

@[partial_fixpoint_monotone]
theorem monotone_keysL (f : γ → Value → R Value) (hf : monotone f) (xs : VL) : monotone fun c => keysL (f c) xs :=
  monotone_compose hf (g := fun f => keysL f xs) <| by
    induction xs with
    | nil => exact monotone_const _
    | cons x xs ih => unfold keysL; repeat' first | assumption | monotonicity

@[partial_fixpoint_monotone]
theorem monotone_findL (f : γ → Value → R Bool) (hf : monotone f) (i : Nat) (xs : VL) (e : Option Err) :
    monotone fun c => findL (f c) i xs e :=
  monotone_compose hf (g := fun f => findL f i xs e) <| by
    induction xs generalizing i with
    | nil => cases e <;> exact monotone_const _
    | cons x xs ih => unfold findL; repeat' first | apply ih | monotonicity

@[partial_fixpoint_monotone]
theorem monotone_foldL (f : γ → Value → Value → R Value) (hf : monotone f) (acc : Value) (xs : VL) (e : Option Err) :
    monotone fun c => foldL (f c) acc xs e :=
  monotone_compose hf (g := fun f => foldL f acc xs e) <| by
    induction xs generalizing acc with
    | nil => cases e <;> exact monotone_const _
    | cons x xs ih => unfold foldL; repeat' first | apply ih | monotonicity

@[partial_fixpoint_monotone]
theorem monotone_toDictL (kf vf : γ → Value → R Value) (hk : monotone kf) (hv : monotone vf) (acc : KV) (xs : VL)
    (e : Option Err) : monotone fun c => toDictL (kf c) (vf c) acc xs e := by
  induction xs generalizing acc with
  | nil => cases e <;> exact monotone_const _
  | cons x xs ih =>
    have := monotone_apply x kf hk
    have := monotone_apply x vf hv
    unfold toDictL
    repeat' first | assumption | apply ih | monotonicity

@[partial_fixpoint_monotone]
theorem monotone_evalList (f : γ → Ev) (hf : monotone f) (C : Ctx) (es : List Expr) :
    monotone fun c => evalList (f c) C es :=
  monotone_compose hf (g := fun ev => evalList ev C es) <| by
    induction es with
    | nil => exact monotone_const _
    | cons e es ih => unfold evalList; repeat' first | assumption | monotonicity

@[partial_fixpoint_monotone]
theorem monotone_evalObjs (f : γ → Ev) (hf : monotone f) (C : Ctx) (es : List Expr) :
    monotone fun c => evalObjs (f c) C es :=
  monotone_compose hf (g := fun ev => evalObjs ev C es) <| by
    induction es with
    | nil => exact monotone_const _
    | cons e es ih => unfold evalObjs; repeat' first | assumption | monotonicity

@[partial_fixpoint_monotone]
theorem monotone_evalPairs (f : γ → Ev) (hf : monotone f) (C : Ctx) (ps : List (Expr × Expr)) :
    monotone fun c => evalPairs (f c) C ps :=
  monotone_compose hf (g := fun ev => evalPairs ev C ps) <| by
    induction ps with
    | nil => exact monotone_const _
    | cons p ps ih => unfold evalPairs; repeat' first | assumption | monotonicity

@[partial_fixpoint_monotone]
theorem monotone_callMethod (g : γ → Ev) (hg : monotone g) (C : Ctx) (bad : Err) (r : Obj) (f : Fn) (args : List Expr) :
    monotone fun c => callMethod (g c) C bad r f args :=
  monotone_compose hg (g := fun ev => callMethod ev C bad r f args) <| by unfold callMethod lamV lamB lamMany applyLam; repeat' monotonicity

@[partial_fixpoint_monotone]
theorem monotone_callFn (g : γ → Ev) (hg : monotone g) (C : Ctx) (f : Fn) (args : List Expr) (kw : List (Expr × Expr)) :
    monotone fun c => callFn (g c) C f args kw :=
  monotone_compose hg (g := fun ev => callFn ev C f args kw) <| by unfold callFn; repeat' monotonicity

theorem monotone_step : monotone step := by
  apply monotone_of_monotone_apply; intro C
  apply monotone_of_monotone_apply; intro e
  unfold step
  repeat' monotonicity

theorem eval_succ_le : ∀ n, eval n ⊑ eval (n + 1)
  | 0 => fun _ _ => .bot
  | n + 1 => monotone_step _ _ (eval_succ_le n)

theorem eval_le {n m : Nat} (h : n ≤ m) : eval n ⊑ eval m := by
  induction h with
  | refl => exact PartialOrder.rel_refl
  | step _ ih => exact PartialOrder.rel_trans ih (eval_succ_le _)

end fuel

/-- more fuel never changes a definite outcome (a value or an exception other than "out of fuel") -/
theorem fuel_mono {n m : Nat} (h : n ≤ m) (C : Ctx) (e : Expr) (r : R Obj)
    (hr : eval n C e = r) (hne : r ≠ .error .fuel) : eval m C e = r := by
  subst hr
  exact ((le_cases (eval_le h C e)).resolve_left hne).symm

-- `stable_step h`: one step of a walk through `callMethod` / `callFn` / `step` - the rule for the head of the goal
/-- one step of a compositional stability proof -/
macro "stable_step" h:ident : tactic => `(tactic| first
  | exact Stable.refl _
  | exact $h _ _
  | exact lamV_stable $h _ _ _
  | exact lamB_stable $h _ _ _
  | exact lamMany_stable $h _ _ _
  | exact evalList_stable $h _ _
  | exact evalObjs_stable $h _ _
  | exact evalPairs_stable $h _ _
  | apply mapL_stable
  | apply filterL_stable
  | apply flatMapL_stable
  | apply takeWhileL_stable
  | apply dropWhileL_stable
  | apply findL_stable
  | apply foldL_stable
  | apply toDictL_stable
  | apply keysL_stable
  | apply Stable.bind
  | intro _
  | split)

theorem eval_succ (n : Nat) : eval (n + 1) = step (eval n) := rfl

theorem eval_var (n : Nat) (C : Ctx) (x : Name) : eval (n + 1) C (.var x) = readVar C x := rfl

theorem readVar_of_get {C : Ctx} {x : Name} {v : Value} (h : C.get x = some v) (hi : hasIter v = false) :
    readVar C x = .ok (.val v) := by
  simp only [readVar, h, hi, Bool.false_eq_true, if_false]

theorem step_bin_strict (ev : Ev) (C : Ctx) {op : BinOp} (h1 : op ≠ .and) (h2 : op ≠ .or) (a b : Expr) :
    step ev C (.bin op a b) =
      if litOk op a && litOk op b then do let x ← ev C a; let y ← ev C b; binop op x y else .error .noFunction := by
  cases op <;> first | rfl | contradiction

@[simp] theorem ok_bind (a : α) (f : α → R β) : (Except.ok a >>= f) = f a := rfl
@[simp] theorem error_bind (e : Err) (f : α → R β) : ((Except.error e : R α) >>= f) = .error e := rfl
@[simp] theorem pure_eq (a : α) : (pure a : R α) = .ok a := rfl

/-! ## variables -/

/-- the lookup sees a name only through its normal form -/
theorem get_congr {x y : Name} (h : normName x = normName y) : ∀ C : Ctx, C.get x = C.get y
  | [] => rfl
  | F :: C => by simp only [Ctx.get, h, get_congr h C]

theorem eval_var_congr {x y : Name} (h : normName x = normName y) : ∀ (n : Nat) (C : Ctx),
    eval n C (.var x) = eval n C (.var y)
  | 0, _ => rfl
  | n + 1, C => by simp only [eval_var, readVar, get_congr h C]

/-- a context that binds nothing is invisible: the frames the model does not push
    (call contexts of pure builtins, of `#operator_.`) cannot be observed -/
theorem empty_frame_invisible (C : Ctx) (x : Name) : Ctx.get ({} :: C) x = Ctx.get C x := rfl

theorem get_append (A B : Ctx) (x : Name) : Ctx.get (A ++ B) x = (Ctx.get A x).or (Ctx.get B x) := by
  induction A with
  | nil => rfl
  | cons G A ih =>
    simp only [List.cons_append, Ctx.get, ih]
    cases alookup (normName x) G.vars <;> rfl

theorem get_eq_none {C : Ctx} {x : Name} (h : ∀ G ∈ C, alookup (normName x) G.vars = none) : C.get x = none := by
  induction C with
  | nil => rfl
  | cons G C ih =>
    rw [List.forall_mem_cons] at h
    simp only [Ctx.get, h.1, ih h.2]

/-- lookup returns the nearest binding: frames that do not bind the name are skipped, the first
    one that does answers, whatever the frames behind it say -/
theorem shadowing (pre : Ctx) (F : Frame) (C : Ctx) (x : Name) (v : Value)
    (hpre : ∀ G ∈ pre, alookup (normName x) G.vars = none)
    (hF : alookup (normName x) F.vars = some v) :
    Ctx.get (pre ++ F :: C) x = some v := by
  simp [get_append, get_eq_none hpre, Ctx.get, hF]

/-- a name no frame binds is null -/
theorem unknown_null (n : Nat) (C : Ctx) (x : Name) (h : ∀ G ∈ C, alookup (normName x) G.vars = none) :
    eval (n + 1) C (.var x) = .ok (.val .null) := by
  rw [eval_var, readVar, get_eq_none h]

/-- `$`, `$1`, the empty name and `1` are one variable -/
theorem dollar_alias (n : Nat) (C : Ctx) :
    eval n C (.var ['$']) = eval n C (.var ['$', '1']) ∧
    eval n C (.var []) = eval n C (.var ['$', '1']) ∧
    eval n C (.var ['1']) = eval n C (.var ['$', '1']) :=
  ⟨eval_var_congr (by rfl) n C, eval_var_congr (by rfl) n C, eval_var_congr (by rfl) n C⟩

/-! ## lambda parameters -/

def argName (k : Nat) : Name := '$' :: Nat.toDigits 10 k

theorem argName_inj {a b : Nat} (h : argName a = argName b) : a = b := by
  have := congrArg (fun l => Nat.ofDigitChars 10 l.tail 0) h
  simpa [argName, Nat.ofDigitChars_ten_toDigits] using this

theorem normName_argName (k : Nat) : normName (argName k) = argName k := by
  unfold argName normName
  have hne : Nat.toDigits 10 k ≠ [] := Nat.toDigits_ne_nil
  cases hd : Nat.toDigits 10 k with
  | nil => exact absurd hd hne
  | cons c cs => simp

theorem alookup_bindPos : ∀ (args : VL) (i k : Nat) (h : k < args.length),
    alookup (argName (i + k)) (bindPos i args) = some args[k]
  | v :: vs, i, 0, _ => by simp [bindPos, alookup, argName]
  | v :: vs, i, k + 1, h => by
    have hne : ('$' :: Nat.toDigits 10 i == argName (i + (k + 1))) = false :=
      beq_false_of_ne fun e => by have := argName_inj (a := i) e; omega
    have ih := alookup_bindPos vs (i + 1) k (by simpa using h)
    rw [show i + 1 + k = i + (k + 1) by omega] at ih
    simpa [bindPos, alookup, hne] using ih

/-- the frame of an application / of `with` / of a positional `let` binds `$k` to the k-th value -/
theorem get_argFrame (D : Ctx) (args : VL) (k : Nat) (h : k < args.length) :
    Ctx.get (argFrame args [] :: D) (argName (k + 1)) = some args[k] := by
  have hl := alookup_bindPos args 1 k h
  rw [Nat.add_comm] at hl
  simp [Ctx.get, argFrame, bindNamed, normName_argName, hl]

/-- inside a lambda body `$k` is the k-th argument of the innermost application, whatever the
    defining context `D` (outer lambdas, `let`s, the document) binds -/
theorem lambda_binds_innermost (n : Nat) (D : Ctx) (args : VL) (k : Nat) (h : k < args.length)
    (hi : hasIter args[k] = false) :
    applyLam (eval (n + 1)) D (.var (argName (k + 1))) args = .ok (.val args[k]) :=
  readVar_of_get (get_argFrame D args k h) hi

/-- ... and `$` is the first one -/
theorem lambda_dollar (n : Nat) (D : Ctx) (a : Value) (as : VL) (hi : hasIter a = false) :
    applyLam (eval (n + 1)) D (.var ['$']) (a :: as) = .ok (.val a) :=
  readVar_of_get (C := argFrame (a :: as) [] :: D) (x := ['$']) rfl hi

example : applyLam (eval 1) [{ vars := [(['$', '1'], .int 7), (['$', '2'], .int 8)] }] (.var ['$', '2'])
    [.int 1, .int 2, .int 3] = .ok (.val (.int 2)) := rfl

/-! ## closures -/

theorem getFun_append (ext D : Ctx) (f : Name) (h : ∀ G ∈ ext, alookup f G.funs = none) :
    (Ctx.getFun (ext ++ D) f) = Ctx.getFun D f := by
  induction ext with
  | nil => rfl
  | cons G ext ih =>
    rw [List.forall_mem_cons] at h
    simp only [List.cons_append, Ctx.getFun, h.1, ih h.2]

theorem evalList_lits (n : Nat) (C : Ctx) : ∀ vs : VL, evalList (eval (n + 1)) C (vs.map .lit) = .ok vs
  | [] => rfl
  | v :: vs => by
    simp only [List.map, evalList, evalList_lits n C vs]
    rfl

/-- what a call of a `def`-ined function does: the arguments are evaluated where the call stands,
    the body in a child of the context the function was defined in -/
theorem ucall_eq (n : Nat) (C : Ctx) (f : Name) (args : List Expr) (kw : List (Expr × Expr))
    (body : Expr) (D : Ctx) (h : C.getFun (fnKey f) = some (body, D)) :
    eval (n + 1) C (.ucall f args kw) = (do
      let names ← kwNames kw
      let vs ← evalList (eval n) C args
      let kvs ← evalList (eval n) C (kw.map (·.2))
      eval n (argFrame vs (names.zip kvs) :: D) body) := by
  simp only [eval_succ, step, h]

/-- lexical closure: if the arguments evaluate alike at two call sites that see the
    same definition of `f`, the calls give the same result - whatever else the two contexts bind -/
theorem closure_lexical_args (n : Nat) (C1 C2 : Ctx) (f : Name) (args : List Expr) (kw : List (Expr × Expr))
    (hf : C1.getFun (fnKey f) = C2.getFun (fnKey f))
    (ha : evalList (eval n) C1 args = evalList (eval n) C2 args)
    (hk : evalList (eval n) C1 (kw.map (·.2)) = evalList (eval n) C2 (kw.map (·.2))) :
    eval (n + 1) C1 (.ucall f args kw) = eval (n + 1) C2 (.ucall f args kw) := by
  simp only [eval_succ, step, hf, ha, hk]

/-- ... in particular a function called from any later context `ext ++ D` (whatever `ext` binds,
    as long as it does not redefine the name) gives the result it gives in the context `D` it is
    visible in - the caller's bindings play no role -/
theorem closure_lexical (n : Nat) (ext D : Ctx) (f : Name) (vs : VL)
    (h : ∀ G ∈ ext, alookup (fnKey f) G.funs = none) :
    eval (n + 2) (ext ++ D) (.ucall f (vs.map .lit) []) = eval (n + 2) D (.ucall f (vs.map .lit) []) :=
  closure_lexical_args (n + 1) (ext ++ D) D f _ [] (getFun_append ext D _ h) (by rw [evalList_lits, evalList_lits]) rfl

/-- ... in particular a rebinding of a free variable of the body by the caller is not seen -/
example : run 20 .null
    (.arrow (.call .let_ [] [(.kw ['k'], .lit (.int 1))])
      (.arrow (.call .def_ [.kw ['f'], .var ['$', 'k']] [])
        (.arrow (.call .let_ [] [(.kw ['k'], .lit (.int 2))]) (.ucall ['f'] [] [])))) =
    .ok (.data (.int 1)) := rfl

theorem callFn_with (ev : Ev) (C : Ctx) (args : List Expr) :
    callFn ev C .with_ args [] = (do let vs ← evalList ev C args; pure (.ctx (argFrame vs [] :: C))) := rfl

/-- `with(v1, .., vn) -> $k` is `vk`: numbering starts at 1 -/
theorem with_numbering (n : Nat) (C : Ctx) (vs : VL) (k : Nat) (h : k < vs.length) (hi : hasIter vs[k] = false) :
    eval (n + 3) C (.arrow (.call .with_ (vs.map .lit) []) (.var (argName (k + 1)))) = .ok (.val vs[k]) := by
  simp only [eval_succ (n + 2), step, eval_succ (n + 1), callFn_with, evalList_lits, ok_bind, pure_eq]
  exact readVar_of_get (get_argFrame C vs k h) hi

/-! ## names are data

A variable, a keyword argument, a function name is the sequence of characters that was written.
The only identifications are the documented ones: a variable name with and without its `$`, the
empty name / `$` / `$1` (`normName`, `dollar_alias`), and function names up to trailing underscores
(`fnKey`).  No other relation between names (case, snake_case vs camelCase, inner underscores,
a trailing underscore of a VARIABLE name) ever makes two bindings one. -/

theorem normName_dollar (x : Name) (h : x.head? ≠ some '$') : normName ('$' :: x) = normName x := by
  cases x with
  | nil => rfl
  | cons c cs =>
    have hc : c ≠ '$' := by simpa using h
    simp [normName, hc]

theorem callFn_let (ev : Ev) (C : Ctx) (args : List Expr) (kw : List (Expr × Expr)) :
    callFn ev C .let_ args kw = (do
      let names ← kwNames kw
      let vs ← evalList ev C args
      let kvs ← evalList ev C (kw.map (·.2))
      pure (.ctx (argFrame vs (names.zip kvs) :: C))) := rfl

/-- a name a keyword can spell is normalised by putting `$` in front, nothing else -/
theorem normName_plain (x : Name) (hx : x ≠ []) (h : x.head? ≠ some '$') : normName x = '$' :: x := by
  cases x with
  | nil => exact absurd rfl hx
  | cons c cs =>
    have hc : c ≠ '$' := by simpa using h
    simp [normName, hc]

/-- ... so two such names are one variable only if they are the same characters -/
theorem normName_inj_plain {x y : Name} (hx : x ≠ []) (hx' : x.head? ≠ some '$') (hy : y ≠ [])
    (hy' : y.head? ≠ some '$') (h : normName x = normName y) : x = y := by
  rw [normName_plain x hx hx', normName_plain y hy hy'] at h
  exact (List.cons.inj h).2

theorem readVar_bind1 (C : Ctx) (x m : Name) (a : Value) (ha : hasIter a = false) :
    readVar (argFrame [] [(x, a)] :: C) m = if normName x = normName m then .ok (.val a) else readVar C m := by
  by_cases h : normName x = normName m <;>
    simp [readVar, Ctx.get, argFrame, bindNamed, bindPos, aset, alookup, h, ha]

/-- **`let(x => a) -> $m`, for ALL names `x`, `m`**: `a` if the two names have the same normal form,
    otherwise whatever `$m` is outside - the `let` is invisible to every other name -/
theorem let_names_verbatim (n : Nat) (C : Ctx) (x m : Name) (a : Value) (ha : hasIter a = false) :
    eval (n + 3) C (.arrow (.call .let_ [] [(.kw x, .lit a)]) (.var m)) =
      if normName x = normName m then .ok (.val a) else eval (n + 1) C (.var m) :=
  readVar_bind1 C x m a ha

/-- `let(x => a) -> $x` is `a`, whatever the surrounding context binds `x` to -/
theorem shadowing_let (n : Nat) (C : Ctx) (x : Name) (a : Value) (hx : x.head? ≠ some '$')
    (ha : hasIter a = false) :
    eval (n + 3) C (.arrow (.call .let_ [] [(.kw x, .lit a)]) (.var ('$' :: x))) = .ok (.val a) := by
  rw [let_names_verbatim n C x _ a ha, if_pos (normName_dollar x hx).symm]

/-- ... in particular for two keywords that differ in any character at all (`my_var` / `myVar`,
    `x1` / `x_1`, `a_` / `a`, `A` / `a`) -/
theorem let_other_name (n : Nat) (C : Ctx) (x y : Name) (a : Value) (ha : hasIter a = false)
    (hx : x ≠ []) (hx' : x.head? ≠ some '$') (hy : y ≠ []) (hy' : y.head? ≠ some '$') (hne : x ≠ y) :
    eval (n + 3) C (.arrow (.call .let_ [] [(.kw x, .lit a)]) (.var ('$' :: y))) = eval (n + 1) C (.var ('$' :: y)) := by
  rw [let_names_verbatim n C x ('$' :: y) a ha, normName_dollar y hy']
  have : normName x ≠ normName y := fun h => hne (normName_inj_plain hx hx' hy hy' h)
  simp [this]

example : run 20 .null (.arrow (.call .let_ [] [(.kw ['m', 'y', '_', 'v', 'a', 'r'], .lit (.int 5))])
    (.list [.var ['$', 'm', 'y', '_', 'v', 'a', 'r'], .var ['$', 'm', 'y', 'V', 'a', 'r'],
            .var ['$', 'm', 'y', '_', 'v', 'a', 'r', '_'], .var ['$', 'M', 'y', '_', 'v', 'a', 'r']])) =
    .ok (.data (.list [.int 5, .null, .null, .null])) := rfl

example : run 20 .null (.arrow (.call .let_ [] [(.kw ['x', '1'], .lit (.int 1)), (.kw ['x', '_', '1'], .lit (.int 2)),
      (.kw ['a', '_'], .lit (.int 3))])
    (.list [.var ['$', 'x', '1'], .var ['$', 'x', '_', '1'], .var ['$', 'a', '_'], .var ['$', 'a']])) =
    .ok (.data (.list [.int 1, .int 2, .int 3, .null])) := rfl

/-- the same for a keyword argument of a `def`-ined function: the body `$m` sees the argument passed
    as `x => a` iff the names have the same normal form, else what the DEFINING context says -/
theorem kwarg_names_verbatim (n : Nat) (C D : Ctx) (f x m : Name) (a : Value) (ha : hasIter a = false)
    (hf : C.getFun (fnKey f) = some (.var m, D)) :
    eval (n + 2) C (.ucall f [] [(.kw x, .lit a)]) =
      if normName x = normName m then .ok (.val a) else eval (n + 1) D (.var m) := by
  rw [ucall_eq (n + 1) C f [] [(.kw x, .lit a)] (.var m) D hf]
  exact readVar_bind1 D x m a ha

example : run 20 .null (.arrow (.call .def_ [.kw ['f'], .list [.var ['$', 'f', 'i', 'r', 's', 't', '_', 'a', 'r', 'g'],
      .var ['$', 'f', 'i', 'r', 's', 't', 'A', 'r', 'g']]] [])
    (.ucall ['f'] [] [(.kw ['f', 'i', 'r', 's', 't', '_', 'a', 'r', 'g'], .lit (.int 2))])) =
    .ok (.data (.list [.int 2, .null])) := rfl

theorem callFn_def (ev : Ev) (C : Ctx) (nameE body : Expr) :
    callFn ev C .def_ [nameE, body] [] = (do
      let no ← ev C nameE
      match no with
      | .val (.str name) => pure (.ctx ({ funs := [(fnKey name, body)] } :: C))
      | o => if isLazy o then .error .outOfDomain else .error .noFunction) := rfl

theorem eval_def_arrow (n : Nat) (C : Ctx) (f : Name) (body e : Expr) :
    eval (n + 4) C (.arrow (.call .def_ [.kw f, body] []) e) = eval (n + 3) ({ funs := [(fnKey f, body)] } :: C) e := rfl

/-- **`def(f, body) -> g()`, for ALL names `f`, `g`**: runs `body` iff the names are equal up to
    trailing underscores (`fnKey`), otherwise the `def` is invisible to the call -/
theorem def_names_verbatim (n : Nat) (C : Ctx) (f g : Name) (body : Expr) :
    eval (n + 4) C (.arrow (.call .def_ [.kw f, body] []) (.ucall g [] [])) =
      if fnKey f = fnKey g then eval (n + 2) (argFrame [] [] :: { funs := [(fnKey f, body)] } :: C) body
      else eval (n + 3) C (.ucall g [] []) := by
  rw [eval_def_arrow]
  by_cases h : fnKey f = fnKey g
  · rw [if_pos h, ucall_eq (n + 2) _ g [] [] body ({ funs := [(fnKey f, body)] } :: C) (by simp [Ctx.getFun, alookup, h])]
    rfl
  · rw [if_neg h]
    exact closure_lexical (n + 1) [_] C g [] (by simp [alookup, beq_false_of_ne h])

/-- the function key only drops trailing underscores: case, inner underscores, digits are kept -/
example : fnKey ['f', '_'] = fnKey ['f'] ∧ fnKey ['f', '_', '_'] = fnKey ['f'] ∧ fnKey ['m', 'y', '_', 'f'] ≠ fnKey ['m', 'y', 'F'] ∧
    fnKey ['F'] ≠ fnKey ['f'] ∧ fnKey ['f', '_', '1'] ≠ fnKey ['f', '1'] ∧ fnKey ['_', 'f'] ≠ fnKey ['f'] := by decide

example : run 20 .null (.arrow (.call .def_ [.kw ['m', 'y', '_', 'f'], .lit (.int 1)] []) (.ucall ['m', 'y', '_', 'f'] [] [])) =
    .ok (.data (.int 1)) := rfl
example : run 20 .null (.arrow (.call .def_ [.kw ['m', 'y', '_', 'f'], .lit (.int 1)] []) (.ucall ['m', 'y', 'F'] [] [])) =
    .error .unknownFunction := rfl
example : run 20 .null (.arrow (.call .def_ [.kw ['f', '_'], .lit (.int 1)] []) (.ucall ['f'] [] [])) =
    .ok (.data (.int 1)) := rfl

/-! ## no leaks -/

/-- the elements of a list expression are all evaluated in the context of the list expression:
    whatever the first element binds while it is evaluated (lets, lambdas, definitions), the
    second sees the unchanged context -/
theorem sibling_independence (n : Nat) (C : Ctx) (e1 e2 : Expr) (o1 : Obj) (v1 : Value)
    (h1 : eval n C e1 = .ok o1) (hv : toV o1 = .ok v1) :
    eval (n + 1) C (.list [e1, e2]) =
      (do let o2 ← eval n C e2; let v2 ← toV o2; pure (.val (.tuple [v1, v2]))) := by
  simp only [eval_succ, step, evalList, h1, hv, ok_bind, bind_assoc, pure_bind]

/-- the same for the operands of a strict binary operator / the arguments of a call -/
theorem no_leak_arg (n : Nat) (C : Ctx) (op : BinOp) (a b : Expr) (x : Obj)
    (hop : op ≠ .and ∧ op ≠ .or) (hlit : litOk op a = true ∧ litOk op b = true) (ha : eval n C a = .ok x) :
    eval (n + 1) C (.bin op a b) = (do let y ← eval n C b; binop op x y) := by
  rw [eval_succ, step_bin_strict _ _ hop.1 hop.2, hlit.1, hlit.2, ha]
  rfl

/-- a name bound inside a lambda body is not visible to the next stage of a method chain:
    the second selector runs in a child of the chain's own context `C` -/
theorem no_leak_lambda (n : Nat) (C : Ctx) (e b1 b2 : Expr) (r : Obj)
    (h : eval n C (.method e .select [b1] []) = .ok r) :
    eval (n + 1) C (.method (.method e .select [b1] []) .select [b2] []) =
      (match toIter r with
       | none => .error .noMethod
       | some (xs, er) => do
          let s ← mapL (fun x => do let o ← eval n (argFrame [x] [] :: C) b2; toV o) xs er
          pure (.lazy s.1 s.2)) := by
  simp only [eval_succ, step, h]
  rfl

/-- what a callee binds (here: a `let` in the body of a `def`-ined function) is gone when it has
    returned: the sibling of the call sees the caller's context -/
theorem no_leak_callee (n : Nat) (C : Ctx) (f : Name) (args : List Expr) (x : Name) (o : Obj) (v : Value)
    (h : eval n C (.ucall f args []) = .ok o) (hv : toV o = .ok v) :
    eval (n + 1) C (.list [.ucall f args [], .var x]) =
      (do let o2 ← eval n C (.var x); let v2 ← toV o2; pure (.val (.tuple [v, v2]))) :=
  sibling_independence n C _ _ o v h hv

example : run 20 .null
    (.arrow (.call .def_ [.kw ['h'], .arrow (.call .let_ [] [(.kw ['z'], .var ['$'])]) (.var ['$', 'z'])] [])
      (.list [.ucall ['h'] [.lit (.int 3)] [], .var ['$', 'z']])) =
    .ok (.data (.list [.int 3, .null])) := rfl

example : run 20 .null (.list [.arrow (.call .let_ [] [(.kw ['x'], .lit (.int 1))]) (.var ['$', 'x']), .var ['$', 'x']]) =
    .ok (.data (.list [.int 1, .null])) := rfl

/-! ## member access maps over a collection -/

theorem mapL_congr {f g : Value → R Value} : ∀ (xs : VL) (e : Option Err) (_ : ∀ x ∈ xs, f x = g x),
    mapL f xs e = mapL g xs e
  | [], _, _ => rfl
  | x :: xs, e, h => by
    unfold mapL
    rw [h x (by simp), mapL_congr xs e (fun y hy => h y (by simp [hy]))]

theorem mapL_append (f : Value → R Value) (ys : VL) (e : Option Err) : ∀ xs : VL,
    mapL f (xs ++ ys) e = (do
      let r ← mapL f xs none
      match r.2 with
      | some _ => pure r
      | none => do let s ← mapL f ys e; pure (r.1 ++ s.1, s.2))
  | [] => by cases h : mapL f ys e <;> simp [mapL, h]
  | x :: xs => by
    simp only [List.cons_append, mapL, mapL_append f ys e xs, bind_assoc]
    cases capture (f x) with
    | error er => rfl
    | ok r =>
      cases r with
      | error er => rfl
      | ok v =>
        simp only [ok_bind]
        cases mapL f xs none with
        | error er => rfl
        | ok r =>
          obtain ⟨vs, _ | er⟩ := r
          · cases mapL f ys e <;> rfl
          · rfl

theorem eval_select (n : Nat) (C : Ctx) (e b : Expr) (r : Obj) (xs : VL) (er : Option Err)
    (hr : eval n C e = .ok r) (hit : toIter r = some (xs, er)) :
    eval (n + 1) C (.method e .select [b] []) = (do
      let s ← mapL (fun x => lamV (eval n) C b [x]) xs er
      pure (.lazy s.1 s.2)) := by
  simp only [eval_succ, step, hr, ok_bind, List.isEmpty_nil, Bool.not_true, Bool.false_eq_true, if_false]
  unfold callMethod
  simp only [hit]

/-- `$.name` applied to one element the way `select` applies it is `memberV name` of that element - for an
    element of ANY kind (dictionary, collection, nested collection, scalar) that is data: no one-shot
    iterator inside, which a variable could not hand out twice (`readVar`) -/
theorem select_member_elem (n : Nat) (C : Ctx) (name : Name) (x : Value) (hi : hasIter x = false) :
    lamV (eval (n + 2)) C (.member (.var ['$']) name) [x] = memberV name x := by
  simp only [lamV, applyLam, eval_succ, step, readVar_of_get (C := argFrame [x] [] :: C) (x := ['$']) rfl hi, ok_bind]
  cases x with
  | dict d =>
    simp only [memberOf, memberV]
    cases Seq.dGet d (.str name) <;> rfl
  | tuple l | list l =>
    simp only [memberOf, memberV, toIter, memberVL_eq]
    cases mapL (memberV name) l none <;> rfl
  | iter l => simp [hasIter] at hi
  | _ => rfl

/-- **`coll.name` = `coll.select($.name)`** for a collection (list, tuple, lazy sequence, ordering) whose
    elements are of ARBITRARY, also MIXED kinds: dictionaries (the documented case), collections of
    dictionaries nested to any depth next to them (each is projected in turn - `memberV` recurses), scalars
    (both sides raise the same exception at the same element).  The only requirement: the elements are
    data, not one-shot iterators. -/
theorem member_maps (n : Nat) (C : Ctx) (e : Expr) (name : Name) (r : Obj) (xs : VL) (er : Option Err)
    (hr : eval (n + 2) C e = .ok r) (hit : toIter r = some (xs, er))
    (hel : ∀ x ∈ xs, hasIter x = false) :
    eval (n + 3) C (.member e name) = eval (n + 3) C (.method e .select [.member (.var ['$']) name] []) := by
  have hm : memberOf r name = (do let s ← mapL (memberV name) xs er; pure (.lazy s.1 s.2)) := by
    unfold memberOf
    split
    · simp [toIter] at hit
    · simp [toIter] at hit
    · simp [hit]
  rw [eval_select (n + 2) C e _ r xs er hr hit, eval_succ (n + 2)]
  simp only [step, hr, ok_bind, hm]
  rw [mapL_congr xs er (fun x hx => (select_member_elem n C name x (hel x hx)).symm)]

/-- with `memberV_nested`: the projection of one element, by kind; for every other kind `memberV` is
    `.error .unknownFunction` (`#property#name` is not registered) -/
theorem memberV_dict (name : Name) (d : KV) (v : Value) (h : Seq.dGet d (.str name) = some v) :
    memberV name (.dict d) = .ok v := by simp [memberV, h]

theorem memberV_nested (name : Name) (l vs : VL) (h : mapL (memberV name) l none = .ok (vs, none)) :
    memberV name (.tuple l) = .ok (.iter vs) ∧ memberV name (.list l) = .ok (.iter vs) := by
  simp [memberV, memberVL_eq, h, toV]

/-- the kinds of the neighbours play no role: the projection of `pre ++ x :: post` is, at the position of
    `x`, the projection of `x` alone (as long as the elements before it have one) -/
theorem member_elementwise (name : Name) (x : Value) (v : Value) (hx : memberV name x = .ok v) :
    ∀ (pre post : VL) (vs : VL), mapL (memberV name) pre none = .ok (vs, none) →
      ∀ ws er, mapL (memberV name) post none = .ok (ws, er) →
      mapL (memberV name) (pre ++ x :: post) none = .ok (vs ++ v :: ws, er) := by
  intro pre post vs hpre ws er hpost
  simp only [mapL_append, hpre, mapL, hx, capture, hpost, ok_bind, pure_eq]

-- a dictionary NEXT TO a collection of dictionaries (either order, nested); the programs of `seeded/C04-10`
example : run 20 (.tuple [.dict [(.str ['a'], .int 1)], .tuple [.dict [(.str ['a'], .int 2)]]]) (.member (.var ['$']) ['a']) =
    .ok (.data (.list [.int 1, .iter [.int 2]])) := rfl
example : run 20 (.tuple [.tuple [.dict [(.str ['a'], .int 2)]], .dict [(.str ['a'], .int 1)]]) (.member (.var ['$']) ['a']) =
    .ok (.data (.list [.iter [.int 2], .int 1])) := rfl
example : run 20 (.dict [(.str ['b'], .dict [(.str ['c'], .int 5)])])
    (.member (.method (.list [.var ['$'], .list [.var ['$'], .var ['$']]]) .select [.member (.var ['$']) ['b']] []) ['c']) =
    .ok (.data (.list [.int 5, .iter [.int 5, .int 5]])) := rfl
example : run 20 (.tuple [.dict [(.str ['a'], .int 1)], .tuple [.dict [(.str ['a'], .int 2)], .tuple [.dict [(.str ['a'], .int 3)]]]])
    (.method (.var ['$']) .select [.member (.var ['$']) ['a']] []) =
    .ok (.data (.list [.int 1, .iter [.int 2, .iter [.int 3]]])) := rfl
-- a scalar among them: the projection raises when it gets there
example : run 20 (.tuple [.dict [(.str ['a'], .int 1)], .int 7]) (.member (.var ['$']) ['a']) = .error .unknownFunction := rfl

example : run 20 (.tuple [.dict [(.str ['a'], .int 1)], .dict [(.str ['a'], .int 2)]]) (.member (.var ['$']) ['a']) =
    .ok (.data (.list [.int 1, .int 2])) := rfl
example : run 20 (.tuple [.dict [(.str ['a'], .int 1)], .dict [(.str ['a'], .int 2)]])
    (.method (.var ['$']) .select [.member (.var ['$']) ['a']] []) = .ok (.data (.list [.int 1, .int 2])) := rfl

/-! ## how the data enters: variables at every depth of the host's chain

"Named variables resolve through the enclosing scopes": the outermost scopes are the contexts of the
HOST.  `hostCtx layers k doc` is the chain a host prepared - its layers from the root upwards (the
root may be the context it handed to `yaql.create_context(context=..)`: below the layers of the
standard library, which bind no variable and are therefore invisible, `empty_frame_invisible`) with
`$` bound above the first `k` of them (`k = 0`: `yaql.create_context(data=doc)`; `k = length`:
`evaluate(data=doc, context=top)`).  Below: a variable bound at ANY depth of that chain is what a
read returns from ANY scope the program has entered (lambda applications, `let` chains, `def`
bodies are frames `pre` on top of the chain) unless a nearer frame binds the name; and where in the
chain `$` is bound makes no difference to any lookup. -/

/-- **a host variable is visible from every scope**: bound in layer `F` of the host's chain (any depth:
    `above` are the host's contexts over it, `below` the ones under it - the library layers, the root),
    read from inside any stack `pre` of scopes the program has entered, it is `F`'s value, provided no
    nearer frame binds the name. -/
theorem host_var_visible (n : Nat) (pre above below : Ctx) (F : Frame) (x : Name) (v : Value)
    (hpre : ∀ G ∈ pre, alookup (normName x) G.vars = none)
    (habove : ∀ G ∈ above, alookup (normName x) G.vars = none)
    (hF : alookup (normName x) F.vars = some v) (hv : hasIter v = false) :
    eval (n + 1) (pre ++ above ++ F :: below) (.var x) = .ok (.val v) := by
  refine readVar_of_get ?_ hv
  rw [List.append_assoc, get_append, get_eq_none hpre]
  exact shadowing above F below x v habove hF

/-- ... and an upper host context shadows a lower one (the same theorem read the other way round: whatever
    `below` binds under the name is never consulted) -/
theorem host_var_topmost (above below below' : Ctx) (F : Frame) (x : Name) (v : Value)
    (habove : ∀ G ∈ above, alookup (normName x) G.vars = none) (hF : alookup (normName x) F.vars = some v) :
    Ctx.get (above ++ F :: below) x = Ctx.get (above ++ F :: below') x := by
  rw [shadowing above F below x v habove hF, shadowing above F below' x v habove hF]

/-- where in the chain the document is bound makes no difference to any lookup: for host layers none of
    which binds `$1` itself, `$` bound under all of them (`yaql.create_context(data=doc)`), between any
    two of them, or above all of them (`evaluate(data=doc, ..)`) reads alike - every variable, from every
    scope `pre` of the program. -/
theorem doc_position_irrelevant (pre upper lower : Ctx) (doc : Value) (x : Name)
    (hup : ∀ G ∈ upper, alookup ['$', '1'] G.vars = none) :
    Ctx.get (pre ++ upper ++ { vars := [(['$', '1'], doc)] } :: lower) x =
    Ctx.get (pre ++ { vars := [(['$', '1'], doc)] } :: (upper ++ lower)) x := by
  rw [List.append_assoc, get_append pre, get_append pre, get_append upper]
  congr 1
  by_cases h : normName x = ['$', '1']
  · rw [get_eq_none (h ▸ hup), Option.none_or]
    simp [Ctx.get, alookup, h]
  · have hd : alookup (normName x) [((['$', '1'] : Name), doc)] = none := by
      simp [alookup, beq_false_of_ne (Ne.symm h)]
    simp only [Ctx.get, hd, get_append]

/-- `$` from every scope, wherever the host bound it: no scope of the program and no host context above the
    binding binds `$1` -> the read is the document -/
theorem dollar_from_any_depth (n : Nat) (pre upper lower : Ctx) (doc : Value)
    (hpre : ∀ G ∈ pre, alookup ['$', '1'] G.vars = none) (hup : ∀ G ∈ upper, alookup ['$', '1'] G.vars = none)
    (hd : hasIter doc = false) :
    eval (n + 1) (pre ++ upper ++ { vars := [(['$', '1'], doc)] } :: lower) (.var ['$']) = .ok (.val doc) :=
  host_var_visible n pre upper lower _ ['$'] doc (by simpa [normName] using hpre) (by simpa [normName] using hup)
    (by simp [normName, alookup]) hd

/-- the plain entry is the host chain without layers -/
theorem runHost_nil (fuel : Nat) (doc : Value) (e : Expr) : runHost fuel [] 0 doc e = run fuel doc e := rfl

-- the programs of `seeded/C04-11`: `yaql.create_context(data=doc)` (`$` under everything),
-- host variables in the context handed to `create_context(context=..)` (layer 0), read from a lambda, a let chain, a def body
example : runHost 20 [[(['e', 'n', 'v'], .str ['p'])], [(['l', 'i', 'm'], .int 2)]] 0 (.tuple [.int 1, .int 5])
    (.list [.var ['$', 'e', 'n', 'v'], .method (.var ['$']) .where_ [.bin .gt (.var ['$']) (.var ['$', 'l', 'i', 'm'])] []]) =
    .ok (.data (.list [.str ['p'], .iter [.int 5]])) := rfl
example : runHost 20 [[(['e', 'n', 'v'], .str ['p'])], []] 2 (.int 7)
    (.arrow (.call .def_ [.kw ['f'], .list [.var ['$', 'e', 'n', 'v'], .var ['$', '1']]] [])
      (.arrow (.call .let_ [] [(.kw ['e', 'n', 'v'], .lit (.int 0))]) (.list [.ucall ['f'] [.lit (.int 1)] [], .var ['$', 'e', 'n', 'v'], .var ['$']]))) =
    .ok (.data (.list [.tuple [.str ['p'], .int 1], .int 0, .int 7])) := rfl
-- an upper host context shadows a lower one
example : runHost 20 [[(['r'], .int 1)], [(['r'], .int 2)], []] 1 .null (.var ['$', 'r']) = .ok (.data (.int 2)) := rfl
-- host_var_visible is not vacuous: a lambda frame and a let frame over a three-context chain, the variable in the root
example : eval 5 ([argFrame [.int 9] [], { vars := [(['$', 'k'], .int 0)] }] ++ [{ vars := [(['$', 'm'], .int 3)] }] ++
      ({ vars := [(['$', 'e'], .int 4)] } : Frame) :: [{}]) (.var ['$', 'e']) = .ok (.val (.int 4)) :=
  host_var_visible 4 _ _ _ _ ['$', 'e'] (.int 4) (by decide) (by decide) rfl rfl

/-! ## arguments passed by keyword

How an argument is passed changes nothing about what it means: `Expr.positional` moves every keyword
argument of a builtin method to the position of the parameter of that name (the name the default
convention gives it: `keySelector`, not `key_selector`), and the program is evaluated in that form
(`runKw`).  So a lambda passed by keyword is the lambda passed positionally - lazy, applied in a child
of the call's context, its `$` the argument of the innermost application (`lambda_binds_innermost`
and the other lambda theorems then speak about it). -/

abbrev kwKeySelector : Name := ['k', 'e', 'y', 'S', 'e', 'l', 'e', 'c', 't', 'o', 'r']
abbrev kwValueSelector : Name := ['v', 'a', 'l', 'u', 'e', 'S', 'e', 'l', 'e', 'c', 't', 'o', 'r']
abbrev kwSelector : Name := ['s', 'e', 'l', 'e', 'c', 't', 'o', 'r']
abbrev kwPredicate : Name := ['p', 'r', 'e', 'd', 'i', 'c', 'a', 't', 'e']

/-- `xs.toDict(keySelector => k, valueSelector => v)`, the same with the keywords the other way round, and
    `xs.toDict(k, valueSelector => v)` are `xs.toDict(k, v)` -/
theorem toDict_by_keyword (e k v : Expr) :
    (Expr.method e .toDict [] [(.kw kwKeySelector, k), (.kw kwValueSelector, v)]).positional =
      .method e.positional .toDict [k.positional, v.positional] [] ∧
    (Expr.method e .toDict [] [(.kw kwValueSelector, v), (.kw kwKeySelector, k)]).positional =
      .method e.positional .toDict [k.positional, v.positional] [] ∧
    (Expr.method e .toDict [k] [(.kw kwValueSelector, v)]).positional =
      .method e.positional .toDict [k.positional, v.positional] [] ∧
    (Expr.method e .toDict [] [(.kw kwKeySelector, k)]).positional = .method e.positional .toDict [k.positional] [] := by
  refine ⟨?_, ?_, ?_, ?_⟩ <;> (simp only [Expr.positional, positionalL, positionalP]; rfl)

/-- a lambda passed by keyword IS the lambda passed positionally -/
theorem lambda_by_keyword (e b : Expr) :
    (Expr.method e .select [] [(.kw kwSelector, b)]).positional = .method e.positional .select [b.positional] [] ∧
    (Expr.method e .where_ [] [(.kw kwPredicate, b)]).positional = .method e.positional .where_ [b.positional] [] ∧
    (Expr.method e .orderBy [] [(.kw kwSelector, b)]).positional = .method e.positional .orderBy [b.positional] [] := by
  refine ⟨?_, ?_, ?_⟩ <;> (simp only [Expr.positional, positionalL, positionalP]; rfl)

/-- ... hence inside it `$` is the element it is applied to, whatever `$` is outside: evaluated, a `select`
    whose selector is passed by keyword maps the selector over the elements, each application in a child
    `argFrame [x] [] :: C` of the call's context -/
theorem select_by_keyword (n : Nat) (C : Ctx) (e b : Expr) (r : Obj) (xs : VL) (er : Option Err)
    (hr : eval n C e.positional = .ok r) (hit : toIter r = some (xs, er)) :
    eval (n + 1) C (Expr.method e .select [] [(.kw kwSelector, b)]).positional =
      (do let s ← mapL (fun x => do let o ← eval n (argFrame [x] [] :: C) b.positional; toV o) xs er
          pure (.lazy s.1 s.2)) := by
  rw [(lambda_by_keyword e b).1, eval_select n C _ _ r xs er hr hit]
  rfl

/-- a keyword that names no parameter (also: the PYTHON name `key_selector`, a positional argument named
    again) matches no overload: the receiver is evaluated, then NoMatchingMethodException -/
theorem noOverload_raises (n : Nat) (C : Ctx) (e : Expr) (f : Fn) (ps : List (Name × Bool)) (r : Obj)
    (hf : kwParams f = some ps) (hr : eval n C e = .ok r) :
    eval (n + 1) C (noOverload e f) = .error .noMethod := by
  simp only [noOverload, eval_succ, step, hr, ok_bind, List.isEmpty_nil, Bool.not_true, Bool.false_eq_true, if_false]
  cases f <;> first | rfl | cases hf

example : (Expr.method (.var ['$']) .toDict [] [(.kw ['k', 'e', 'y', '_', 's', 'e', 'l', 'e', 'c', 't', 'o', 'r'], .var ['$'])]).positional =
    noOverload (.var ['$']) .toDict := rfl

mutual
/-- a program that passes no argument of a method by keyword is evaluated as it is -/
theorem positional_id : ∀ e : Expr, NoKw e → e.positional = e
  | .lit _, _ | .kw _, _ | .var _, _ => rfl
  | .list es, h => by simp only [Expr.positional, positionalL_id es h]
  | .map kvs, h => by simp only [Expr.positional, positionalP_id kvs h]
  | .index e args, h => by simp only [Expr.positional, positional_id e h.1, positionalL_id args h.2]
  | .un _ e, h | .member e _, h | .umethod e _, h => by simp only [Expr.positional, positional_id e h]
  | .bin _ a b, h | .arrow a b, h => by simp only [Expr.positional, positional_id a h.1, positional_id b h.2]
  | .call _ args kw, h | .ucall _ args kw, h => by
    simp only [Expr.positional, positionalL_id args h.1, positionalP_id kw h.2]
  | .method e f args kw, h => by
    obtain ⟨h1, h2, h3⟩ := h
    subst h3
    simp only [Expr.positional, positional_id e h1, positionalL_id args h2, positionalP, placeMethod]
theorem positionalL_id : ∀ es : List Expr, NoKwL es → positionalL es = es
  | [], _ => rfl
  | e :: es, h => by simp only [positionalL, positional_id e h.1, positionalL_id es h.2]
theorem positionalP_id : ∀ ps : List (Expr × Expr), NoKwP ps → positionalP ps = ps
  | [], _ => rfl
  | (k, v) :: r, h => by simp only [positionalP, positional_id k h.1, positional_id v h.2.1, positionalP_id r h.2.2]
end

-- the programs of `seeded/C04-12`: the selectors see THEIR element, not the caller's `$`
example : runKw 30 [] 0 (.tuple [.dict [(.str ['k'], .str ['a']), (.str ['v'], .int 1)], .dict [(.str ['k'], .str ['b']), (.str ['v'], .int 2)]])
    (.method (.var ['$']) .toDict [] [(.kw kwKeySelector, .member (.var ['$']) ['k']), (.kw kwValueSelector, .member (.var ['$']) ['v'])]) =
    .ok (.data (.dict [(.str ['a'], .int 1), (.str ['b'], .int 2)])) := rfl
example : runKw 30 [] 0 (.tuple [.tuple [.int 1, .int 2], .tuple [.int 3]])
    (.method (.var ['$']) .select [.method (.var ['$']) .toDict [] [(.kw kwKeySelector, .var ['$']),
      (.kw kwValueSelector, .bin .mul (.var ['$']) (.lit (.int 10)))]] []) =
    .ok (.data (.list [.dict [(.int 1, .int 10), (.int 2, .int 20)], .dict [(.int 3, .int 30)]])) := rfl

/-! ## frame: evaluation hands back no modified version of a pre-existing context

Contexts are values here, so "a context that existed before is unchanged" cannot even be said
about a single value.  What evaluation *can* do is hand a context back (`let`, `with`, `unpack`,
`def`, and everything that passes such a result on).  `frame` says what such a result looks like:
new frames stacked on a non-empty suffix of the context the evaluation started in - i.e. on that
context itself or on one of its ancestors, which appear in the result as they were.  Nothing else
flows out of an evaluation (`eval` returns a value, not a store), and every sibling / continuation
is evaluated in the caller's own, unchanged context (`sibling_independence`, `no_leak_*`). -/

/-- `C'` is a descendant of `C` or of an ancestor of `C`: they share a suffix `S` of whole frames
    (non-empty as soon as `C` is) -/
def Extends (C C' : Ctx) : Prop := ∃ S : Ctx, S <:+ C' ∧ S <:+ C ∧ (C ≠ [] → S ≠ [])

/-- a result that, if it is a context, extends `C` -/
def Framed (C : Ctx) (r : R Obj) : Prop := ∀ C', r = .ok (.ctx C') → Extends C C'

theorem Extends.refl (C : Ctx) : Extends C C := ⟨C, List.suffix_refl _, List.suffix_refl _, id⟩

theorem Extends.push (F : Frame) (C : Ctx) : Extends C (F :: C) :=
  ⟨C, List.suffix_cons _ _, List.suffix_refl _, id⟩

theorem Extends.trans {C C1 C2 : Ctx} (h1 : Extends C C1) (h2 : Extends C1 C2) : Extends C C2 := by
  obtain ⟨S1, hS1a, hS1b, hS1c⟩ := h1
  obtain ⟨S2, hS2a, hS2b, hS2c⟩ := h2
  rcases List.suffix_or_suffix_of_suffix hS2b hS1a with h | h
  · refine ⟨S2, hS2a, h.trans hS1b, fun hC => hS2c ?_⟩
    intro hC1
    subst hC1
    exact hS1c hC (List.suffix_nil.mp hS1a)
  · exact ⟨S1, h.trans hS2a, hS1b, hS1c⟩

theorem getFun_suffix : ∀ (C : Ctx) (f : Name) (body : Expr) (D : Ctx), C.getFun f = some (body, D) →
    D <:+ C ∧ D ≠ []
  | [], _, _, _, h => by simp [Ctx.getFun] at h
  | F :: C, f, body, D, h => by
    unfold Ctx.getFun at h
    split at h
    · cases h
      exact ⟨List.suffix_refl _, List.cons_ne_nil _ _⟩
    · have := getFun_suffix C f body D h
      exact ⟨this.1.trans (List.suffix_cons _ _), this.2⟩

theorem Framed.error (C : Ctx) (e : Err) : Framed C (.error e) := nofun
theorem Framed.val (C : Ctx) (v : Value) : Framed C (.ok (.val v)) := nofun
theorem Framed.lazy (C : Ctx) (xs : VL) (e : Option Err) : Framed C (.ok (.lazy xs e)) := nofun
theorem Framed.ordered (C : Ctx) (xs : VL) (e : Option Err) : Framed C (.ok (.ordered xs e)) := nofun
theorem Framed.push (C : Ctx) (F : Frame) : Framed C (.ok (.ctx (F :: C))) := by
  rintro _ ⟨⟩
  exact Extends.push F C

theorem Framed.bind {C : Ctx} {x : R α} {f : α → R Obj} (h : ∀ a, x = .ok a → Framed C (f a)) :
    Framed C (x >>= f) := by
  intro C' hr
  cases x with
  | error e => cases hr
  | ok a => exact h a rfl C' hr

theorem Framed.bindObj {C : Ctx} {x : R Obj} {f : Obj → R Obj} (hx : Framed C x)
    (h : ∀ a, Framed C (.ok a) → Framed C (f a)) : Framed C (x >>= f) := by
  intro C' hr
  cases x with
  | error e => cases hr
  | ok a => exact h a hx C' hr

theorem Framed.of_ok {C : Ctx} {x : R Obj} {a : Obj} (hx : Framed C x) (h : x = .ok a) : Framed C (pure a) := by
  subst h; exact hx

theorem Framed.ite {C : Ctx} {c : Prop} [Decidable c] {t e : R Obj} (ht : Framed C t) (he : Framed C e) :
    Framed C (if c then t else e) := by
  split
  · exact ht
  · exact he

-- `framed_step hev`: one step of a walk through `callMethod` / `callFn` / `step` - the rule for the head of the goal
/-- one step of a compositional `Framed` proof; `hev` is the hypothesis about the knot -/
macro "framed_step" hev:ident : tactic => `(tactic| first
  | exact Framed.error _ _
  | exact Framed.val _ _
  | exact Framed.lazy _ _ _
  | exact Framed.ordered _ _ _
  | exact Framed.push _ _
  | exact $hev _ _
  | assumption
  | (apply Framed.bindObj ($hev _ _); intro _ _)
  | (apply Framed.bind; intro _ _)
  | split
  | (dsimp only))

theorem noCtx_framed (C : Ctx) (r : R Obj) (h : ∀ C', r ≠ .ok (.ctx C')) : Framed C r :=
  fun C' hr => absurd hr (h C')

theorem noCtx_bind {x : R α} {f : α → R Obj} (h : ∀ a C', f a ≠ .ok (.ctx C')) (C' : Ctx) :
    x >>= f ≠ .ok (.ctx C') := by
  cases x with
  | error e => nofun
  | ok a => exact h a C'

theorem readVar_noCtx (C : Ctx) (x : Name) : ∀ C', readVar C x ≠ .ok (.ctx C') := by
  unfold readVar
  repeat (first | split | nofun)

theorem mkDict_noCtx (ps : KV) : ∀ C', mkDict ps ≠ .ok (.ctx C') := by
  unfold mkDict
  split <;> nofun

theorem indexer_noCtx (r : Obj) (vs : VL) : ∀ C', indexer r vs ≠ .ok (.ctx C') := by
  unfold indexer
  repeat (first | (apply noCtx_bind; intro _) | split | nofun)

theorem unop_noCtx (op : UnOp) (r : Obj) : ∀ C', unop op r ≠ .ok (.ctx C') := by
  unfold unop
  repeat (first | split | nofun)

theorem binop_noCtx (op : BinOp) (x y : Obj) : ∀ C', binop op x y ≠ .ok (.ctx C') := by
  unfold binop
  repeat (first | (apply noCtx_bind; intro _) | split | nofun)

theorem memberOf_noCtx (r : Obj) (name : Name) : ∀ C', memberOf r name ≠ .ok (.ctx C') := by
  unfold memberOf
  repeat (first | (apply noCtx_bind; intro _) | split | nofun)
-- bind chains and matches first: the leaf lemmas are tried only where nothing is left to take apart
theorem callMethod_framed {ev : Ev} (hev : ∀ C e, Framed C (ev C e)) (C : Ctx) (bad : Err) (r : Obj) (f : Fn)
    (args : List Expr) : Framed C (callMethod ev C bad r f args) := by
  unfold callMethod
  split <;> repeat' first
    | (apply Framed.bind; intro _ _)
    | split
    | exact Framed.error _ _
    | exact Framed.val _ _
    | exact Framed.lazy _ _ _
    | exact Framed.ordered _ _ _
    | exact Framed.push _ _
    | dsimp only
    | exact Framed.of_ok (hev _ _) ‹_›

theorem callFn_framed {ev : Ev} (hev : ∀ C e, Framed C (ev C e)) (C : Ctx) (f : Fn) (args : List Expr)
    (kw : List (Expr × Expr)) : Framed C (callFn ev C f args kw) := by
  unfold callFn
  split
  -- `let`, `with`, `def`: a new frame on `C`
  · exact Framed.bind fun _ _ => Framed.bind fun _ _ => Framed.bind fun _ _ => Framed.push _ _
  · exact Framed.ite (Framed.bind fun _ _ => Framed.error _ _) (Framed.bind fun _ _ => Framed.push _ _)
  · refine Framed.ite (Framed.error _ _) ?_
    split
    · refine Framed.bind fun _ _ => ?_
      split
      · exact Framed.push _ _
      · exact Framed.ite (Framed.error _ _) (Framed.error _ _)
    · exact Framed.error _ _
  -- `list`, `dict`: data
  · exact Framed.ite (Framed.error _ _) (Framed.bind fun _ _ => Framed.bind fun _ _ => Framed.val _ _)
  · split
    · exact Framed.bind fun _ _ => noCtx_framed _ _ (mkDict_noCtx _)
    · refine Framed.bind fun _ _ => ?_
      split
      · exact Framed.error _ _
      · exact Framed.bind fun _ _ => Framed.bind fun _ _ => noCtx_framed _ _ (mkDict_noCtx _)
    · exact Framed.error _ _
  -- `len`, `any`, `all`: the method, on the first argument
  iterate 3
    · refine Framed.ite (Framed.error _ _) ?_
      split
      · exact Framed.error _ _
      · exact Framed.ite (Framed.error _ _) (Framed.bind fun _ _ => callMethod_framed hev _ _ _ _ _)
  · exact Framed.error _ _

theorem step_framed {ev : Ev} (hev : ∀ C e, Framed C (ev C e)) (C : Ctx) : ∀ e, Framed C (step ev C e)
  | .lit _ | .kw _ => Framed.val _ _
  | .var _ => noCtx_framed _ _ (readVar_noCtx _ _)
  | .list _ => Framed.bind fun _ _ => Framed.val _ _
  | .map _ => Framed.bind fun _ _ => noCtx_framed _ _ (mkDict_noCtx _)
  | .index _ _ => Framed.ite (Framed.bind fun _ _ => Framed.bind fun _ _ => noCtx_framed _ _ (indexer_noCtx _ _)) (Framed.error _ _)
  | .un _ _ => Framed.bind fun _ _ => noCtx_framed _ _ (unop_noCtx _ _)
  | .bin op a b => by
    by_cases h1 : op = .and
    · subst h1; exact Framed.bindObj (hev _ _) fun _ hx => Framed.ite (hev _ _) hx
    by_cases h2 : op = .or
    · subst h2; exact Framed.bindObj (hev _ _) fun _ hx => Framed.ite hx (hev _ _)
    rw [step_bin_strict ev C h1 h2]
    exact Framed.ite (Framed.bind fun _ _ => Framed.bind fun _ _ => noCtx_framed _ _ (binop_noCtx _ _ _)) (Framed.error _ _)
  -- `l -> r`: the right side runs in the context the left side returned
  | .arrow l r => Framed.bindObj (hev _ _) fun c hc => by
    cases c with
    | ctx C1 => exact fun C2 h2 => (hc C1 rfl).trans (hev C1 r C2 h2)
    | _ => exact Framed.error _ _
  | .member _ _ => Framed.bind fun _ _ => noCtx_framed _ _ (memberOf_noCtx _ _)
  | .call _ _ _ => callFn_framed hev _ _ _ _
  -- a call of a `def`-ined function: the body runs in a child of the defining context
  | .ucall f args kw => by
    dsimp only [step]
    split
    · exact Framed.error _ _
    · rename_i body D hD
      obtain ⟨hsuf, hne⟩ := getFun_suffix C (fnKey f) body D hD
      have hD (F : Frame) : Extends C (F :: D) := ⟨D, List.suffix_cons _ _, hsuf, fun _ => hne⟩
      exact Framed.bind fun _ _ => Framed.bind fun _ _ => Framed.bind fun _ _ C2 h2 => (hD _).trans (hev _ _ C2 h2)
  | .method _ _ _ _ => Framed.bind fun _ _ => Framed.ite (Framed.error _ _) (callMethod_framed hev _ _ _ _ _)
  | .umethod _ _ => Framed.bind fun _ _ => Framed.error _ _

/-- **frame**: a context handed back by an evaluation that started in `C` consists of new frames
    on top of `C` or of an ancestor of `C`; the pre-existing frames occur in it unmodified, and
    nothing but this returned value leaves the evaluation -/
theorem frame (n : Nat) (C : Ctx) (e : Expr) (C' : Ctx) (h : eval n C e = .ok (.ctx C')) : Extends C C' := by
  have key : ∀ n C e, Framed C (eval n C e) := by
    intro n
    induction n with
    | zero => intro C e; exact Framed.error _ _
    | succ n ih => intro C e; exact step_framed ih C e
  exact key n C e C' h

/-- in particular the document / the host's root context stays at the bottom of every context an
    expression can produce -/
theorem frame_root (n : Nat) (C : Ctx) (e : Expr) (C' : Ctx) (F : Frame) (h : eval n C e = .ok (.ctx C'))
    (hroot : C.getLast? = some F) : C'.getLast? = some F := by
  obtain ⟨S, ⟨_, rfl⟩, ⟨_, rfl⟩, hne⟩ := frame n C e C' h
  have hS : S ≠ [] := hne fun hC => by simp [hC] at hroot
  rwa [List.getLast?_append, List.getLast?_eq_some_getLast hS, Option.some_or] at hroot ⊢

example : ∃ C', eval 5 [{ vars := [(['$', '1'], .int 7)] }] (.call .let_ [] [(.kw ['a'], .lit (.int 1))]) = .ok (.ctx C') ∧
    C' = [{ vars := [(['$', 'a'], .int 1)] }, { vars := [(['$', '1'], .int 7)] }] := ⟨_, rfl, rfl⟩

/-! ## calls of a `def`-ined function are pure: no memory between calls

A call of a `def`-ined function is `eval n (argFrame vs kvs :: D) body`: a function of the definition (`body`, the
defining context `D`) and of the argument VALUES of *this* call - of nothing else.  There is no state a call could leave
behind for the next one (no result table, no argument frame kept from an earlier activation), and the arguments are
`Value`s compared structurally: `1`, `true` and `1.0` (`Value.int 1`, `Value.bool true`, `Value.flt 0x3FF0000000000000`)
are three different arguments although the host language's `==` (the model's `pyEq`) identifies them.  The names of the
keyword arguments are data as well (`kwarg_names_verbatim`): `value`, `self`, `context`, `engine`, `receiver`, `args`,
`kwargs` are keywords like `x`. -/

/-- what one call of a `def`-ined function is: the body in a child of the DEFINING context that binds the values of this
    call's own arguments -/
def defApply (n : Nat) (D : Ctx) (body : Expr) (vs : VL) (kvs : List (Name × Value)) : R Obj :=
  eval n (argFrame vs kvs :: D) body

/-- **the result of a call is determined by its own arguments**: whatever the call site `C` binds, whatever was called
    before, whichever expressions produced the argument values -/
theorem def_call_own_args (n : Nat) (C : Ctx) (f : Name) (args : List Expr) (kw : List (Expr × Expr))
    (body : Expr) (D : Ctx) (names : List Name) (vs kvs : VL)
    (h : C.getFun (fnKey f) = some (body, D)) (hn : kwNames kw = .ok names)
    (ha : evalList (eval n) C args = .ok vs) (hk : evalList (eval n) C (kw.map (·.2)) = .ok kvs) :
    eval (n + 1) C (.ucall f args kw) = defApply n D body vs (names.zip kvs) := by
  rw [ucall_eq n C f args kw body D h, hn, ha, hk]
  rfl

/-- **`def_call_pure`**: two calls of a `def`-ined function (any two call sites that resolve to the same definition, any
    argument expressions, any spelling of the name up to trailing underscores) whose arguments have the same VALUES and
    the same keyword names return the same result - exceptions and lazy results included -/
theorem def_call_pure (n : Nat) (C1 C2 : Ctx) (f1 f2 : Name) (args1 args2 : List Expr) (kw1 kw2 : List (Expr × Expr))
    (body : Expr) (D : Ctx)
    (h1 : C1.getFun (fnKey f1) = some (body, D)) (h2 : C2.getFun (fnKey f2) = some (body, D))
    (hn : kwNames kw1 = kwNames kw2)
    (ha : evalList (eval n) C1 args1 = evalList (eval n) C2 args2)
    (hk : evalList (eval n) C1 (kw1.map (·.2)) = evalList (eval n) C2 (kw2.map (·.2))) :
    eval (n + 1) C1 (.ucall f1 args1 kw1) = eval (n + 1) C2 (.ucall f2 args2 kw2) := by
  rw [ucall_eq n C1 f1 args1 kw1 body D h1, ucall_eq n C2 f2 args2 kw2 body D h2, hn, ha, hk]

/-- `def(f, body) -> f(a1, .., an)` is the body on exactly these values, in a child of the context that registers `f` -/
theorem def_then_call (n : Nat) (C : Ctx) (f : Name) (body : Expr) (vs : VL) :
    eval (n + 4) C (.arrow (.call .def_ [.kw f, body] []) (.ucall f (vs.map .lit) [])) =
      defApply (n + 2) ({ funs := [(fnKey f, body)] } :: C) body vs [] := by
  rw [eval_def_arrow, def_call_own_args (n + 2) ({ funs := [(fnKey f, body)] } :: C) f (vs.map .lit) [] body
    ({ funs := [(fnKey f, body)] } :: C) [] vs [] (by simp [Ctx.getFun, alookup]) rfl (evalList_lits (n + 1) _ vs) rfl]
  rfl

/-- two calls side by side, `[f(a), f(b)]`: the second is the body on `b` - the first call (its argument `a`, its
    result) does not occur in it.  A result table keyed by the arguments, or an argument frame kept from the first
    activation, would make the second component depend on `a`. -/
theorem def_calls_independent (n : Nat) (C : Ctx) (f : Name) (body : Expr) (D : Ctx) (a b : Value)
    (h : C.getFun (fnKey f) = some (body, D)) :
    eval (n + 3) C (.list [.ucall f [.lit a] [], .ucall f [.lit b] []]) = (do
      let x ← defApply (n + 1) D body [a] []
      let vx ← toV x
      let y ← defApply (n + 1) D body [b] []
      let vy ← toV y
      pure (.val (.tuple [vx, vy]))) := by
  have hc : ∀ v : Value, eval (n + 2) C (.ucall f [.lit v] []) = defApply (n + 1) D body [v] [] := fun v =>
    def_call_own_args (n + 1) C f [.lit v] [] body D [] [v] [] h rfl (evalList_lits n C [v]) rfl
  rw [eval_succ (n + 2)]
  simp only [step, evalList, hc]
  simp only [bind_assoc, pure_bind, ok_bind]

/-- the `def`-ined identity hands back its argument ITSELF, for every value: `f(1)` is `1`, `f(true)` is `true`, `f(1.0)` is
    `1.0` - not "a value equal to it" -/
theorem def_identity_faithful (n : Nat) (C D : Ctx) (f : Name) (v : Value) (hv : hasIter v = false)
    (h : C.getFun (fnKey f) = some (.var ['$'], D)) :
    eval (n + 2) C (.ucall f [.lit v] []) = .ok (.val v) := by
  rw [def_call_own_args (n + 1) C f [.lit v] [] (.var ['$']) D [] [v] [] h rfl (evalList_lits n C [v]) rfl]
  exact lambda_dollar n D v [] hv

/-- ... so calls with different argument values are told apart, however "equal" the host language finds the values -/
theorem def_identity_injective (n : Nat) (C D : Ctx) (f : Name) (v w : Value) (hv : hasIter v = false)
    (hw : hasIter w = false) (h : C.getFun (fnKey f) = some (.var ['$'], D))
    (he : eval (n + 2) C (.ucall f [.lit v] []) = eval (n + 2) C (.ucall f [.lit w] [])) : v = w := by
  rw [def_identity_faithful n C D f v hv h, def_identity_faithful n C D f w hw h] at he
  injection he with he
  injection he

/-- 1, true and 1.0 are equal for the host language (`pyEq`) and three different values of the language -/
example : Value.pyEq (.int 1) (.bool true) = true ∧ Value.pyEq (.int 1) (.flt 0x3FF0000000000000) = true ∧
    Value.pyEq (.int 0) (.flt 0x8000000000000000) = true ∧
    Value.int 1 ≠ Value.bool true ∧ Value.int 1 ≠ Value.flt 0x3FF0000000000000 ∧
    Value.bool true ≠ Value.flt 0x3FF0000000000000 ∧ Value.flt 0 ≠ Value.flt 0x8000000000000000 := by
  refine ⟨by decide, by decide, by decide, ?_, ?_, ?_, ?_⟩ <;> intro h <;> cases h

-- the programs of `seeded/C04-9` (a result table keyed by the arguments) and of `seeded/C04-8` (keyword arguments named
-- like the implementation's own parameters)
-- C04-9: `def(f, [$]) -> [f(1), f(true), f(1.0)]`
example : run 20 .null (.arrow (.call .def_ [.kw ['f'], .list [.var ['$']]] [])
    (.list [.ucall ['f'] [.lit (.int 1)] [], .ucall ['f'] [.lit (.bool true)] [], .ucall ['f'] [.lit (.flt 0x3FF0000000000000)] []])) =
    .ok (.data (.list [.tuple [.int 1], .tuple [.bool true], .tuple [.flt 0x3FF0000000000000]])) := rfl
-- `def(f, $) -> $.select(f($))` on `[0, false, 1, true]`
example : run 20 (.tuple [.int 0, .bool false, .int 1, .bool true])
    (.arrow (.call .def_ [.kw ['f'], .var ['$']] []) (.method (.var ['$']) .select [.ucall ['f'] [.var ['$']] []] [])) =
    .ok (.data (.list [.int 0, .bool false, .int 1, .bool true])) := rfl
-- `def(f, {v => $x}) -> [f(x => false), f(x => 0)]`
example : run 20 .null (.arrow (.call .def_ [.kw ['f'], .map [(.kw ['v'], .var ['$', 'x'])]] [])
    (.list [.ucall ['f'] [] [(.kw ['x'], .lit (.bool false))], .ucall ['f'] [] [(.kw ['x'], .lit (.int 0))]])) =
    .ok (.data (.list [.dict [(.str ['v'], .bool false)], .dict [(.str ['v'], .int 0)]])) := rfl
-- a result holding a lazy sequence is built anew by every call: `def(wrap, [[$].select($ + 1)]) -> [wrap(1), wrap(1)]`
example : run 20 .null (.arrow (.call .def_ [.kw ['w'], .list [.method (.list [.var ['$']]) .select [.bin .add (.var ['$']) (.lit (.int 1))] []]] [])
    (.list [.ucall ['w'] [.lit (.int 1)] [], .ucall ['w'] [.lit (.int 1)] []])) =
    .ok (.data (.list [.tuple [.iter [.int 2]], .tuple [.iter [.int 2]]])) := rfl
-- `let(k => 3) -> def(f, $.items.where($ > $k)) -> [f($), f($)]` on `{"items": [1, 5, 7]}`
example : run 20 (.dict [(.str ['i', 't', 'e', 'm', 's'], .tuple [.int 1, .int 5, .int 7])])
    (.arrow (.call .let_ [] [(.kw ['k'], .lit (.int 3))])
      (.arrow (.call .def_ [.kw ['f'], .method (.member (.var ['$']) ['i', 't', 'e', 'm', 's']) .where_
          [.bin .gt (.var ['$']) (.var ['$', 'k'])] []] [])
        (.list [.ucall ['f'] [.var ['$']] [], .ucall ['f'] [.var ['$']] []]))) =
    .ok (.data (.list [.iter [.int 5, .int 7], .iter [.int 5, .int 7]])) := rfl
-- C04-8: `def(f, $value + 1) -> f(value => 1)`
example : run 20 .null (.arrow (.call .def_ [.kw ['f'], .bin .add (.var ['$', 'v', 'a', 'l', 'u', 'e']) (.lit (.int 1))] [])
    (.ucall ['f'] [] [(.kw ['v', 'a', 'l', 'u', 'e'], .lit (.int 1))])) = .ok (.data (.int 2)) := rfl
-- `def(f, [$context, $engine]) -> f(context => 1, engine => 2)`
example : run 20 .null (.arrow (.call .def_ [.kw ['f'], .list [.var ['$', 'c', 'o', 'n', 't', 'e', 'x', 't'], .var ['$', 'e', 'n', 'g', 'i', 'n', 'e']]] [])
    (.ucall ['f'] [] [(.kw ['c', 'o', 'n', 't', 'e', 'x', 't'], .lit (.int 1)), (.kw ['e', 'n', 'g', 'i', 'n', 'e'], .lit (.int 2))])) =
    .ok (.data (.list [.int 1, .int 2])) := rfl
-- `def(scale, $ * $receiver) -> $.select(scale($, receiver => 10))` on `[1, 2, 3]`
example : run 20 (.tuple [.int 1, .int 2, .int 3])
    (.arrow (.call .def_ [.kw ['s', 'c', 'a', 'l', 'e'], .bin .mul (.var ['$']) (.var ['$', 'r', 'e', 'c', 'e', 'i', 'v', 'e', 'r'])] [])
      (.method (.var ['$']) .select [.ucall ['s', 'c', 'a', 'l', 'e'] [.var ['$']]
        [(.kw ['r', 'e', 'c', 'e', 'i', 'v', 'e', 'r'], .lit (.int 10))]] [])) =
    .ok (.data (.list [.int 10, .int 20, .int 30])) := rfl
-- `let(value => 5) -> def(f, [$value, $1]) -> [f(7, value => 6), $value]`
example : run 20 .null (.arrow (.call .let_ [] [(.kw ['v', 'a', 'l', 'u', 'e'], .lit (.int 5))])
    (.arrow (.call .def_ [.kw ['f'], .list [.var ['$', 'v', 'a', 'l', 'u', 'e'], .var ['$', '1']]] [])
      (.list [.ucall ['f'] [.lit (.int 7)] [(.kw ['v', 'a', 'l', 'u', 'e'], .lit (.int 6))], .var ['$', 'v', 'a', 'l', 'u', 'e']]))) =
    .ok (.data (.list [.tuple [.int 6, .int 7], .int 5])) := rfl
-- `def(f, $self) -> f(self => ok)`
example : run 20 .null (.arrow (.call .def_ [.kw ['f'], .var ['$', 's', 'e', 'l', 'f']] [])
    (.ucall ['f'] [] [(.kw ['s', 'e', 'l', 'f'], .kw ['o', 'k'])])) = .ok (.data (.str ['o', 'k'])) := rfl
-- def_call_pure / def_calls_independent are not vacuous: a context that defines `f`
example : Ctx.getFun [{ vars := [(['$', 'k'], .int 2)] }, { funs := [(['f'], .list [.var ['$']])] }] (fnKey ['f', '_']) =
    some (.list [.var ['$']], [{ funs := [(['f'], .list [.var ['$']])] }]) := rfl

/-! ## non-vacuity: concrete instances of the hypotheses above -/

-- shadowing: two frames bind `$x`, the inner one answers
example : Ctx.get ([{ vars := [(['$', 'y'], .int 0)] }] ++ { vars := [(['$', 'x'], .int 2)] } ::
    [{ vars := [(['$', 'x'], .int 1)] }]) ['$', 'x'] = some (.int 2) :=
  shadowing _ _ _ _ _ (by decide) rfl

-- unknown_null: a context that binds other names only
example : eval 1 [{ vars := [(['$', '1'], .int 5)] }] (.var ['$', 'n', 'o', 'p', 'e']) = .ok (.val .null) :=
  unknown_null 0 _ _ (by decide)

-- closure_lexical: the caller's frames rebind the free variable `$k` of the body
example : eval 3 ([{ vars := [(['$', 'k'], .int 2)] }] ++
      [{ funs := [(['f'], .var ['$', 'k'])] }, { vars := [(['$', 'k'], .int 1)] }]) (.ucall ['f'] [] []) =
    .ok (.val (.int 1)) := rfl
example : ∀ G ∈ [({ vars := [(['$', 'k'], .int 2)] } : Frame)], alookup ['f'] G.funs = none := by decide

-- member_maps: a collection of MIXED element kinds (a dictionary, a collection of dictionaries nested twice, a scalar)
-- satisfies the element hypothesis
example : ∀ x ∈ [Value.dict [(.str ['a'], .int 1)], Value.tuple [.dict [(.str ['a'], .int 2)], .list [.dict []]], Value.int 3],
    hasIter x = false := by decide

-- fuel_mono: a definite outcome at fuel 4 is the outcome at fuel 400
example : eval 400 [] (.bin .add (.lit (.int 1)) (.lit (.int 2))) = .ok (.val (.int 3)) :=
  fuel_mono (n := 4) (by decide) [] _ _ rfl (by intro h; cases h)

-- frame: `let(..) -> let(..)` hands back two new frames on top of the starting context
example : Extends [{ vars := [(['$', '1'], .int 7)] }]
    [{ vars := [(['$', 'b'], .int 2)] }, { vars := [(['$', 'a'], .int 1)] }, { vars := [(['$', '1'], .int 7)] }] :=
  frame 6 _ (.arrow (.call .let_ [] [(.kw ['a'], .lit (.int 1))]) (.call .let_ [] [(.kw ['b'], .lit (.int 2))])) _ rfl

-- with_numbering / the `$` alias
example : run 10 .null (.arrow (.call .with_ [.lit (.int 1), .lit (.int 2)] [])
    (.list [.var ['$'], .var ['$', '1'], .var ['$', '2'], .var ['$', '0'], .var ['$', '3']])) =
    .ok (.data (.list [.int 1, .int 1, .int 2, .null, .null])) := rfl

-- nested lambdas: the inner `$` is the inner element, the outer one is restored afterwards
example : run 20 (.tuple [.int 1, .int 2])
    (.method (.var ['$']) .select [.list [.var ['$'],
      .method (.method (.list [.lit (.int 10)]) .select [.bin .add (.var ['$']) (.lit (.int 1))] []) .toList [] [],
      .var ['$']]] []) =
    .ok (.data (.list [.tuple [.int 1, .tuple [.int 11], .int 1], .tuple [.int 2, .tuple [.int 11], .int 2]])) := rfl

end Yaql.Props.C04
