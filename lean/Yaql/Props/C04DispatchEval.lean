import Yaql.Props.C04DispatchKinds
/-!
C04 - `EvalDispatch.dispatchOf` is what `Model/Eval.lean` does: ties between the direct dispatch of the
reference interpreter and the dispatch table, for ALL values.

For the strict operators, the unary operators, `#indexer`, member access and `->`:
* where the table says "no overload matches", `Eval` answers NoMatchingFunction (or makes no prediction:
  `outOfDomain` - sets, floats under `- *` and the order comparisons, lazy operands);
* where `Eval` answers NoMatchingFunction, the table says "no overload matches" - so where the table names a
  definition, `Eval` never answers with a dispatch error;
* the operands no literal spelling of which can be mapped (`litOk`) are exactly the ones the table refuses before
  anything is evaluated.
For the methods with a collection receiver: `Eval` refuses the receiver (the NoMatching error of the calling
form, before any argument is evaluated) exactly when the table refuses it.
Together with `C04DispatchGen.C04Dispatch_partial` (the table IS overload resolution on the live registry):
the error classes NoMatching / Unknown of `Eval` are those of the real resolution, and every other outcome of
`Eval` is produced by the code written for the definition the real resolution picks.
-/
namespace Yaql.Props.C04DispatchEval
open Yaql Yaql.Value Yaql.Eval Yaql.EvalDispatch

/-- an operand expression that is no literal, with a value of the kind of `v` -/
abbrev shV (v : Value) : AShape := .expr false (kindOfV v)
abbrev shO (o : Obj) : AShape := .expr false (kindOf o)

/-! ## binary operators -/

theorem fltResult_ne (m e : Int) (z : Bool) : Seq.fltResult m e z ≠ .error .noFunction := by
  unfold Seq.fltResult
  split
  · simp
  · split <;> simp

theorem ite_flt_ne (c : Prop) [Decidable c] (m e : Int) (z : Bool) :
    (if c then Seq.fltResult m e z else .error .outOfDomain) ≠ .error .noFunction := by
  split
  · exact fltResult_ne _ _ _
  · simp

theorem addNum_ne (a b : Value) : Seq.addNum a b ≠ .error .noFunction := by
  unfold Seq.addNum
  split
  · dsimp only
    exact ite_flt_ne _ _ _ _
  · simp

theorem ofSeq_noFunction (e : Seq.Err) : Err.ofSeq e = .noFunction ↔ e = .noFunction := by
  cases e <;> simp [Err.ofSeq]

theorem liftSeq_addNum (a b : Value) : liftSeq (Seq.addNum a b) ≠ .error .noFunction := by
  intro h
  cases hx : Seq.addNum a b with
  | ok v => rw [hx] at h; cases h
  | error e =>
    rw [hx] at h
    simp only [liftSeq, Except.error.injEq, ofSeq_noFunction] at h
    exact addNum_ne a b (by rw [hx, h])

def errOf {α : Type} : R α → Option Err
  | .ok _ => none
  | .error e => some e

def FailsAs {α : Type} (x : R α) : Option Err → Prop
  | some e => x = .error e
  | none => x ≠ .error .noFunction

theorem failsAs_of_errOf {α : Type} {x : R α} {k : Option Err} (h : errOf x = k) : FailsAs x k := by
  subst h
  cases x with
  | ok _ => exact nofun
  | error _ => exact rfl

theorem FailsAs.bind_pure {α β : Type} {x : R α} {k : Option Err} (h : FailsAs x k) (f : α → β) :
    FailsAs (x >>= fun r => pure (f r)) k := by
  cases x with
  | error _ => cases k with
    | none => intro h'; cases h'; exact h rfl
    | some _ => cases h; rfl
  | ok _ => cases k with
    | none => exact nofun
    | some _ => cases h

def cmpErrK : Kind → Kind → Option Err
  | .null, _ | _, .null | .int, .int | .str, .str => none
  | .set, _ | _, .set | .float, _ | _, .float | .host, _ | _, .host => some .outOfDomain
  | _, _ => some .noFunction

/-- how `binopV` fails; `none`: no failure, or one that is not decided by the kinds -/
def binopErrK (op : BinOp) (a b : Kind) : Option Err :=
  match op with
  | .add =>
    match a, b with
    | .int, .int | .int, .float | .float, .int | .float, .float | .str, .str | .tuple, .tuple | .set, .set
    | .dict, .dict => none
    | a, b => if a.iterable && b.iterable then some .outOfDomain else some .noFunction
  | .sub =>
    match a, b with
    | .int, .int => none
    | .set, _ | _, .set | .float, _ | _, .float | .host, _ | _, .host => some .outOfDomain
    | _, _ => some .noFunction
  | .mul =>
    match a, b with
    | .int, .int => none
    | .null, _ | _, .null | .bool, _ | _, .bool | .dict, _ | _, .dict => some .noFunction
    | _, _ => some .outOfDomain
  | .eq | .ne => none
  | .lt | .le | .gt | .ge => cmpErrK a b
  | .and | .or => some .outOfDomain

theorem cmpV_err (op : BinOp) (a b : Value) : errOf (cmpV op a b) = cmpErrK (kindOfV a) (kindOfV b) := by
  cases a <;> cases b <;> rfl

theorem binopV_err (op : BinOp) (a b : Value) : FailsAs (binopV op a b) (binopErrK op (kindOfV a) (kindOfV b)) := by
  cases op
  case add =>
    cases a <;> cases b
    case int.flt | flt.int | flt.flt => exact liftSeq_addNum _ _
    all_goals exact failsAs_of_errOf rfl
  case sub | mul => cases a <;> cases b <;> exact failsAs_of_errOf rfl
  case eq | ne | and | or => exact failsAs_of_errOf rfl
  case lt | le | gt | ge => exact (failsAs_of_errOf (cmpV_err _ a b)).bind_pure _

def ctxErr : BinOp → Err
  | .eq | .ne | .lt | .le | .gt | .ge => .outOfDomain
  | _ => .noFunction

def binopErrO (op : BinOp) (a b : Kind) : Option Err :=
  if a = .ctx ∨ b = .ctx then some (ctxErr op) else binopErrK op a b

theorem binop_ctx_left (op : BinOp) (c : Ctx) (y : Obj) : binop op (.ctx c) y = .error (ctxErr op) := by
  cases op <;> rfl

theorem binop_ctx_right (op : BinOp) (x : Obj) (c : Ctx) : binop op x (.ctx c) = .error (ctxErr op) := by
  cases x <;> cases op <;> rfl

theorem kindOfV_ne_ctx (v : Value) : kindOfV v ≠ .ctx := by
  cases v <;> nofun

theorem binopErrO_val (op : BinOp) (a b : Value) :
    binopErrO op (kindOfV a) (kindOfV b) = binopErrK op (kindOfV a) (kindOfV b) :=
  if_neg (by simp [kindOfV_ne_ctx])

/-- no prediction for an operand with a one-shot iterator in it; otherwise the failure the kinds decide -/
theorem binop_err (op : BinOp) (x y : Obj) :
    binop op x y = .error .outOfDomain ∨ FailsAs (binop op x y) (binopErrO op (kindOf x) (kindOf y)) := by
  cases y with
  | ctx c => right; rw [binop_ctx_right, binopErrO, if_pos (.inr rfl)]; exact rfl
  | lazy _ _ | ordered _ _ => cases x with
    | ctx c => right; rw [binop_ctx_left]; exact rfl
    | _ => left; simp [binop, isLazy]
  | val b => cases x with
    | ctx c => right; rw [binop_ctx_left]; exact rfl
    | lazy _ _ | ordered _ _ => left; simp [binop, isLazy]
    | val a =>
      cases hl : hasIter a || hasIter b with
      | true => left; simp [binop, isLazy, hl]
      | false =>
        right
        have e : binop op (.val a) (.val b) = binopV op a b >>= fun r => pure (.val r) := by
          simp [binop, isLazy, hl, toV]
          rfl
        rw [e]
        exact binopErrO_val op a b ▸ (binopV_err op a b).bind_pure _

/-- what the two directions of a tie need of the table (`miss`: it has no overload): it misses only where `k` says
    NoMatchingFunction or "no prediction", and everywhere `k` says NoMatchingFunction -/
theorem FailsAs.dispatch {α : Type} {x : R α} {k : Option Err} {miss : Prop} [Decidable miss]
    (h : x = .error .outOfDomain ∨ FailsAs x k)
    (ht : if miss then k = some .noFunction ∨ k = some .outOfDomain else k ≠ some .noFunction) :
    (miss → x = .error .noFunction ∨ x = .error .outOfDomain) ∧ (x = .error .noFunction → miss) := by
  rcases h with rfl | h
  · exact ⟨fun _ => .inr rfl, nofun⟩
  · split at ht
    · rename_i hm
      refine ⟨fun _ => ?_, fun _ => hm⟩
      rcases ht with rfl | rfl
      · exact .inl h
      · exact .inr h
    · rename_i hm
      refine ⟨fun h' => absurd h' hm, fun hx => ?_⟩
      subst hx
      cases k with
      | none => exact absurd rfl h
      | some e => cases h; exact absurd rfl ht

theorem dispBin_binopErrO : ∀ op ∈ BinOp.all, op ≠ .and ∧ op ≠ .or → ∀ k₁ ∈ Kind.all, ∀ k₂ ∈ Kind.all,
    if (dispBin op (.expr false k₁) (.expr false k₂)).out = .noMatching
    then binopErrO op k₁ k₂ = some .noFunction ∨ binopErrO op k₁ k₂ = some .outOfDomain
    else binopErrO op k₁ k₂ ≠ some .noFunction := by
  decide +kernel

theorem dispBin_of_failsAs {α : Type} {x : R α} {op : BinOp} (hop : op ≠ .and ∧ op ≠ .or) {k₁ k₂ : Kind}
    (h : x = .error .outOfDomain ∨ FailsAs x (binopErrO op k₁ k₂)) :
    ((dispBin op (.expr false k₁) (.expr false k₂)).out = .noMatching →
      x = .error .noFunction ∨ x = .error .outOfDomain) ∧
    (x = .error .noFunction → (dispBin op (.expr false k₁) (.expr false k₂)).out = .noMatching) :=
  FailsAs.dispatch h (dispBin_binopErrO op (BinOp.mem_all op) hop k₁ k₁.mem_all k₂ k₂.mem_all)

/-- `+ - * = != < <= > >=` on values: NoMatchingFunction exactly where the table has no overload, up to "no prediction" -/
theorem binopV_dispatch (op : BinOp) (hop : op ≠ .and ∧ op ≠ .or) (a b : Value) :
    ((dispBin op (shV a) (shV b)).out = .noMatching →
      binopV op a b = .error .noFunction ∨ binopV op a b = .error .outOfDomain) ∧
    (binopV op a b = .error .noFunction → (dispBin op (shV a) (shV b)).out = .noMatching) :=
  dispBin_of_failsAs hop (.inr (binopErrO_val op a b ▸ binopV_err op a b))

/-- the same on run-time objects (contexts, lazy sequences, orderings included) -/
theorem binop_dispatch (op : BinOp) (hop : op ≠ .and ∧ op ≠ .or) (x y : Obj) :
    ((dispBin op (shO x) (shO y)).out = .noMatching →
      binop op x y = .error .noFunction ∨ binop op x y = .error .outOfDomain) ∧
    (binop op x y = .error .noFunction → (dispBin op (shO x) (shO y)).out = .noMatching) :=
  dispBin_of_failsAs hop (binop_err op x y)

theorem dispAdd_early {a : AShape} (h : constFails a (fun k => k.num || k == .str) = true) (b : AShape) :
    dispBin .add a b = early ∧ dispBin .add b a = early := by
  simp [dispBin, dispAdd, h]

theorem dispSub_early {a : AShape} (h : constFails a Kind.num = true) (b : AShape) :
    dispBin .sub a b = early ∧ dispBin .sub b a = early := by
  simp [dispBin, dispSub, h]

theorem dispMul_early {a : AShape} (h : constFails a (fun k => k.num || k == .str) = true) (b : AShape) :
    dispBin .mul a b = early ∧ dispBin .mul b a = early := by
  simp [dispBin, dispMul, h]

/-- an operand `Eval.litOk` refuses is a constant no overload of the operator takes at either position: the table
    refuses the call before anything is evaluated, whatever the other operand is -/
theorem early_of_not_litOk (op : BinOp) (e : Expr) (k : Kind) (other : AShape) (hl : litOk op e = false) :
    dispBin op (argShape e k) other = early ∧ dispBin op other (argShape e k) = early := by
  cases e with
  | lit v =>
    cases v with
    | null | bool _ =>
      cases op
      case add => exact dispAdd_early (by rfl) _
      case sub => exact dispSub_early (by rfl) _
      case mul => exact dispMul_early (by rfl) _
      all_goals cases hl
    | str _ =>
      cases op
      case sub => exact dispSub_early (by rfl) _
      all_goals cases hl
    | _ => cases hl
  | kw _ =>
    cases op
    case sub => exact dispSub_early (by rfl) _
    all_goals cases hl
  | _ => cases hl

/-- `early_of_not_litOk`; none of the side conditions is needed -/
theorem litOk_early (op : BinOp) (hop : op ≠ .and ∧ op ≠ .or) (e : Expr) (k : Kind) (other : AShape)
    (ho : other.isConst = false) (hr : other.isRule = false) (hv : ∀ v, e = .lit v → v = .null ∨ (∃ b, v = .bool b) ∨
      (∃ i, v = .int i) ∨ (∃ w, v = .flt w) ∨ (∃ s, v = .str s)) :
    litOk op e = false →
      dispBin op (argShape e k) other = early ∧ dispBin op other (argShape e k) = early :=
  early_of_not_litOk op e k other

/-! ## unary operators -/

def unopErrK : UnOp → Kind → Option Err
  | .not, _ | .neg, .int => none
  | .neg, .float | .neg, .lazy | .neg, .ordered => some .outOfDomain
  | .neg, _ => some .noFunction

theorem unop_err (op : UnOp) (x : Obj) :
    unop op x = .error .outOfDomain ∨ FailsAs (unop op x) (unopErrK op (kindOf x)) := by
  cases op with
  | not =>
    right
    cases x with
    | val v => simp only [unop]; split <;> exact nofun
    | _ => exact nofun
  | neg =>
    cases x with
    | val v =>
      cases v with
      | int _ => exact .inr nofun
      | flt _ | iter _ => exact .inl rfl
      | null | bool _ | str _ | host _ => exact .inr rfl
      | tuple _ | list _ | set _ | dict _ =>
        simp only [unop]
        split
        · exact .inl rfl
        · exact .inr rfl
    | ctx _ | lazy _ _ | ordered _ _ => exact .inr rfl

theorem dispUn_unopErrK : ∀ op ∈ [UnOp.not, .neg], ∀ k ∈ Kind.all,
    if (dispUn op (.expr false k)).out = .noMatching
    then unopErrK op k = some .noFunction ∨ unopErrK op k = some .outOfDomain
    else unopErrK op k ≠ some .noFunction := by
  decide +kernel

theorem unop_dispatch (op : UnOp) (x : Obj) :
    ((dispUn op (shO x)).out = .noMatching → unop op x = .error .noFunction ∨ unop op x = .error .outOfDomain) ∧
    (unop op x = .error .noFunction → (dispUn op (shO x)).out = .noMatching) :=
  FailsAs.dispatch (unop_err op x) (dispUn_unopErrK op (by cases op <;> decide) _ (kindOf x).mem_all)

/-! ## `e[k]`, `e[k, default]` -/

theorem liftSeq_ite_index (c : Prop) [Decidable c] (v : Value) :
    liftSeq (if c then .ok v else .error .index) ≠ .error .noFunction := by
  split <;> simp [liftSeq, Err.ofSeq]

theorem pyIndex_ne (l : VL) (i : Int) : liftSeq (Seq.pyIndex l i) ≠ .error .noFunction := by
  unfold Seq.pyIndex
  dsimp only
  exact liftSeq_ite_index _ _

theorem seqIndex_ne (l : VL) (i : Int) :
    (do let v ← liftSeq (Seq.pyIndex l i); pure (Obj.val v) : R Obj) ≠ .error .noFunction := by
  cases hx : liftSeq (Seq.pyIndex l i) with
  | ok v => simp [bind, Except.bind, pure, Except.pure]
  | error e =>
    simp only [bind, Except.bind, ne_eq, Except.error.injEq]
    intro he
    exact pyIndex_ne l i (by rw [hx, he])

theorem intOfIndex_iff (k : Value) : (intOfIndex k).isSome = (kindOfV k).intLike := by
  cases k <;> rfl

theorem dictIndex_ne (d : KV) (k : Value) :
    (if hashable k then (match Seq.dGet d k with | some v => (.ok (.val v) : R Obj) | none => .error .key)
     else .error (keyErr k)) ≠ .error .noFunction := by
  split
  · split <;> simp
  · unfold keyErr; split <;> simp

theorem dictIndexD_ne (d : KV) (k dflt : Value) :
    (if hashable k then (.ok (.val ((Seq.dGet d k).getD dflt)) : R Obj) else .error (keyErr k)) ≠ .error .noFunction := by
  split
  · simp
  · unfold keyErr; split <;> simp

/-- `#indexer`: NoMatchingFunction exactly where the table has no overload -/
theorem indexer_dispatch (r : Obj) (vs : VL) :
    indexer r vs = .error .noFunction ↔ (dispIndexer (shO r :: vs.map shV)).out = .noMatching := by
  have hseq : ∀ (l : VL) (k : Value) (e : Obj), (e = .val (.tuple l) ∨ e = .val (.list l)) →
      (indexer e [k] = .error .noFunction ↔ (kindOfV k).intLike = false) := by
    intro l k e he
    rw [← intOfIndex_iff]
    rcases he with rfl | rfl <;>
      (cases hi : intOfIndex k with
       | none => simp [indexer, hi]
       | some i => simpa [indexer, hi] using seqIndex_ne l i)
  match r, vs with
  | _, [] => cases r <;> first | (rename_i v; cases v <;> simp [indexer, dispIndexer, early]) | simp [indexer, dispIndexer, early]
  | _, _ :: _ :: _ :: _ =>
    cases r <;> first | (rename_i v; cases v <;> simp [indexer, dispIndexer, early]) | simp [indexer, dispIndexer, early]
  | .lazy _ _, [k] | .ordered _ _, [k] | .ctx _, [k] =>
    simp [indexer, dispIndexer, shO, kindOf, kindIs, AShape.kind, AShape.isConst, Kind.sequence, isK, miss]
  | .lazy _ _, [k, d] | .ordered _ _, [k, d] | .ctx _, [k, d] =>
    simp [indexer, dispIndexer, shO, kindOf, kindIs, AShape.kind, AShape.isConst, isK, miss]
  | .val v, [k] =>
    cases v with
    | tuple l =>
      rw [hseq l k _ (Or.inl rfl)]
      cases k <;>
        simp [dispIndexer, shO, shV, kindOf, kindOfV, kindIs, AShape.kind, AShape.isConst, Kind.sequence, Kind.intLike,
          isK, hit, miss]
    | list l =>
      rw [hseq l k _ (Or.inr rfl)]
      cases k <;>
        simp [dispIndexer, shO, shV, kindOf, kindOfV, kindIs, AShape.kind, AShape.isConst, Kind.sequence, Kind.intLike,
          isK, hit, miss]
    | dict d =>
      have := dictIndex_ne d k
      simp [indexer, dispIndexer, shO, shV, kindOf, kindOfV, kindIs, AShape.kind, AShape.isConst, Kind.sequence, isK, hit,
        miss]
      exact this
    | _ =>
      simp [indexer, dispIndexer, shO, shV, kindOf, kindOfV, kindIs, AShape.kind, AShape.isConst, Kind.sequence, isK, hit,
        miss]
  | .val v, [k, d] =>
    cases v with
    | dict kv =>
      have := dictIndexD_ne kv k d
      simp [indexer, dispIndexer, shO, shV, kindOf, kindOfV, kindIs, AShape.kind, AShape.isConst, isK, hit, miss]
      exact this
    | _ => simp [indexer, dispIndexer, shO, shV, kindOf, kindOfV, kindIs, AShape.kind, AShape.isConst, isK, hit, miss]

/-! ## `e.name` -/

/-- member access falls through to `#property#name` (Eval: unknown function) exactly where the table picks
    `system.get_property`; sets are outside Eval's domain -/
theorem memberOf_dispatch (r : Obj) (name : Eval.Name) (hset : kindOf r ≠ .set) :
    memberOf r name = .error .unknownFunction ↔
      (dispMember (shO r) name).out = .target [115, 121, 115, 116, 101, 109, 46, 103, 101, 116, 95, 112, 114, 111, 112, 101, 114, 116, 121] := by
  have hmap : ∀ (xs : VL) (e : Option Err),
      (do let s ← mapL (memberV name) xs e; pure (Obj.lazy s.1 s.2) : R Obj) ≠ .error .unknownFunction := by
    intro xs
    induction xs with
    | nil => intro e; simp [mapL, bind, Except.bind, pure, Except.pure]
    | cons x xs ih =>
      intro e
      simp only [mapL]
      cases hc : capture (memberV name x) with
      | error er =>
        have : er = .fuel ∨ er = .outOfDomain := by
          cases hm : memberV name x with
          | ok _ => simp [capture, hm] at hc
          | error e' => cases e' <;> simp [capture, hm] at hc <;> simp [← hc]
        rcases this with rfl | rfl <;> simp [bind, Except.bind]
      | ok rr =>
        cases rr with
        | error er => simp [bind, Except.bind, pure, Except.pure]
        | ok v =>
          have := ih e
          cases hm : mapL (memberV name) xs e with
          | error er =>
            simp [hm, bind, Except.bind, pure, Except.pure] at this ⊢
            exact this
          | ok s => simp [bind, Except.bind, pure, Except.pure]
  -- a dictionary answers or raises KeyError, a collection maps over its elements (`hmap`): the table names other
  -- definitions for both; every other receiver falls through to `#property#name` on both sides
  have hne : ∀ p q : PName, p ≠ q → Outcome.target p ≠ .target q := fun _ _ h e => h (Outcome.target.inj e)
  cases r with
  | val v =>
    cases v with
    | set _ => exact absurd rfl hset
    | dict d => exact iff_of_false (by simp only [memberOf]; split <;> nofun) (hne _ _ (by decide))
    | tuple l | list l | iter l => exact iff_of_false (hmap l none) (hne _ _ (by decide))
    | null | bool _ | int _ | flt _ | str _ | host _ => exact iff_of_true rfl rfl
  | lazy xs e | ordered xs e => exact iff_of_false (hmap xs e) (hne _ _ (by decide))
  | ctx _ => exact iff_of_true rfl rfl

/-! ## methods with a collection receiver -/

/-- what a parameter declared `Iterable()` accepts: the kinds the table calls iterable - sets apart, which Eval does
    not model -/
theorem toIter_iff (r : Obj) (hset : kindOf r ≠ .set) : (toIter r).isSome = (kindOf r).iterable := by
  cases r with
  | val v => cases v <;> first | rfl | simp [kindOf, kindOfV] at hset
  | _ => rfl

theorem argShape_isRule (l : Expr) (k : Kind) : (argShape l k).isRule = false := by
  cases l with
  | lit v => cases v <;> rfl
  | _ => rfl

/-- the signature is that of a builtin `f(collection, lambda)`, called as a method -/
theorem dispSig_iter_lam (pl : PName) (k : Kind) {a : AShape} (ha : a.isRule = false) :
    dispSig { payload := pl, req := [pIter, pLam] } (some k) [a] = early ↔ k.iterable = false := by
  have hpre : pLam.pre a = true := by cases a <;> first | rfl | cases ha
  have hpv : pIter.pre (.value k) = k.iterable := rfl
  have hqv : pIter.post (.value k) = k.iterable := rfl
  have hql : pLam.post a = true := rfl
  cases hk : k.iterable <;> simp [dispSig, Sig.params, allB, hpv, hqv, hql, hk, hpre, early, eagerProbes]

/-- `r.select(l)` and its like: the receiver is refused - with the NoMatching error of the calling form and before the
    lambda is looked at - exactly when the table refuses it -/
theorem lambda_method_receiver (ev : Ev) (C : Ctx) (bad : Err) (r : Obj) (l : Expr) (f : Fn)
    (hf : f = .select ∨ f = .where_ ∨ f = .selectMany ∨ f = .takeWhile ∨ f = .skipWhile ∨ f = .indexWhere ∨
      f = .orderBy ∨ f = .orderByDescending) (hset : kindOf r ≠ .set) :
    ((kindOf r).iterable = false → callMethod ev C bad r f [l] = .error bad) ∧
    (dispFn f (some (kindOf r)) [argShape l .null] = some early ↔ (kindOf r).iterable = false) := by
  constructor
  · intro hk
    have hn : toIter r = none :=
      Option.not_isSome_iff_eq_none.1 (by rw [toIter_iff r hset, hk]; exact Bool.false_ne_true)
    rcases hf with rfl | rfl | rfl | rfl | rfl | rfl | rfl | rfl <;> simp only [callMethod, hn]
  · have ha := argShape_isRule l .null
    have hks : kwSplit [argShape l .null] = some ([argShape l .null], []) := by
      cases h : argShape l .null <;> first | rfl | (rw [h] at ha; cases ha)
    rcases hf with rfl | rfl | rfl | rfl | rfl | rfl | rfl | rfl <;>
      (simp only [dispFn, fnIsMethod, fnIsFunction, hks, fnSig, Option.isSome_some, if_true, Bool.not_true,
        Bool.false_eq_true, if_false, Option.map_some]
       exact Option.some_inj.trans (dispSig_iter_lam _ _ ha))

end Yaql.Props.C04DispatchEval
