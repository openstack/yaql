import Yaql.Model.Parser
import Yaql.Props.C03Parse
import Yaql.Props.C02Levels
/-!
C02, tree layer: the parser returns exactly the trees the operator table dictates.

`WF c t` says that `t` is such a tree.  It is local: at every operator node the rules still open at the right edge
of the left operand (`rsr`) are reduced before the operator's token, and no postfix operation along the left edge
of the right operand (`lsp`) is captured by the operator's rule; `yield` spells a tree as tokens.

* Soundness (`parse_sound`): `StOK` is an invariant of the machine - every frame of the stack holds `WF` pieces that
  are closed against the frame below (`StackOK`; `LeftOK` is what a frame asks of the value it was opened on), and
  so does the completed value (`CurOK`) - and `yieldSt`, the spelling of stack and value, grows by the token read
  (`step_inv`).
* Completeness (`parse_roundtrip`): by induction over a `WF` tree, its tokens lead from a state that expects a
  value to the state with the tree's open operators on the stack (`spineFrames`) and its last completed operand in
  `cur` (`spineLast`) - this is `RunsTo`; `reduceWhile` then folds the spine back into the tree.
* `parse_iff` joins the two; positions and unused token values do not matter (`step_norm`, from
  `C03Parse.step_same`).
-/
namespace Yaql.Props.C02
open Yaql.Syntax Yaql.OpTable
open Yaql.Props.C03Parse (run_append carriesVal step_same)

def tok (k : TokKind) (v : TokVal := .none) : Token := ⟨k, v, 0⟩
def tOp (sym : Str) : Token := tok (.op sym)
def tLit (ch : Char) : Token := tok (.lit ch)

/-- what a tree can reproduce of a token: kind and (for tokens that carry one) value; not the position -/
def norm (t : Token) : Token :=
  match t.kind with
  | .op _ | .lit _ | .indexer | .map | .mapping => ⟨t.kind, .none, 0⟩
  | _ => ⟨t.kind, t.val, 0⟩

def isPrefix (c : Cfg) (sym : Str) : Bool :=
  match c.opRec sym with
  | some o => decide (o.up > 0)
  | none => false

/-- precedences of the operator rules still open at the right edge of a tree (outermost first) -/
def rsr (c : Cfg) : Ast → List Prec
  | .binary sym _ _ r =>
      (match c.opRec sym with | some o => c.tokPrec o | none => noPrec) :: rsr c r
  | .unary sym _ x =>
      match c.opRec sym with
      | some o => if o.up > 0 then c.unaryPrec o :: rsr c x else []
      | none => []
  | _ => []

/-- token precedences of the postfix operations applied along the left edge of a tree (outermost first) -/
def lsp (c : Cfg) : Ast → List Prec
  | .binary sym _ l _ =>
      (match c.opRec sym with | some o => c.tokPrec o | none => noPrec) :: lsp c l
  | .unary sym _ x =>
      match c.opRec sym with
      | some o => if o.up > 0 then [] else c.tokPrec o :: lsp c x
      | none => []
  | .index b _ => c.indexerPrec :: lsp c b
  | .call f _ => noPrec :: lsp c f
  | _ => []

def isValue : Ast → Bool
  | .noValue => false
  | .mappingRule _ _ => false
  | _ => true

/-- the `args` grammar as a condition on the slot list, read from a slot start with `budget`/`named`
as in `Frame.args` -/
def slotsOK : Nat → Bool → List Ast → Bool
  | _, _, [] => false
  | b, nm, .noValue :: rest => !nm && !rest.isEmpty && slotsOK (b - 1) false rest
  | b, nm, .mappingRule _ _ :: rest => (nm || decide (b ≥ 1)) && (rest.isEmpty || slotsOK 0 true rest)
  | _, nm, _ :: rest => !nm && (rest.isEmpty || slotsOK 2 false rest)

def argsOK (as : List Ast) : Bool := as.isEmpty || slotsOK 1 false as

mutual
/-- the conditions of `WF` at every node, for any tree (also a `noValue` or `name => value` slot); `WFL`: for every
tree of a list -/
def WFn (c : Cfg) : Ast → Prop
  | .const k _ => k = .quoted ∨ k = .number ∨ k = .true_ ∨ k = .false_ ∨ k = .null_
  | .keywordConst _ => True
  | .getContextValue _ => True
  | .binary sym al l r =>
      ∃ o, c.opRec sym = some o ∧ o.bp ≠ 0 ∧ al = o.alias ∧
        isValue l = true ∧ isValue r = true ∧ WFn c l ∧ WFn c r ∧
        (∀ ρ ∈ rsr c l, reduceOver ρ (c.tokPrec o) = true) ∧
        (∀ p ∈ lsp c r, reduceOver (c.tokPrec o) p = false)
  | .unary sym al x =>
      ∃ o, c.opRec sym = some o ∧ o.up ≠ 0 ∧ al = o.alias ∧ isValue x = true ∧ WFn c x ∧
        (if o.up > 0 then ∀ p ∈ lsp c x, reduceOver (c.unaryPrec o) p = false
         else ∀ ρ ∈ rsr c x, reduceOver ρ (c.tokPrec o) = true)
  | .index b as =>
      isValue b = true ∧ WFn c b ∧ (∀ ρ ∈ rsr c b, reduceOver ρ c.indexerPrec = true) ∧
        argsOK as = true ∧ WFL c as
  | .list as => argsOK as = true ∧ WFL c as
  | .map as => argsOK as = true ∧ WFL c as
  | .func _ as => argsOK as = true ∧ WFL c as
  | .call f as =>
      c.delegates = true ∧ isValue f = true ∧ WFn c f ∧ (∀ ρ ∈ rsr c f, reduceOver ρ noPrec = true) ∧
        argsOK as = true ∧ WFL c as
  | .wrap e => isValue e = true ∧ WFn c e
  | .mappingRule s d => isValue s = true ∧ isValue d = true ∧ WFn c s ∧ WFn c d
  | .noValue => True
def WFL (c : Cfg) : List Ast → Prop
  | [] => True
  | a :: as => WFn c a ∧ WFL c as
end

/-- **the precedence-correctness predicate**: a value tree in which every operator's operands are
what the operator table (through ply's levels) dictates -/
def WF (c : Cfg) (t : Ast) : Prop := isValue t = true ∧ WFn c t

mutual
def yield (c : Cfg) : Ast → List Token
  | .const k v => [tok k v]
  | .keywordConst v => [tok .keyword v]
  | .getContextValue v => [tok .dollar v]
  | .binary sym _ l r => yield c l ++ tOp sym :: yield c r
  | .unary sym _ x => if isPrefix c sym then tOp sym :: yield c x else yield c x ++ [tOp sym]
  | .index b as => yield c b ++ tok .indexer :: (yieldL c as ++ [tLit ']'])
  | .list as => tok .indexer :: (yieldL c as ++ [tLit ']'])
  | .map as => tok .map :: (yieldL c as ++ [tLit '}'])
  | .func n as => tok .func n :: (yieldL c as ++ [tLit ')'])
  | .call f as => yield c f ++ tLit '(' :: (yieldL c as ++ [tLit ')'])
  | .wrap e => tLit '(' :: (yield c e ++ [tLit ')'])
  | .mappingRule s d => yield c s ++ tok .mapping :: yield c d
  | .noValue => []
def yieldL (c : Cfg) : List Ast → List Token
  | [] => []
  | a :: as => yield c a ++ (match as with | [] => [] | _ :: _ => tLit ',' :: yieldL c as)
end

/-! ## Invariants of the machine (soundness direction) -/

/-- precedence of the operator rule open on top of the stack, if the top frame is one -/
def ctxOf (c : Cfg) : List Frame → Option Prec
  | .binop _ _ o :: _ => some (c.tokPrec o)
  | .pre _ o :: _ => some (c.unaryPrec o)
  | _ => none

/-- a postfix token of precedence `p` is shifted (not reduced over) in context `ctx` -/
def shifts (ctx : Option Prec) (p : Prec) : Prop := ∀ ρ, ctx = some ρ → reduceOver ρ p = false

/-- `reduceWhile c p` reduces a rule of precedence `ρ` -/
def redP (p : Option Prec) (ρ : Prec) : Prop :=
  match p with
  | none => True
  | some p => reduceOver ρ p = true

/-- where `reduceWhile` stops -/
def stopP (c : Cfg) (p : Option Prec) (S : List Frame) : Prop :=
  match p with
  | some p => shifts (ctxOf c S) p
  | none => ctxOf c S = none

/-- the value `v` above the stack `S` while `reduceWhile c p` runs: `WFn`, the rules open at its right edge are
reduced by `reduceWhile c p`, its postfix operations are not captured by the rule on top of `S` -/
def Operand (c : Cfg) (p : Option Prec) (S : List Frame) (v : Ast) : Prop :=
  isValue v = true ∧ WFn c v ∧ (∀ ρ ∈ rsr c v, redP p ρ) ∧ ∀ q ∈ lsp c v, shifts (ctxOf c S) q

/-- `v` above `S` is the left operand of a token of precedence `p`: where `reduceWhile c (some p)` stops -/
def LeftOK (c : Cfg) (S : List Frame) (p : Prec) (v : Ast) : Prop :=
  Operand c (some p) S v ∧ shifts (ctxOf c S) p

/-- the completed value: `WFn`, no operator rule open at its right edge, its postfix operations not captured by the stack -/
def CurOK (c : Cfg) (S : List Frame) (v : Ast) : Prop :=
  isValue v = true ∧ WFn c v ∧ rsr c v = [] ∧ ∀ p ∈ lsp c v, shifts (ctxOf c S) p

theorem CurOK.operand {c : Cfg} {S : List Frame} {v : Ast} (h : CurOK c S v) (p : Option Prec) : Operand c p S v :=
  ⟨h.1, h.2.1, by rw [h.2.2.1]; simp, h.2.2.2⟩

/-- state of the slot machine after the completed slots `acc` (each followed by a comma) -/
def slotsPre : Nat → Bool → List Ast → Option (Nat × Bool)
  | b, nm, [] => some (b, nm)
  | b, nm, .noValue :: rest => if nm then none else slotsPre (b - 1) false rest
  | b, nm, .mappingRule _ _ :: rest => if nm || decide (b ≥ 1) then slotsPre 0 true rest else none
  | _, nm, _ :: rest => if nm then none else slotsPre 2 false rest

/-- the value an index or call bracket was opened on is a left operand of the bracket -/
def kindOK (c : Cfg) (S : List Frame) : ArgKind → Prop
  | .index b => LeftOK c S c.indexerPrec b
  | .call f => c.delegates = true ∧ LeftOK c S noPrec f
  | _ => True

/-- every frame holds `WFn` values closed against the frame below; an `.amb` frame occurs only on top (`StOK`) -/
def StackOK (c : Cfg) : List Frame → Prop
  | [] => True
  | .paren :: S => StackOK c S
  | .binop l sym o :: S => c.opRec sym = some o ∧ o.bp ≠ 0 ∧ LeftOK c S (c.tokPrec o) l ∧ StackOK c S
  | .pre sym o :: S => c.opRec sym = some o ∧ o.up > 0 ∧ StackOK c S
  | .amb _ _ _ :: _ => False
  | .args k acc b nm fresh :: S =>
      kindOK c S k ∧ WFL c acc ∧ slotsPre 1 false acc = some (b, nm) ∧ (fresh = true ↔ acc = []) ∧ StackOK c S
  | .named src :: S =>
      isValue src = true ∧ WFn c src ∧
      (match S with | .args _ _ b nm _ :: _ => nm = true ∨ b ≥ 1 | _ => False) ∧ StackOK c S

/-- the machine invariant; an `.amb` frame is a `.binop` frame of a symbol that is also a suffix operator -/
def StOK (c : Cfg) (st : St) : Prop :=
  match st.cur, st.stack with
  | none, .amb l sym o :: S => o.up < 0 ∧ StackOK c (.binop l sym o :: S)
  | none, S => StackOK c S
  | some v, S => StackOK c S ∧ CurOK c S v

/-- `StOK` for a state whose top frame is not `.amb`: every step but `stepAfter` on a suffix-or-binary symbol ends in one -/
def StOKn (c : Cfg) (st : St) : Prop :=
  match st.cur with
  | none => StackOK c st.stack
  | some v => StackOK c st.stack ∧ CurOK c st.stack v

theorem StOKn_imp {c : Cfg} {st : St} (h : StOKn c st) : StOK c st := by
  obtain ⟨S, cur⟩ := st
  cases cur with
  | some v => exact h
  | none =>
    cases S with
    | nil => exact h
    | cons f S => cases f <;> first | exact h | (simp [StOKn, StackOK] at h)

def opener (c : Cfg) : ArgKind → List Token
  | .func n => [tok .func n]
  | .index b => yield c b ++ [tok .indexer]
  | .list => [tok .indexer]
  | .map => [tok .map]
  | .call f => yield c f ++ [tLit '(']

def yieldSlots (c : Cfg) : List Ast → List Token
  | [] => []
  | a :: as => yield c a ++ tLit ',' :: yieldSlots c as

def yieldFrame (c : Cfg) : Frame → List Token
  | .paren => [tLit '(']
  | .binop l sym _ => yield c l ++ [tOp sym]
  | .pre sym _ => [tOp sym]
  | .amb l sym _ => yield c l ++ [tOp sym]
  | .args k acc _ _ _ => opener c k ++ yieldSlots c acc
  | .named src => yield c src ++ [tok .mapping]

def yieldStack (c : Cfg) : List Frame → List Token
  | [] => []
  | f :: S => yieldStack c S ++ yieldFrame c f

def yieldSt (c : Cfg) (st : St) : List Token :=
  yieldStack c st.stack ++ (match st.cur with | none => [] | some v => yield c v)

theorem shifts_none (p : Prec) : shifts none p := by intro ρ h; cases h

theorem rsr_binary {c : Cfg} {sym al l r o} (h : c.opRec sym = some o) :
    rsr c (.binary sym al l r) = c.tokPrec o :: rsr c r := by simp [rsr, h]
theorem lsp_binary {c : Cfg} {sym al l r o} (h : c.opRec sym = some o) :
    lsp c (.binary sym al l r) = c.tokPrec o :: lsp c l := by simp [lsp, h]
theorem rsr_prefix {c : Cfg} {sym al x o} (h : c.opRec sym = some o) (hp : o.up > 0) :
    rsr c (.unary sym al x) = c.unaryPrec o :: rsr c x := by simp [rsr, h, hp]
theorem lsp_prefix {c : Cfg} {sym al x o} (h : c.opRec sym = some o) (hp : o.up > 0) :
    lsp c (.unary sym al x) = [] := by simp [lsp, h, hp]
theorem rsr_suffix {c : Cfg} {sym al x o} (h : c.opRec sym = some o) (hp : ¬ o.up > 0) :
    rsr c (.unary sym al x) = [] := by simp [rsr, h, hp]
theorem lsp_suffix {c : Cfg} {sym al x o} (h : c.opRec sym = some o) (hp : ¬ o.up > 0) :
    lsp c (.unary sym al x) = c.tokPrec o :: lsp c x := by simp [lsp, h, hp]
theorem isPrefix_of {c : Cfg} {sym o} (h : c.opRec sym = some o) : isPrefix c sym = decide (o.up > 0) := by
  simp [isPrefix, h]

theorem stopP_of_ctx_none {c : Cfg} {S : List Frame} (p : Option Prec) (h : ctxOf c S = none) : stopP c p S := by
  cases p with
  | none => exact h
  | some p => simp only [stopP, h]; exact shifts_none p

theorem stop_or_red (c : Cfg) (p : Option Prec) (S : List Frame) :
    stopP c p S ∨ ∃ ρ, ctxOf c S = some ρ ∧ redP p ρ := by
  cases h : ctxOf c S with
  | none => exact .inl (stopP_of_ctx_none p h)
  | some ρ =>
    cases p with
    | none => exact .inr ⟨ρ, rfl, trivial⟩
    | some q =>
      by_cases hr : reduceOver ρ q = true
      · exact .inr ⟨ρ, rfl, hr⟩
      · refine .inl fun ρ' hρ' => ?_
        rw [h] at hρ'; cases hρ'; simpa using hr

theorem reduceWhile_stop {c : Cfg} {p : Option Prec} {S : List Frame} (v : Ast) (h : stopP c p S) :
    reduceWhile c p S v = (S, v) := by
  cases S with
  | nil => rfl
  | cons f S =>
    cases f with
    | binop l sym o =>
      cases p with
      | none => cases h
      | some p => simp [reduceWhile, h _ rfl]
    | pre sym o =>
      cases p with
      | none => cases h
      | some p => simp [reduceWhile, h _ rfl]
    | _ => rfl

theorem reduceWhile_binop {c : Cfg} {p : Option Prec} {l : Ast} {sym : Str} {o : OpRec} {S : List Frame} (v : Ast)
    (h : redP p (c.tokPrec o)) :
    reduceWhile c p (.binop l sym o :: S) v = reduceWhile c p S (.binary sym o.alias l v) := by
  cases p with
  | none => rfl
  | some p => rw [reduceWhile]; exact if_pos h

theorem reduceWhile_pre {c : Cfg} {p : Option Prec} {sym : Str} {o : OpRec} {S : List Frame} (v : Ast)
    (h : redP p (c.unaryPrec o)) :
    reduceWhile c p (.pre sym o :: S) v = reduceWhile c p S (.unary sym o.alias v) := by
  cases p with
  | none => rfl
  | some p => rw [reduceWhile]; exact if_pos h

theorem reduceWhile_spec {c : Cfg} {p : Option Prec} {S : List Frame} {v : Ast} (hS : StackOK c S) (hv : Operand c p S v) :
    StackOK c (reduceWhile c p S v).1 ∧ Operand c p (reduceWhile c p S v).1 (reduceWhile c p S v).2 ∧
      stopP c p (reduceWhile c p S v).1 ∧
      yieldStack c (reduceWhile c p S v).1 ++ yield c (reduceWhile c p S v).2 = yieldStack c S ++ yield c v := by
  induction S generalizing v with
  | nil => exact ⟨hS, hv, stopP_of_ctx_none p rfl, rfl⟩
  | cons f S ih =>
    rcases stop_or_red c p (f :: S) with hs | ⟨ρ, hρ, hred⟩
    · rw [reduceWhile_stop v hs]; exact ⟨hS, hv, hs, rfl⟩
    · obtain ⟨hvv, hw, hr, hl⟩ := hv
      cases f with
      | binop l sym o =>
        cases hρ
        obtain ⟨ho, hbp, ⟨⟨hlv, hlw, hlr, hll⟩, hlp⟩, hS'⟩ := hS
        rw [reduceWhile_binop v hred]
        obtain ⟨a1, a2, a3, a4⟩ := ih (v := .binary sym o.alias l v) hS'
          ⟨rfl, ⟨o, ho, hbp, rfl, hlv, hvv, hlw, hw, hlr, fun q hq => hl q hq _ rfl⟩,
            by rw [rsr_binary ho]; exact List.forall_mem_cons.2 ⟨hred, hr⟩,
            by rw [lsp_binary ho]; exact List.forall_mem_cons.2 ⟨hlp, hll⟩⟩
        exact ⟨a1, a2, a3, by rw [a4]; simp [yieldStack, yieldFrame, yield]⟩
      | pre sym o =>
        cases hρ
        obtain ⟨ho, hup, hS'⟩ := hS
        rw [reduceWhile_pre v hred]
        obtain ⟨a1, a2, a3, a4⟩ := ih (v := .unary sym o.alias v) hS'
          ⟨rfl, ⟨o, ho, by omega, rfl, hvv, hw, by rw [if_pos hup]; exact fun q hq => hl q hq _ rfl⟩,
            by rw [rsr_prefix ho hup]; exact List.forall_mem_cons.2 ⟨hred, hr⟩, by rw [lsp_prefix ho hup]; simp⟩
        exact ⟨a1, a2, a3, by rw [a4]; simp [yieldStack, yieldFrame, yield, isPrefix_of ho, hup]⟩
      | _ => cases hρ

theorem WFL_append (c : Cfg) : ∀ (a b : List Ast), WFL c (a ++ b) ↔ WFL c a ∧ WFL c b
  | [], b => by simp [WFL]
  | x :: a, b => by simp [WFL, WFL_append c a b, and_assoc]

theorem slotsPre_value {v : Ast} (hv : isValue v = true) (b : Nat) (nm : Bool) (rest : List Ast) :
    slotsPre b nm (v :: rest) = if nm then none else slotsPre 2 false rest := by
  cases v <;> simp [isValue] at hv <;> simp [slotsPre]

theorem slotsOK_value {v : Ast} (hv : isValue v = true) (b : Nat) (nm : Bool) (rest : List Ast) :
    slotsOK b nm (v :: rest) = (!nm && (rest.isEmpty || slotsOK 2 false rest)) := by
  cases v <;> simp [isValue] at hv <;> simp [slotsOK]

theorem slot_cases (x : Ast) : x = .noValue ∨ (∃ s d, x = .mappingRule s d) ∨ isValue x = true := by
  cases x <;> simp [isValue]

theorem slotsPre_append : ∀ (a r : List Ast) (b : Nat) (nm : Bool),
    slotsPre b nm (a ++ r) = (match slotsPre b nm a with | some (b', nm') => slotsPre b' nm' r | none => none)
  | [], r, b, nm => rfl
  | x :: a, r, b, nm => by
    rcases slot_cases x with rfl | ⟨s, d, rfl⟩ | hv
    · simp only [List.cons_append, slotsPre]; split
      · rfl
      · exact slotsPre_append a r _ _
    · simp only [List.cons_append, slotsPre]; split
      · exact slotsPre_append a r _ _
      · rfl
    · simp only [List.cons_append, slotsPre_value hv]; split
      · rfl
      · exact slotsPre_append a r _ _

theorem slotsOK_append : ∀ (a r : List Ast) (b : Nat) (nm : Bool), r ≠ [] →
    slotsOK b nm (a ++ r) = (match slotsPre b nm a with | some (b', nm') => slotsOK b' nm' r | none => false)
  | [], r, b, nm, _ => rfl
  | x :: a, r, b, nm, hr => by
    have hne : (a ++ r).isEmpty = false := by simpa using fun _ => hr
    rcases slot_cases x with rfl | ⟨s, d, rfl⟩ | hv
    · simp only [List.cons_append, slotsOK, slotsPre, hne, slotsOK_append a r _ _ hr]
      cases nm <;> rfl
    · simp only [List.cons_append, slotsOK, slotsPre, hne, slotsOK_append a r _ _ hr]
      cases (nm || decide (b ≥ 1)) <;> rfl
    · simp only [List.cons_append, slotsOK_value hv, slotsPre_value hv, hne, slotsOK_append a r _ _ hr]
      cases nm <;> rfl

theorem yieldSlots_append (c : Cfg) : ∀ (a b : List Ast), yieldSlots c (a ++ b) = yieldSlots c a ++ yieldSlots c b
  | [], b => by simp [yieldSlots]
  | x :: a, b => by simp [yieldSlots, yieldSlots_append c a b]

theorem yieldL_snoc (c : Cfg) : ∀ (a : List Ast) (v : Ast), yieldL c (a ++ [v]) = yieldSlots c a ++ yield c v
  | [], v => by simp [yieldL, yieldSlots]
  | x :: a, v => by
    have ih := yieldL_snoc c a v
    cases a with
    | nil => simp [yieldL, yieldSlots]
    | cons y a => simp only [List.cons_append, yieldL, yieldSlots] at ih ⊢; simp [ih]

theorem yield_build (c : Cfg) (k : ArgKind) (as : List Ast) :
    yield c (k.build as) = opener c k ++ yieldL c as ++ [tLit k.closer] := by
  cases k <;> simp [ArgKind.build, yield, opener, ArgKind.closer]

theorem build_ok {c : Cfg} {S : List Frame} {k : ArgKind} {as : List Ast} (hk : kindOK c S k)
    (ha : argsOK as = true) (hw : WFL c as) : CurOK c S (k.build as) := by
  cases k with
  | func _ | list | map => exact ⟨rfl, ⟨ha, hw⟩, rfl, by simp [ArgKind.build, lsp]⟩
  | index b =>
    obtain ⟨⟨h1, h2, h3, h4⟩, h5⟩ := hk
    exact ⟨rfl, ⟨h1, h2, h3, ha, hw⟩, rfl, List.forall_mem_cons.2 ⟨h5, h4⟩⟩
  | call f =>
    obtain ⟨h0, ⟨h1, h2, h3, h4⟩, h5⟩ := hk
    exact ⟨rfl, ⟨h0, h1, h2, h3, ha, hw⟩, rfl, List.forall_mem_cons.2 ⟨h5, h4⟩⟩

theorem norm_lit {t : Token} {ch : Char} (h : t.kind = .lit ch) : norm t = tLit ch := by
  simp [norm, h, tLit, tok]

theorem newArgs_ok {c : Cfg} {S : List Frame} {k : ArgKind} (hk : kindOK c S k) (hS : StackOK c S) :
    StackOK c (newArgs k :: S) := by
  simp [newArgs, StackOK, hk, hS, WFL, slotsPre]

section
variable {c : Cfg} {k : ArgKind} {acc : List Ast} {b : Nat} {nm fr : Bool} {S : List Frame} {x : Ast}

theorem args_push {b' : Nat} {nm' : Bool} (hS : StackOK c (.args k acc b nm fr :: S)) (hx : WFn c x)
    (h : slotsPre b nm [x] = some (b', nm')) : StackOK c (.args k (acc ++ [x]) b' nm' false :: S) := by
  obtain ⟨hk, hwl, hpre, _, hS'⟩ := hS
  exact ⟨hk, (WFL_append c acc [x]).mpr ⟨hwl, hx, trivial⟩, by rw [slotsPre_append, hpre]; exact h, by simp, hS'⟩

theorem args_close (hS : StackOK c (.args k acc b nm fr :: S)) (hx : WFn c x) (h : slotsOK b nm [x] = true) :
    StOKn c ⟨S, some (k.build (acc ++ [x]))⟩ ∧
      yield c (k.build (acc ++ [x])) = opener c k ++ yieldSlots c acc ++ yield c x ++ [tLit k.closer] := by
  obtain ⟨hk, hwl, hpre, _, hS'⟩ := hS
  have hargs : argsOK (acc ++ [x]) = true := by
    simp only [argsOK]
    rw [slotsOK_append acc [x] 1 false (by simp), hpre]
    simp [h]
  exact ⟨⟨hS', build_ok hk hargs ((WFL_append c acc [x]).mpr ⟨hwl, hx, trivial⟩)⟩,
    by rw [yield_build, yieldL_snoc]; simp⟩

theorem named_frame {src v : Ast} (hS : StackOK c (.named src :: .args k acc b nm fr :: S)) (hv : isValue v = true)
    (hw : WFn c v) :
    StackOK c (.args k acc b nm fr :: S) ∧ WFn c (.mappingRule src v) ∧ (nm || decide (b ≥ 1)) = true := by
  obtain ⟨hsv, hsw, hallow, hS2⟩ := hS
  exact ⟨hS2, ⟨hsv, hv, hsw, hw⟩, by rcases hallow with h | h <;> simp [h]⟩
end

theorem stepOperand_inv {c : Cfg} {S : List Frame} {t : Token} {st' : St}
    (hS : StackOK c S) (h : stepOperand c S t = .ok st') :
    StOKn c st' ∧ yieldSt c st' = yieldStack c S ++ [norm t] := by
  unfold stepOperand at h
  cases hk : t.kind with
  | quoted | number | true_ | false_ | null_ | keyword | dollar =>
    simp only [hk] at h
    injection h with h; subst h
    simp [StOKn, CurOK, hS, isValue, WFn, rsr, lsp, yieldSt, yield, norm, hk, tok]
  | func | indexer | map =>
    simp only [hk] at h
    injection h with h; subst h
    refine ⟨newArgs_ok (by simp [kindOK]) hS, ?_⟩
    simp [yieldSt, yieldStack, yieldFrame, newArgs, opener, yieldSlots, norm, hk, tok]
  | mapping => simp [hk, errAt] at h
  | op sym =>
    simp only [hk] at h
    repeat' split at h
    all_goals cases h
    next o ho hup =>
    exact ⟨⟨ho, hup, hS⟩, by simp [yieldSt, yieldStack, yieldFrame, norm, hk, tOp, tok]⟩
  | lit ch =>
    simp only [hk] at h
    repeat' split at h
    all_goals cases h
    -- `(`
    · next hch =>
      obtain rfl : ch = '(' := by simpa using hch
      exact ⟨hS, by simp [yieldSt, yieldStack, yieldFrame, norm_lit hk]⟩
    -- `,` after an empty slot
    · next k acc b nm fr S' hch hnm =>
      obtain rfl : ch = ',' := by simpa using hch
      obtain rfl : nm = false := by simpa using hnm
      exact ⟨args_push hS trivial rfl,
        by simp [yieldSt, yieldStack, yieldFrame, yieldSlots_append, yieldSlots, yield, norm_lit hk]⟩
    -- the closing bracket of an empty argument list
    · next k acc b nm fr S' _ hcl =>
      obtain ⟨rfl, rfl⟩ : fr = true ∧ ch = k.closer := by simpa using hcl
      obtain ⟨hk', _, _, hfr, hS'⟩ := hS
      obtain rfl : acc = [] := hfr.mp rfl
      exact ⟨⟨hS', build_ok hk' rfl trivial⟩,
        by simp [yieldSt, yieldStack, yieldFrame, yieldSlots, yield_build, yieldL, norm_lit hk]⟩

theorem close_inv {c : Cfg} {S : List Frame} {v : Ast} {t : Token} {st' : St}
    (hS : StackOK c S) (hv : isValue v = true) (hw : WFn c v) (h : close S v t = .ok st') :
    StOKn c st' ∧ yieldSt c st' = yieldStack c S ++ yield c v ++ [norm t] := by
  unfold close at h
  repeat' split at h
  all_goals cases h
  -- the six ways `close` succeeds, in the order of its definition
  -- `)` after `(` value
  · next ch hk hch =>
    obtain rfl : ch = ')' := by simpa using hch
    exact ⟨⟨hS, rfl, ⟨hv, hw⟩, rfl, by simp [lsp]⟩, by simp [yieldSt, yieldStack, yieldFrame, yield, norm_lit hk]⟩
  -- `,` after a positional value
  · next k acc b nm fr S' _ ch hk hnm hch =>
    obtain rfl : nm = false := by simpa using hnm
    obtain rfl : ch = ',' := by simpa using hch
    exact ⟨args_push hS hw (by rw [slotsPre_value hv]; rfl),
      by simp [yieldSt, yieldStack, yieldFrame, yieldSlots_append, yieldSlots, norm_lit hk]⟩
  -- the closing bracket after a positional value
  · next k acc b nm fr S' _ ch hk hnm _ hch =>
    obtain rfl : nm = false := by simpa using hnm
    obtain rfl : ch = k.closer := by simpa using hch
    obtain ⟨h1, h2⟩ := args_close hS hw (by rw [slotsOK_value hv]; rfl)
    exact ⟨h1, by simp [yieldSt, yieldStack, yieldFrame, h2, norm_lit hk]⟩
  -- `=>` after a value that may be a name
  · next k acc b nm fr S' _ hk hcond =>
    exact ⟨⟨hv, hw, by simpa [Bool.or_eq_true] using hcond, hS⟩, by simp [yieldSt, yieldStack, yieldFrame, norm, hk, tok]⟩
  -- `,` after `name => value`
  · next src k acc b nm fr S' _ ch hk hch =>
    obtain rfl : ch = ',' := by simpa using hch
    obtain ⟨hS2, hmr, hallow⟩ := named_frame hS hv hw
    exact ⟨args_push hS2 hmr (by simp only [slotsPre, hallow, ↓reduceIte]),
      by simp [yieldSt, yieldStack, yieldFrame, yieldSlots_append, yieldSlots, yield, norm_lit hk]⟩
  -- the closing bracket after `name => value`
  · next src k acc b nm fr S' _ ch hk _ hch =>
    obtain rfl : ch = k.closer := by simpa using hch
    obtain ⟨hS2, hmr, hallow⟩ := named_frame hS hv hw
    obtain ⟨h1, h2⟩ := args_close hS2 hmr (by simp [slotsOK, hallow])
    exact ⟨h1, by simp [yieldSt, yieldStack, yieldFrame, h2, yield, norm_lit hk]⟩

/-- the state `stepAfter` returns for a token that continues the value `v`, all rules it closes already reduced -/
def postResult (v : Ast) (S : List Frame) : Post → St
  | .bin sym o => ⟨.binop v sym o :: S, none⟩
  | .amb sym o => ⟨.amb v sym o :: S, none⟩
  | .suf sym o => ⟨S, some (.unary sym o.alias v)⟩
  | .idx => ⟨newArgs (.index v) :: S, none⟩
  | .call => ⟨newArgs (.call v) :: S, none⟩

section
variable {c : Cfg} {S : List Frame} {v : Ast} {t : Token}

theorem stepAfter_some {post : Post} {p : Prec} (h : classify c t = some (post, p)) :
    stepAfter c S v t = .ok (postResult (reduceWhile c (some p) S v).2 (reduceWhile c (some p) S v).1 post) := by
  unfold stepAfter
  rw [h]
  cases post <;> rfl

theorem stepAfter_none (h : classify c t = none) :
    stepAfter c S v t = close (reduceWhile c none S v).1 (reduceWhile c none S v).2 t := by
  unfold stepAfter
  rw [h]
end

theorem classify_spec {c : Cfg} {t : Token} {post : Post} {p : Prec} (h : classify c t = some (post, p)) :
    match post with
    | .bin sym o => t.kind = .op sym ∧ c.opRec sym = some o ∧ o.bp ≠ 0 ∧ ¬ o.up < 0 ∧ p = c.tokPrec o
    | .amb sym o => t.kind = .op sym ∧ c.opRec sym = some o ∧ o.bp ≠ 0 ∧ o.up < 0 ∧ p = c.tokPrec o
    | .suf sym o => t.kind = .op sym ∧ c.opRec sym = some o ∧ o.bp = 0 ∧ o.up < 0 ∧ p = c.tokPrec o
    | .idx => t.kind = .indexer ∧ p = c.indexerPrec
    | .call => t.kind = .lit '(' ∧ c.delegates = true ∧ p = noPrec := by
  unfold classify at h
  repeat' split at h
  all_goals cases h
  all_goals simp_all

theorem suffix_ok {c : Cfg} {S : List Frame} {sym : Str} {o : OpRec} {l : Ast} (ho : c.opRec sym = some o)
    (hup : o.up < 0) (hl : LeftOK c S (c.tokPrec o) l) :
    CurOK c S (.unary sym o.alias l) ∧ yield c (.unary sym o.alias l) = yield c l ++ [tOp sym] := by
  obtain ⟨⟨hlv, hlw, hlr, hll⟩, hlp⟩ := hl
  have hnp : ¬ o.up > 0 := by omega
  exact ⟨⟨rfl, ⟨o, ho, by omega, rfl, hlv, hlw, by rw [if_neg hnp]; exact hlr⟩, rsr_suffix ho hnp,
    by rw [lsp_suffix ho hnp]; exact List.forall_mem_cons.2 ⟨hlp, hll⟩⟩, by simp [yield, isPrefix_of ho, hnp]⟩

theorem post_inv {c : Cfg} {S : List Frame} {v : Ast} {t : Token} {post : Post} {p : Prec}
    (hcl : classify c t = some (post, p)) (hS : StackOK c S) (hv : LeftOK c S p v) :
    StOK c (postResult v S post) ∧ yieldSt c (postResult v S post) = yieldStack c S ++ yield c v ++ [norm t] := by
  have hcs := classify_spec hcl
  cases post with
  | bin sym o =>
    obtain ⟨hk, ho, hbp, -, rfl⟩ := hcs
    exact ⟨StOKn_imp (st := ⟨_, none⟩) ⟨ho, hbp, hv, hS⟩,
      by simp [postResult, yieldSt, yieldStack, yieldFrame, norm, hk, tOp, tok]⟩
  | amb sym o =>
    obtain ⟨hk, ho, hbp, hup, rfl⟩ := hcs
    exact ⟨⟨hup, ho, hbp, hv, hS⟩, by simp [postResult, yieldSt, yieldStack, yieldFrame, norm, hk, tOp, tok]⟩
  | suf sym o =>
    obtain ⟨hk, ho, -, hup, rfl⟩ := hcs
    obtain ⟨h1, h2⟩ := suffix_ok ho hup hv
    exact ⟨⟨hS, h1⟩, by simp [postResult, yieldSt, h2, norm, hk, tOp, tok]⟩
  | idx =>
    obtain ⟨hk, rfl⟩ := hcs
    exact ⟨StOKn_imp (st := ⟨_, none⟩) (newArgs_ok hv hS),
      by simp [postResult, yieldSt, yieldStack, yieldFrame, newArgs, opener, yieldSlots, norm, hk, tok]⟩
  | call =>
    obtain ⟨hk, hd, rfl⟩ := hcs
    exact ⟨StOKn_imp (st := ⟨_, none⟩) (newArgs_ok ⟨hd, hv⟩ hS),
      by simp [postResult, yieldSt, yieldStack, yieldFrame, newArgs, opener, yieldSlots, norm_lit hk]⟩

theorem stepAfter_inv {c : Cfg} {S : List Frame} {v : Ast} {t : Token} {st' : St}
    (hS : StackOK c S) (hc : CurOK c S v) (h : stepAfter c S v t = .ok st') :
    StOK c st' ∧ yieldSt c st' = yieldStack c S ++ yield c v ++ [norm t] := by
  cases hcl : classify c t with
  | some pp =>
    obtain ⟨post, p⟩ := pp
    obtain ⟨a1, a2, a3, a4⟩ := reduceWhile_spec hS (hc.operand (some p))
    rw [stepAfter_some hcl] at h; cases h
    rw [← a4]; exact post_inv hcl a1 ⟨a2, a3⟩
  | none =>
    obtain ⟨a1, a2, -, a4⟩ := reduceWhile_spec hS (hc.operand none)
    rw [stepAfter_none hcl] at h
    obtain ⟨b1, b2⟩ := close_inv a1 a2.1 a2.2.1 h
    exact ⟨StOKn_imp b1, by rw [b2, a4]⟩

theorem resolveAmb_amb (c : Cfg) (l : Ast) (sym : Str) (o : OpRec) (S : List Frame) (next : Option Token) :
    resolveAmb c ⟨.amb l sym o :: S, none⟩ next = ⟨.binop l sym o :: S, none⟩ ∨
      resolveAmb c ⟨.amb l sym o :: S, none⟩ next = ⟨S, some (.unary sym o.alias l)⟩ := by
  simp only [resolveAmb]
  exact (Decidable.em _).imp (if_pos ·) (if_neg ·)

theorem resolveAmb_inv {c : Cfg} {st : St} (next : Option Token) (h : StOK c st) :
    StOKn c (resolveAmb c st next) ∧ yieldSt c (resolveAmb c st next) = yieldSt c st := by
  obtain ⟨S, cur⟩ := st
  cases cur with
  | some v => exact ⟨h, rfl⟩
  | none =>
    cases S with
    | nil => exact ⟨h, rfl⟩
    | cons f S =>
      cases f with
      | amb l sym o =>
        obtain ⟨hup, hb⟩ := h
        rcases resolveAmb_amb c l sym o S next with e | e <;> rw [e]
        · exact ⟨hb, by simp [yieldSt, yieldStack, yieldFrame]⟩
        · obtain ⟨h1, h2⟩ := suffix_ok hb.1 hup hb.2.2.1
          exact ⟨⟨hb.2.2.2, h1⟩, by simp [yieldSt, yieldStack, yieldFrame, h2]⟩
      | _ => exact ⟨h, rfl⟩

theorem step_inv {c : Cfg} {st st' : St} {t : Token} (h : StOK c st) (hs : step c st t = .ok st') :
    StOK c st' ∧ yieldSt c st' = yieldSt c st ++ [norm t] := by
  obtain ⟨h1, h2⟩ := resolveAmb_inv (some t) h
  simp only [step] at hs
  generalize resolveAmb c st (some t) = st1 at h1 h2 hs
  obtain ⟨S, cur⟩ := st1
  cases cur with
  | none =>
    obtain ⟨a, b⟩ := stepOperand_inv (c := c) (S := S) h1 hs
    exact ⟨StOKn_imp a, by rw [b, ← h2]; simp [yieldSt]⟩
  | some v =>
    obtain ⟨a, b⟩ := stepAfter_inv (c := c) (S := S) h1.1 h1.2 hs
    exact ⟨a, by rw [b, ← h2]; simp [yieldSt]⟩

theorem run_inv {c : Cfg} : ∀ (toks : List Token) (st st' : St), StOK c st → run c st toks = .ok st' →
    StOK c st' ∧ yieldSt c st' = yieldSt c st ++ toks.map norm
  | [], st, st', h, hr => by
    simp [run] at hr; subst hr; exact ⟨h, by simp⟩
  | t :: ts, st, st', h, hr => by
    simp only [run] at hr
    split at hr
    · rename_i st1 hs
      obtain ⟨a, b⟩ := step_inv h hs
      obtain ⟨a', b'⟩ := run_inv ts st1 st' a hr
      exact ⟨a', by rw [b', b]; simp⟩
    · simp at hr

/-- **C02, tree layer, soundness.**  Whatever the operator table and the token list: a successful
parse returns a tree that satisfies the precedence predicate `WF` of that table and spells exactly
the token list (kinds and values; positions are not part of a tree). -/
theorem parse_sound (c : Cfg) (toks : List Token) (t : Ast) (h : parse c toks = .ok t) :
    WF c t ∧ yield c t = toks.map norm := by
  simp only [parse] at h
  split at h
  · rename_i st hr
    obtain ⟨a, b⟩ := run_inv toks {} st (by simp [StOK, StackOK]) hr
    obtain ⟨a1, b1⟩ := resolveAmb_inv none a
    simp only [finish] at h
    generalize resolveAmb c st none = st1 at a1 b1 h
    obtain ⟨S, cur⟩ := st1
    cases cur with
    | none => simp at h
    | some v =>
      obtain ⟨-, a2, -, a4⟩ := reduceWhile_spec (p := none) a1.1 (a1.2.operand none)
      have e : yieldStack c S ++ yield c v = toks.map norm := by rw [b] at b1; simpa [yieldSt, yieldStack] using b1
      simp only at h
      split at h
      · rename_i v' hrw
        cases h
        simp only [hrw] at a2 a4
        exact ⟨⟨a2.1, a2.2.1⟩, a4.trans e⟩
      · simp at h
  · simp at h

/-! ## Round trip (completeness and uniqueness) -/

/-- no symbol is both a suffix and a binary operator (for such a symbol the token sequence itself is
ambiguous: `a OP - b`) -/
def NoAmb (c : Cfg) : Prop := ∀ sym o, c.opRec sym = some o → ¬ (o.up < 0 ∧ o.bp ≠ 0)

def NoAmbTop : List Frame → Prop
  | .amb _ _ _ :: _ => False
  | _ => True

/-- the open operator frames a tree leaves on the stack when its last token has been read (top first) -/
def spineFrames (c : Cfg) : Ast → List Frame
  | .binary sym _ l r =>
      match c.opRec sym with
      | some o => spineFrames c r ++ [.binop l sym o]
      | none => []
  | .unary sym _ x =>
      match c.opRec sym with
      | some o => if o.up > 0 then spineFrames c x ++ [.pre sym o] else []
      | none => []
  | _ => []

/-- ... and the completed value on top of them -/
def spineLast (c : Cfg) : Ast → Ast
  | .binary sym al l r =>
      match c.opRec sym with
      | some _ => spineLast c r
      | none => .binary sym al l r
  | .unary sym al x =>
      match c.opRec sym with
      | some o => if o.up > 0 then spineLast c x else .unary sym al x
      | none => .unary sym al x
  | t => t

theorem reduceWhile_spine (c : Cfg) (p : Option Prec) : ∀ (t : Ast), WFn c t → (∀ ρ ∈ rsr c t, redP p ρ) →
    ∀ S, reduceWhile c p (spineFrames c t ++ S) (spineLast c t) = reduceWhile c p S t
  | .binary sym al l r, hw, hr, S => by
    obtain ⟨o, ho, _, rfl, _, _, _, hrw, _, _⟩ := hw
    rw [rsr_binary ho] at hr
    obtain ⟨h0, hr⟩ := List.forall_mem_cons.1 hr
    simp only [spineFrames, spineLast, ho, List.append_assoc, List.singleton_append]
    rw [reduceWhile_spine c p r hrw hr, reduceWhile_binop _ h0]
  | .unary sym al x, hw, hr, S => by
    obtain ⟨o, ho, _, rfl, _, hxw, _⟩ := hw
    by_cases hup : o.up > 0
    · rw [rsr_prefix ho hup] at hr
      obtain ⟨h0, hr⟩ := List.forall_mem_cons.1 hr
      simp only [spineFrames, spineLast, ho, hup, ↓reduceIte, List.append_assoc, List.singleton_append]
      rw [reduceWhile_spine c p x hxw hr, reduceWhile_pre _ h0]
    · simp [spineFrames, spineLast, ho, hup]
  | .const _ _, _, _, _ | .keywordConst _, _, _, _ | .getContextValue _, _, _, _ | .index _ _, _, _, _
  | .list _, _, _, _ | .map _, _, _, _ | .func _ _, _, _, _ | .call _ _, _, _, _ | .wrap _, _, _, _
  | .mappingRule _ _, _, _, _ | .noValue, _, _, _ => by simp [spineFrames, spineLast]

theorem reduceWhile_value {c : Cfg} {p : Option Prec} {t : Ast} {S : List Frame} (hw : WFn c t)
    (hr : ∀ ρ ∈ rsr c t, redP p ρ) (hs : stopP c p S) :
    reduceWhile c p (spineFrames c t ++ S) (spineLast c t) = (S, t) := by
  rw [reduceWhile_spine c p t hw hr S, reduceWhile_stop t hs]

theorem step_none {c : Cfg} {S : List Frame} (t : Token) (h : NoAmbTop S) :
    step c ⟨S, none⟩ t = stepOperand c S t := by
  cases S with
  | nil => rfl
  | cons f S => cases f <;> first | rfl | (simp [NoAmbTop] at h)

theorem step_some {c : Cfg} {S : List Frame} {v : Ast} (t : Token) :
    step c ⟨S, some v⟩ t = stepAfter c S v t := rfl

theorem run_app_ok {c : Cfg} {st st1 : St} {a : List Token} (b : List Token) (h : run c st a = .ok st1) :
    run c st (a ++ b) = run c st1 b := by rw [run_append, h]

theorem run_single {c : Cfg} (st : St) (t : Token) : run c st [t] = step c st t := by
  simp only [run]; cases step c st t <;> rfl

theorem run_cons_operand {c : Cfg} {S : List Frame} {tk : Token} {st : St} (ts : List Token) (hna : NoAmbTop S)
    (h : stepOperand c S tk = .ok st) : run c ⟨S, none⟩ (tk :: ts) = run c st ts := by
  simp [run, step_none _ hna, h]

theorem run_operand {c : Cfg} {S : List Frame} {tk : Token} {st : St} (hna : NoAmbTop S)
    (h : stepOperand c S tk = .ok st) : run c ⟨S, none⟩ [tk] = .ok st :=
  run_cons_operand [] hna h

/-- a tree's tokens, read from a state that expects a value, leave the tree's open operators on the
stack and its last completed value in `cur` -/
def RunsTo (c : Cfg) (t : Ast) : Prop :=
  ∀ S, NoAmbTop S → (∀ q ∈ lsp c t, shifts (ctxOf c S) q) →
    run c ⟨S, none⟩ (yield c t) = .ok ⟨spineFrames c t ++ S, some (spineLast c t)⟩

section
variable {c : Cfg} {v : Ast} {S : List Frame} {tk : Token}

/-- a value followed by a token that cannot continue it, inside a bracket -/
theorem value_then_close (hr : RunsTo c v) (hw : WFn c v) (hcl : classify c tk = none) (hctx : ctxOf c S = none)
    (hna : NoAmbTop S) : run c ⟨S, none⟩ (yield c v ++ [tk]) = close S v tk := by
  rw [run_app_ok [tk] (hr S hna (by rw [hctx]; exact fun q _ => shifts_none q)), run_single, step_some,
    stepAfter_none hcl, reduceWhile_value (p := none) hw (fun _ _ => trivial) hctx]

/-- a value followed by a token that continues it -/
theorem value_then_post {post : Post} {p : Prec} (hr : RunsTo c v) (hw : WFn c v) (hna : NoAmbTop S)
    (hcl : classify c tk = some (post, p)) (hl : ∀ q ∈ p :: lsp c v, shifts (ctxOf c S) q)
    (hrr : ∀ ρ ∈ rsr c v, reduceOver ρ p = true) :
    run c ⟨S, none⟩ (yield c v ++ [tk]) = .ok (postResult v S post) := by
  rw [run_app_ok [tk] (hr S hna (fun q hq => hl q (List.mem_cons_of_mem _ hq))), run_single, step_some,
    stepAfter_some hcl, reduceWhile_value (p := some p) hw hrr (hl p (List.mem_cons_self ..))]
end

theorem classify_lit {c : Cfg} {ch : Char} (h : ch ≠ '(') : classify c (tLit ch) = none := by
  simp [classify, tLit, tok, h]

theorem closer_ne (k : ArgKind) : k.closer ≠ '(' := by cases k <;> simp [ArgKind.closer]
theorem closer_ne_comma (k : ArgKind) : k.closer ≠ ',' := by cases k <;> simp [ArgKind.closer]

/-- `RunsTo` for the value(s) of an argument slot -/
def ElemRuns (c : Cfg) : Ast → Prop
  | .noValue => True
  | .mappingRule s d => RunsTo c s ∧ RunsTo c d
  | v => RunsTo c v

theorem elemRuns_value {c : Cfg} {v : Ast} (hv : isValue v = true) : ElemRuns c v = RunsTo c v := by
  cases v <;> simp [isValue] at hv <;> rfl

section
variable {c : Cfg} {k : ArgKind} {acc : List Ast} {b : Nat} {nm fr : Bool} {S : List Frame}

theorem mapping_then_close {s d : Ast} {tk : Token} (hrs : RunsTo c s) (hrd : RunsTo c d)
    (hw : WFn c (.mappingRule s d)) (hallow : (nm || decide (b ≥ 1)) = true) (hcl : classify c tk = none) :
    run c ⟨.args k acc b nm fr :: S, none⟩ (yield c (.mappingRule s d) ++ [tk]) =
      close (.named s :: .args k acc b nm fr :: S) d tk := by
  have : yield c (.mappingRule s d) ++ [tk] = (yield c s ++ [tok .mapping]) ++ (yield c d ++ [tk]) := by simp [yield]
  rw [this, run_app_ok _ (st1 := ⟨.named s :: .args k acc b nm fr :: S, none⟩)]
  · exact value_then_close hrd hw.2.2.2 hcl rfl trivial
  · rw [value_then_close (S := .args k acc b nm fr :: S) (tk := tok .mapping) hrs hw.2.2.1 rfl rfl trivial]
    exact if_pos hallow

theorem slot_comma {a : Ast} {b' : Nat} {nm' : Bool} (he : ElemRuns c a) (hw : WFn c a)
    (h : slotsPre b nm [a] = some (b', nm')) :
    run c ⟨.args k acc b nm fr :: S, none⟩ (yield c a ++ [tLit ',']) =
      .ok ⟨.args k (acc ++ [a]) b' nm' false :: S, none⟩ := by
  rcases slot_cases a with rfl | ⟨s, d, rfl⟩ | hv
  · cases nm <;> simp [slotsPre] at h
    obtain ⟨rfl, rfl⟩ := h
    exact run_operand trivial rfl
  · simp only [slotsPre] at h
    split at h <;> cases h
    next hallow =>
    rw [mapping_then_close he.1 he.2 hw hallow (classify_lit (by decide))]; rfl
  · rw [slotsPre_value hv] at h
    cases nm <;> cases h
    rw [value_then_close (S := .args k acc b false fr :: S) (elemRuns_value hv ▸ he) hw (classify_lit (by decide)) rfl
      trivial]; rfl

theorem slot_closer {a : Ast} (he : ElemRuns c a) (hw : WFn c a) (h : slotsOK b nm [a] = true) :
    run c ⟨.args k acc b nm fr :: S, none⟩ (yield c a ++ [tLit k.closer]) = .ok ⟨S, some (k.build (acc ++ [a]))⟩ := by
  rcases slot_cases a with rfl | ⟨s, d, rfl⟩ | hv
  · simp [slotsOK] at h
  · have hallow : (nm || decide (b ≥ 1)) = true := by simpa [slotsOK] using h
    rw [mapping_then_close he.1 he.2 hw hallow (classify_lit (closer_ne k))]
    simp [close, tLit, tok, closer_ne_comma k]
  · obtain rfl : nm = false := by simpa [slotsOK_value hv] using h
    rw [value_then_close (S := .args k acc b false fr :: S) (elemRuns_value hv ▸ he) hw (classify_lit (closer_ne k)) rfl
      trivial]
    simp [close, tLit, tok, closer_ne_comma k]
end

theorem args_run {c : Cfg} : ∀ (as : List Ast), (∀ a ∈ as, ElemRuns c a) → WFL c as →
    ∀ (k : ArgKind) (acc : List Ast) (b : Nat) (nm fr : Bool) (S : List Frame), slotsOK b nm as = true →
    run c ⟨.args k acc b nm fr :: S, none⟩ (yieldL c as ++ [tLit k.closer]) =
      .ok ⟨S, some (k.build (acc ++ as))⟩
  | [], _, _, _, _, _, _, _, _, h => by simp [slotsOK] at h
  | [a], he, hw, k, acc, b, nm, fr, S, h => by
    rw [show yieldL c [a] = yield c a by simp [yieldL]]; exact slot_closer (he a (List.mem_singleton_self a)) hw.1 h
  | a :: r :: rs, he, hw, k, acc, b, nm, fr, S, h => by
    -- the first slot takes the slot machine from `(b, nm)` to `(b', nm')`, from where the other slots are read
    have h' := (slotsOK_append [a] (r :: rs) b nm (List.cons_ne_nil _ _)).symm.trans h
    cases hp : slotsPre b nm [a] with
    | none => rw [hp] at h'; cases h'
    | some bn =>
      obtain ⟨b', nm'⟩ := bn
      rw [hp] at h'
      have : yieldL c (a :: r :: rs) ++ [tLit k.closer] =
          (yield c a ++ [tLit ',']) ++ (yieldL c (r :: rs) ++ [tLit k.closer]) := by simp [yieldL]
      rw [this, run_app_ok _ (slot_comma (he a (List.mem_cons_self ..)) hw.1 hp),
        args_run (r :: rs) (fun x hx => he x (List.mem_cons_of_mem _ hx)) hw.2 k _ _ _ _ S h', List.append_assoc,
        List.singleton_append]

theorem bracket_run {c : Cfg} {as : List Ast} (he : ∀ a ∈ as, ElemRuns c a) (hw : WFL c as)
    (ha : argsOK as = true) (k : ArgKind) (S : List Frame) :
    run c ⟨newArgs k :: S, none⟩ (yieldL c as ++ [tLit k.closer]) = .ok ⟨S, some (k.build as)⟩ := by
  cases as with
  | nil => exact run_operand trivial (by simp [stepOperand, tLit, tok, newArgs, closer_ne k, closer_ne_comma k])
  | cons a rest =>
    have h : slotsOK 1 false (a :: rest) = true := by simpa [argsOK] using ha
    simpa [newArgs] using args_run (a :: rest) he hw k [] 1 false true S h

section
variable {c : Cfg}

theorem runs_leaf {t : Ast} {tk : Token} (hy : yield c t = [tk])
    (hs : ∀ S, stepOperand c S tk = .ok ⟨S, some t⟩) (hf : spineFrames c t = []) (hl : spineLast c t = t) :
    RunsTo c t := by
  intro S hna _
  rw [hy, run_operand hna (hs S), hf, hl]; rfl

theorem runs_const {k : TokKind} {v : TokVal} (hw : WFn c (.const k v)) : RunsTo c (.const k v) := by
  simp only [WFn] at hw
  apply runs_leaf (tk := tok k v) (by simp [yield]) _ rfl rfl
  intro S
  rcases hw with h | h | h | h | h <;> subst h <;> rfl

theorem runs_wrap {e : Ast} (hw : WFn c e) (hr : RunsTo c e) : RunsTo c (.wrap e) := by
  intro S hna _
  simp only [yield]
  rw [run_cons_operand (st := ⟨.paren :: S, none⟩) _ hna rfl,
    value_then_close (S := .paren :: S) hr hw (classify_lit (by decide)) rfl trivial]
  simp [close, tLit, tok, spineFrames, spineLast]

theorem runs_build {k : ArgKind} {as : List Ast}
    (ho : ∀ S, NoAmbTop S → (∀ q ∈ lsp c (k.build as), shifts (ctxOf c S) q) →
      run c ⟨S, none⟩ (opener c k) = .ok ⟨newArgs k :: S, none⟩)
    (he : ∀ a ∈ as, ElemRuns c a) (hw : WFL c as) (ha : argsOK as = true) : RunsTo c (k.build as) := by
  intro S hna hl
  rw [yield_build, List.append_assoc, run_app_ok _ (ho S hna hl), bracket_run he hw ha]
  cases k <;> rfl

theorem runs_index {b : Ast} {as : List Ast} (hb : RunsTo c b) (he : ∀ a ∈ as, ElemRuns c a)
    (hw : WFn c (.index b as)) : RunsTo c (.index b as) :=
  runs_build (k := .index b) (fun _ hna hl => value_then_post (post := .idx) hb hw.2.1 hna rfl hl hw.2.2.1)
    he hw.2.2.2.2 hw.2.2.2.1

theorem runs_call {f : Ast} {as : List Ast} (hf : RunsTo c f) (he : ∀ a ∈ as, ElemRuns c a)
    (hw : WFn c (.call f as)) : RunsTo c (.call f as) :=
  runs_build (k := .call f)
    (fun _ hna hl => value_then_post (post := .call) hf hw.2.2.1 hna (by simp [classify, tLit, tok, hw.1]) hl hw.2.2.2.1)
    he hw.2.2.2.2.2 hw.2.2.2.2.1

theorem runs_binary (hna : NoAmb c) {sym : Str} {al : Option Str} {l r : Ast}
    (hl : RunsTo c l) (hr : RunsTo c r) (hw : WFn c (.binary sym al l r)) : RunsTo c (.binary sym al l r) := by
  obtain ⟨o, ho, hbp, hal, _, _, hlw, hrw, hlr, hrl⟩ := hw
  have hns : ¬ o.up < 0 := fun h => hna sym o ho ⟨h, hbp⟩
  intro S hnaS hsp
  rw [lsp_binary ho] at hsp
  have : yield c (.binary sym al l r) = (yield c l ++ [tOp sym]) ++ yield c r := by simp [yield]
  rw [this, run_app_ok _ (value_then_post (post := .bin sym o) (p := c.tokPrec o) hl hlw hnaS
      (by simp [classify, tOp, tok, ho, hbp, hns]) hsp hlr)]
  simp only [postResult]
  rw [hr (.binop l sym o :: S) trivial (fun q hq ρ hρ => by
    simp [ctxOf] at hρ; subst hρ; exact hrl q hq)]
  simp [spineFrames, spineLast, ho]

theorem runs_prefix {sym : Str} {al : Option Str} {x : Ast} {o : OpRec}
    (ho : c.opRec sym = some o) (hup : o.up > 0)
    (hx : RunsTo c x) (hxl : ∀ p ∈ lsp c x, reduceOver (c.unaryPrec o) p = false) :
    RunsTo c (.unary sym al x) := by
  intro S hnaS _
  have : yield c (.unary sym al x) = tOp sym :: yield c x := by simp [yield, isPrefix_of ho, hup]
  rw [this, run_cons_operand (st := ⟨.pre sym o :: S, none⟩) _ hnaS (by simp [stepOperand, tOp, tok, ho, hup])]
  rw [hx (.pre sym o :: S) trivial (fun q hq ρ hρ => by
    simp [ctxOf] at hρ; subst hρ; exact hxl q hq)]
  simp [spineFrames, spineLast, ho, hup]

theorem runs_suffix (hna : NoAmb c) {sym : Str} {x : Ast} {o : OpRec}
    (ho : c.opRec sym = some o) (hup : o.up < 0) (hxw : WFn c x)
    (hx : RunsTo c x) (hxr : ∀ ρ ∈ rsr c x, reduceOver ρ (c.tokPrec o) = true) :
    RunsTo c (.unary sym o.alias x) := by
  have hbp : o.bp = 0 := by
    by_cases h : o.bp = 0
    · exact h
    · exact absurd ⟨hup, h⟩ (hna sym o ho)
  have hnp : ¬ o.up > 0 := by omega
  intro S hnaS hsp
  rw [lsp_suffix ho hnp] at hsp
  have : yield c (.unary sym o.alias x) = yield c x ++ [tOp sym] := by simp [yield, isPrefix_of ho, hnp]
  rw [this, value_then_post (post := .suf sym o) (p := c.tokPrec o) hx hxw hnaS
      (by simp [classify, tOp, tok, ho, hbp, hup]) hsp hxr]
  simp [postResult, spineFrames, spineLast, ho, hnp]

theorem runs_unary (hna : NoAmb c) {sym : Str} {al : Option Str} {x : Ast}
    (hx : RunsTo c x) (hw : WFn c (.unary sym al x)) : RunsTo c (.unary sym al x) := by
  obtain ⟨o, ho, hup0, hal, _, hxw, hcond⟩ := hw
  by_cases hup : o.up > 0
  · simp only [hup, ↓reduceIte] at hcond
    exact runs_prefix ho hup hx hcond
  · simp only [hup, ↓reduceIte] at hcond
    subst hal
    exact runs_suffix hna ho (by omega) hxw hx hcond
end

mutual
theorem runsT (c : Cfg) (hna : NoAmb c) : ∀ (t : Ast), WFn c t → ElemRuns c t
  | .const _ _, hw => runs_const hw
  | .keywordConst v, _ => runs_leaf (tk := tok .keyword v) rfl (fun _ => rfl) rfl rfl
  | .getContextValue v, _ => runs_leaf (tk := tok .dollar v) rfl (fun _ => rfl) rfl rfl
  | .binary _ _ l r, hw =>
    have ⟨_, _, _, _, hlv, hrv, hlw, hrw, _, _⟩ := hw
    runs_binary hna (elemRuns_value hlv ▸ runsT c hna l hlw) (elemRuns_value hrv ▸ runsT c hna r hrw) hw
  | .unary _ _ x, hw =>
    have ⟨_, _, _, _, hxv, hxw, _⟩ := hw
    runs_unary hna (elemRuns_value hxv ▸ runsT c hna x hxw) hw
  | .index b as, hw =>
    have ⟨hbv, hbw, _, _, hwl⟩ := hw
    runs_index (elemRuns_value hbv ▸ runsT c hna b hbw) (runsL c hna as hwl) hw
  | .list as, hw => runs_build (k := .list) (fun _ h _ => run_operand h rfl) (runsL c hna as hw.2) hw.2 hw.1
  | .map as, hw => runs_build (k := .map) (fun _ h _ => run_operand h rfl) (runsL c hna as hw.2) hw.2 hw.1
  | .func n as, hw => runs_build (k := .func n) (fun _ h _ => run_operand h rfl) (runsL c hna as hw.2) hw.2 hw.1
  | .call f as, hw =>
    have ⟨_, hfv, hfw, _, _, hwl⟩ := hw
    runs_call (elemRuns_value hfv ▸ runsT c hna f hfw) (runsL c hna as hwl) hw
  | .wrap e, hw => runs_wrap hw.2 (elemRuns_value hw.1 ▸ runsT c hna e hw.2)
  | .mappingRule sr ds, hw =>
    have ⟨hsv, hdv, hsw, hdw⟩ := hw
    ⟨elemRuns_value hsv ▸ runsT c hna sr hsw, elemRuns_value hdv ▸ runsT c hna ds hdw⟩
  | .noValue, _ => trivial
theorem runsL (c : Cfg) (hna : NoAmb c) : ∀ (as : List Ast), WFL c as → ∀ a ∈ as, ElemRuns c a
  | [], _, a, h => by simp at h
  | x :: xs, hw, a, h => by
    rcases List.mem_cons.mp h with h1 | h1
    · rw [h1]; exact runsT c hna x hw.1
    · exact runsL c hna xs hw.2 a h1
end

/-- **C02, tree layer, round trip.**  For every table in which no symbol is both a suffix and a
binary operator: a tree that satisfies the precedence predicate is exactly what the parser returns
for the token sequence the tree spells.  With `parse_sound` this gives completeness (every `WF`
tree is reachable) and uniqueness (`parse_unique`). -/
theorem parse_roundtrip (c : Cfg) (hna : NoAmb c) (t : Ast) (h : WF c t) : parse c (yield c t) = .ok t := by
  obtain ⟨hv, hw⟩ := h
  have hr := runsT c hna t hw
  rw [elemRuns_value hv] at hr
  have h1 := hr [] trivial (fun q _ => shifts_none q)
  simp only [parse]
  have h0 : ({} : St) = ⟨[], none⟩ := rfl
  rw [h0, h1]
  simp only [finish, resolveAmb]
  rw [reduceWhile_value (p := none) (S := []) hw (fun _ _ => trivial) (by simp [stopP, ctxOf])]

/-- the tree the table dictates for a token sequence is unique: two `WF` trees that spell the same
tokens are equal -/
theorem yield_injective (c : Cfg) (hna : NoAmb c) (t t' : Ast) (h : WF c t) (h' : WF c t')
    (hy : yield c t = yield c t') : t = t' := by
  have a := parse_roundtrip c hna t h
  have b := parse_roundtrip c hna t' h'
  rw [hy, b] at a
  injection a with a
  exact a.symm

/-- whatever the parser returns for a token list is THE tree dictated by the table: any `WF` tree
spelling those tokens is that one -/
theorem parse_unique (c : Cfg) (hna : NoAmb c) (toks : List Token) (t t' : Ast) (hp : parse c toks = .ok t')
    (h : WF c t) (hy : yield c t = toks.map norm) : t' = t := by
  obtain ⟨h', hy'⟩ := parse_sound c toks t' hp
  exact yield_injective c hna t' t h' h (hy'.trans hy.symm)

/-! ### positions (and the value field of operator tokens) do not influence the tree -/

theorem norm_kind (t : Token) : (norm t).kind = t.kind := by
  unfold norm; split <;> rfl

theorem norm_val (t : Token) (h : carriesVal t.kind = true) : (norm t).val = t.val := by
  unfold norm; split <;> first | rfl | simp_all [carriesVal]

theorem step_norm (c : Cfg) (st : St) (t : Token) {s : St} (h : step c st (norm t) = .ok s) : step c st t = .ok s := by
  rw [step_same (norm_kind t).symm st (fun hc => (norm_val t (norm_kind t ▸ hc)).symm), h]; rfl

theorem run_norm (c : Cfg) : ∀ (toks : List Token) (st st' : St), run c st (toks.map norm) = .ok st' →
    run c st toks = .ok st'
  | [], _, _, h => h
  | t :: ts, st, st', h => by
    simp only [List.map_cons, run] at h ⊢
    split at h
    · rename_i st1 hs
      rw [step_norm c st t hs]; exact run_norm c ts st1 st' h
    · cases h

/-- **completeness for real token lists**: if a `WF` tree spells the token list (positions aside), the
parser returns that tree -/
theorem parse_complete (c : Cfg) (hna : NoAmb c) (toks : List Token) (t : Ast) (h : WF c t)
    (hy : yield c t = toks.map norm) : parse c toks = .ok t := by
  have h1 := parse_roundtrip c hna t h
  rw [hy] at h1
  simp only [parse] at h1 ⊢
  split at h1
  · rename_i st hr
    rw [run_norm c toks {} st hr]; exact h1
  · cases h1

/-- **C02, tree layer, summary**: for a table without suffix/binary symbols the parser succeeds on a
token list exactly when a `WF` tree spells it, and then returns that (unique) tree -/
theorem parse_iff (c : Cfg) (hna : NoAmb c) (toks : List Token) (t : Ast) :
    parse c toks = .ok t ↔ WF c t ∧ yield c t = toks.map norm :=
  ⟨parse_sound c toks t, fun ⟨h, hy⟩ => parse_complete c hna toks t h hy⟩

/-! ### side condition `NoAmb`, executable; non-vacuity -/

def noAmbB (c : Cfg) : Bool := c.ops.all fun e => !(decide (e.2.up < 0) && decide (e.2.bp ≠ 0))

theorem noAmb_of_check (c : Cfg) (h : noAmbB c = true) : NoAmb c := by
  intro sym o ho hc
  have hg : c.ops.get? sym = some o := by
    unfold Cfg.opRec at ho
    split at ho
    · simp at ho
    · exact ho
  have hm := C02Levels.mem_of_get? _ _ _ hg
  simp only [noAmbB, List.all_eq_true] at h
  have := h _ hm
  simp [hc.1, hc.2] at this

/-- a small table: `.` (group 1), prefix `-` (2), `*` (3), `+ -` (4), `not` (5), right-associative `->` (6) -/
def demoCfg : Cfg :=
  ⟨[(['.'], ⟨0, 1, ['A'], none⟩), (['-'], ⟨2, 4, ['M'], none⟩), (['*'], ⟨0, 3, ['T'], some ['m', 'u', 'l']⟩),
    (['+'], ⟨0, 4, ['P'], none⟩), (['n', 'o', 't'], ⟨5, 0, ['N'], none⟩), (['-', '>'], ⟨0, -6, ['R'], none⟩)],
   [(false, [['R']]), (true, [['N']]), (true, [['M'], ['P']]), (true, [['T']]),
    (true, [['U', 'N', 'A', 'R', 'Y', '_', 'M']]), (true, [['L', 'I', 'S', 'T'], ['I', 'N', 'D', 'E', 'X', 'E', 'R'], ['M', 'A', 'P']]),
    (true, [['A']]), (true, [[',']])],
   true⟩

theorem demo_noAmb : NoAmb demoCfg := noAmb_of_check _ (by decide)

def n1 : Ast := .const .number (.int 1)
def va : Ast := .getContextValue (.text ['$', 'a'])

/-- `- $a * 1 + not 1 -> f(1, , $a => 1)[$a](1)` parses to the tree the table dictates ... -/
example :
    parse demoCfg [tOp ['-'], tok .dollar (.text ['$', 'a']), tOp ['*'], tok .number (.int 1), tOp ['+'],
      tOp ['n', 'o', 't'], tok .number (.int 1), tOp ['-', '>'],
      tok .func (.text ['f']), tok .number (.int 1), tLit ',', tLit ',', tok .dollar (.text ['$', 'a']),
      tok .mapping, tok .number (.int 1), tLit ')', tok .indexer, tok .dollar (.text ['$', 'a']), tLit ']',
      tLit '(', tok .number (.int 1), tLit ')'] =
    .ok (.call (.binary ['-', '>'] none
        (.binary ['+'] none (.binary ['*'] (some ['m', 'u', 'l']) (.unary ['-'] none va) n1) (.unary ['n', 'o', 't'] none n1))
        (.index (.func (.text ['f']) [n1, .noValue, .mappingRule va n1]) [va])) [n1]) := by rfl

/-- ... so the hypotheses of `parse_sound` are satisfiable by a non-trivial instance, and its conclusion
gives a non-trivial `WF` tree - which is then a non-trivial instance of `parse_roundtrip`'s hypothesis -/
example : ∃ t, WF demoCfg t ∧ parse demoCfg (yield demoCfg t) = .ok t ∧ (yield demoCfg t).length = 11 := by
  have h : parse demoCfg [tOp ['-'], tok .dollar (.text ['$', 'a']), tOp ['*'], tok .number (.int 1), tOp ['+'],
      tOp ['n', 'o', 't'], tok .number (.int 1), tOp ['-', '>'], tok .number (.int 1), tOp ['-', '>'],
      tok .number (.int 1)] =
      .ok (.binary ['-', '>'] none
        (.binary ['+'] none (.binary ['*'] (some ['m', 'u', 'l']) (.unary ['-'] none va) n1) (.unary ['n', 'o', 't'] none n1))
        (.binary ['-', '>'] none n1 n1)) := by rfl
  obtain ⟨hw, hy⟩ := parse_sound _ _ _ h
  exact ⟨_, hw, parse_roundtrip _ demo_noAmb _ hw, by rw [hy]; rfl⟩

/-- `WF` is not trivially true: the left-nested `(1 -> 1) -> 1` without parentheses is not `WF` for a
right-associative `->` -/
example : ¬ WF demoCfg (.binary ['-', '>'] none (.binary ['-', '>'] none n1 n1) n1) := by
  intro ⟨_, h⟩
  obtain ⟨o, ho, _, _, _, _, _, _, h1, _⟩ := h
  have ho' : o = ⟨0, -6, ['R'], none⟩ := by
    have : demoCfg.opRec ['-', '>'] = some ⟨0, -6, ['R'], none⟩ := by decide
    rw [this] at ho; injection ho with ho; exact ho.symm
  subst ho'
  have := h1 (demoCfg.tokPrec ⟨0, -6, ['R'], none⟩) (by
    rw [rsr_binary (o := ⟨0, -6, ['R'], none⟩) (by decide)]; exact List.mem_cons_self ..)
  revert this
  decide

end Yaql.Props.C02
