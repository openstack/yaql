import Yaql.Props.C05
/-!
C06 - resolution does not depend on registration or iteration order.

The enumeration order of a context's overload set is the order of the list
`Layer.fns` in the model.  `LayersPerm ls ls'` says that `ls'` is `ls` with every
layer's overloads enumerated in some other order.

* `perm_invariant`: the code-shaped `resolve` (chosen overload, bound arguments, evaluation log,
  error class) is invariant under every layer-wise permutation - IN FULL, for every class graph,
  family and call.  Proof: `resolve = resolveSpec` (C05) and each stage of `resolveSpec` is a
  permutation-invariant function of the layer (`visible_perm`, `stage_perm`, `choose_perm`).
* `old_order_dependent`: the winner selection before repair d8b1afa (one left-to-right pass
  comparing each match with the current winner) was order dependent on plain class lattices.
* `old_tuple_order_dependent`: the comparison before repair 9bf7e72 (`issubclass` raising
  `TypeError` for a tuple-typed against a class-typed parameter) made the outcome - TypeError or
  Ambiguous - depend on the order even with the repaired selection.
-/
namespace Yaql.Props.C06
open Yaql.Types Yaql.Resolve Yaql.Props.C05

/-- layer-wise permutation of the overloads -/
inductive LayersPerm : List Layer → List Layer → Prop where
  | nil : LayersPerm [] []
  | cons {l l' : Layer} {r r' : List Layer} :
      l.fns.Perm l'.fns → l.exclusive = l'.exclusive → LayersPerm r r' → LayersPerm (l :: r) (l' :: r')

inductive LPerm {α : Type} : List (List α) → List (List α) → Prop where
  | nil : LPerm [] []
  | cons {a a' : List α} {r r' : List (List α)} : a.Perm a' → LPerm r r' → LPerm (a :: r) (a' :: r')

namespace LPerm

theorem flatten {α : Type} : ∀ {a b : List (List α)}, LPerm a b → a.flatten.Perm b.flatten
  | _, _, .nil => .refl _
  | _, _, .cons h t => by simpa using h.append t.flatten

theorem map {α β : Type} (f : List α → List β) (hf : ∀ x y, x.Perm y → (f x).Perm (f y)) :
    ∀ {a b : List (List α)}, LPerm a b → LPerm (a.map f) (b.map f)
  | _, _, .nil => .nil
  | _, _, .cons h t => .cons (hf _ _ h) (t.map f hf)

theorem filter_nonempty {α : Type} : ∀ {a b : List (List α)}, LPerm a b →
    LPerm (a.filter fun x => !x.isEmpty) (b.filter fun x => !x.isEmpty)
  | _, _, .nil => .nil
  | _, _, .cons (a := x) (a' := y) h t => by
      have he : x.isEmpty = y.isEmpty := h.isEmpty_eq
      simp only [List.filter_cons, he]
      cases y.isEmpty
      · exact .cons h t.filter_nonempty
      · exact t.filter_nonempty

end LPerm

/-! ## stage by stage -/

theorem reach_perm : ∀ {ls ls' : List Layer}, LayersPerm ls ls' → LayersPerm (reach ls) (reach ls')
  | _, _, .nil => .nil
  | _, _, .cons (l := l) (l' := l') h he t => by
      simp only [reach, ← he]
      cases l.exclusive
      · exact .cons h he (reach_perm t)
      · exact .cons h he .nil

theorem layers_map_perm (method : Bool) : ∀ {ls ls' : List Layer}, LayersPerm ls ls' →
    LPerm (ls.map fun l => l.fns.filter (kindOk method)) (ls'.map fun l => l.fns.filter (kindOk method))
  | _, _, .nil => .nil
  | _, _, .cons h _ t => .cons (h.filter _) (layers_map_perm method t)

/-- rules 1-2 are a function of the overload SET of every layer -/
theorem visible_perm (method : Bool) {ls ls' : List Layer} (h : LayersPerm ls ls') :
    LPerm (visible method ls) (visible method ls') :=
  (layers_map_perm method (reach_perm h)).filter_nonempty

/-- rules 7-8: the winner is a function of the SET of matches -/
theorem choose_perm (L : Lattice) {ms ms' : List Match} (h : ms.Perm ms') : choose L ms = choose L ms' := by
  have hb : (best L ms).Perm (best L ms') := by
    simp only [best_eq]
    have : (fun m => ms.all (beats L m)) = (fun m => ms'.all (beats L m)) := by
      funext m; exact h.all_eq
    rw [this]
    exact h.filter _
  -- `choose` only asks whether `best` is a singleton, and which; a permutation of `[w]` is `[w]`
  have single (w : Match) : best L ms = [w] ↔ best L ms' = [w] :=
    ⟨fun e => List.perm_singleton.1 (e ▸ hb.symm), fun e => List.perm_singleton.1 (e ▸ hb)⟩
  unfold choose
  split
  next w hw => rw [(single w).1 hw]
  next hn =>
    split
    next w hw => exact absurd ((single w).2 hw) (hn w)
    next => rfl

theorem decide'_perm (L : Lattice) {a b : List (List Match)} (h : LPerm a b) : decide' L a = decide' L b := by
  unfold decide'
  rw [← List.head?_filter, ← List.head?_filter]
  have hf := h.filter_nonempty
  generalize a.filter (fun x => !x.isEmpty) = fa, b.filter (fun x => !x.isEmpty) = fb at hf ⊢
  cases hf with
  | nil => rfl
  | cons hp _ => exact choose_perm L hp

theorem headD_eq_any {α : Type} (f : α → Bool) : ∀ (l : List α), (l.any f && l.any (fun x => !f x)) = false →
    (l.map f).headD false = l.any f
  | [], _ => rfl
  | a :: r, h => by
      simp only [List.map_cons, List.headD_cons, List.any_cons] at h ⊢
      cases hf : f a
      · simp only [hf, Bool.false_or, Bool.not_false, Bool.true_or, Bool.and_true] at h ⊢
        exact h.symm
      · simp

def sigsAgree (l : List Cand) : Prop := ∀ a ∈ l, ∀ b ∈ l, a.sig = b.sig

theorem agree_iff (m0 : Cand) (rest : List Cand) :
    (rest.all fun m => decide (m.sig = m0.sig)) = true ↔ sigsAgree (m0 :: rest) := by
  simp only [List.all_eq_true, decide_eq_true_eq, sigsAgree, List.mem_cons]
  constructor
  · intro h a ha b hb
    have key : ∀ x, x = m0 ∨ x ∈ rest → x.sig = m0.sig := fun x hx => hx.elim (fun e => e ▸ rfl) (h x)
    exact (key a ha).trans (key b hb).symm
  · exact fun h m hm => h m (Or.inr hm) m0 (Or.inl rfl)

theorem sigsAgree_perm {l l' : List Cand} (h : l.Perm l') : sigsAgree l ↔ sigsAgree l' := by
  unfold sigsAgree
  constructor
  · intro H a ha b hb; exact H a (h.mem_iff.2 ha) b (h.mem_iff.2 hb)
  · intro H a ha b hb; exact H a (h.mem_iff.1 ha) b (h.mem_iff.1 hb)

def StageRel : Except Err (List Nat × List (List Match)) → Except Err (List Nat × List (List Match)) → Prop
  | .error e, .error e' => e = e'
  | .ok r, .ok r' => r.1 = r'.1 ∧ LPerm r.2 r'.2
  | _, _ => False

/-- rules 3-5: errors, the evaluation log and the per-layer match SETS are functions of the
    per-layer overload sets -/
theorem stage_perm (L : Lattice) (c : Call) {vis vis' : List (List FDef)} (h : LPerm vis vis') :
    StageRel (stage L vis c) (stage L vis' c) := by
  -- rule 3 reads the overloads through `any` only
  have hany (f : FDef → Bool) : vis.flatten.any f = vis'.flatten.any f := h.flatten.any_eq
  unfold stage
  simp only [hany]
  cases hnk : (vis'.flatten.any fun x => x.noKwargs) && vis'.flatten.any fun x => !x.noKwargs with
  | true => exact rfl
  | false =>
      simp only [Bool.false_eq_true, if_false]
      rw [headD_eq_any (fun x : FDef => x.noKwargs) vis.flatten (by rw [hany, hany]; exact hnk),
        headD_eq_any _ _ hnk, hany]
      cases translateArgs (vis'.flatten.any fun x => x.noKwargs) (callArgs c) c.kwargs with
      | error e => exact rfl
      | ok r =>
          obtain ⟨args, kw⟩ := r
          simp only
          have hm : LPerm (vis.map (mappedOf L args kw)) (vis'.map (mappedOf L args kw)) :=
            h.map _ fun _ _ p => p.filterMap _
          have hmf := hm.flatten
          cases hf : (vis.map (mappedOf L args kw)).flatten with
          | nil =>
              rw [hf] at hmf
              rw [← hmf.nil_eq]
              exact rfl
          | cons m0 rest =>
              rw [hf] at hmf
              cases hf' : (vis'.map (mappedOf L args kw)).flatten with
              | nil => rw [hf'] at hmf; exact absurd hmf.eq_nil (by simp)
              | cons m0' rest' =>
                  rw [hf'] at hmf
                  have hag : (rest.all fun m => decide (m.sig = m0.sig)) = (rest'.all fun m => decide (m.sig = m0'.sig)) := by
                    rw [Bool.eq_iff_iff, agree_iff, agree_iff]
                    exact sigsAgree_perm hmf
                  simp only [hag]
                  cases hall : rest'.all fun m => decide (m.sig = m0'.sig) with
                  | false => exact rfl
                  | true =>
                      have hs : m0.sig = m0'.sig := by
                        have := (agree_iff m0' rest').1 hall
                        exact this m0 (hmf.mem_iff.1 (by simp)) m0' (by simp)
                      simp only [Bool.not_true, Bool.false_eq_true, if_false, hs, StageRel, true_and]
                      exact hm.map _ fun _ _ p => p.filterMap _

/-- **the rule-shaped resolution is invariant under every layer-wise permutation - in full** -/
theorem spec_perm_invariant (L : Lattice) (c : Call) {ls ls' : List Layer} (h : LayersPerm ls ls') :
    resolveSpec L ls' c = resolveSpec L ls c := by
  have hv := visible_perm c.receiver.isSome h
  have he : (visible c.receiver.isSome ls).flatten.isEmpty = (visible c.receiver.isSome ls').flatten.isEmpty :=
    hv.flatten.isEmpty_eq
  unfold resolveSpec
  simp only [he]
  split
  · rfl
  · unfold chooseSpec
    match stage L (visible c.receiver.isSome ls) c, stage L (visible c.receiver.isSome ls') c, stage_perm L c hv with
    | .error _, .error _, rfl => rfl
    | .ok (lg, _), .ok (lg', _), ⟨hl, hp⟩ =>
        obtain rfl : lg = lg' := hl
        simp only [decide'_perm L hp]
    | .error _, .ok _, hs => exact hs.elim
    | .ok _, .error _, hs => exact hs.elim

/-- **C06**: the chosen overload, the bound arguments, the evaluation log and the error class do
    not depend on the order in which any layer enumerates its overloads -/
theorem perm_invariant (L : Lattice) (c : Call) (ls ls' : List Layer) (h : LayersPerm ls ls') :
    resolve L ls' c = resolve L ls c := by
  rw [resolve_eq_spec L ls c, resolve_eq_spec L ls' c]
  exact spec_perm_invariant L c h

/-! ## what was order dependent before the repairs -/

/-- the winner selection before the repair: one pass, each match compared with the current winner only -/
def selectOld (L : Lattice) : Option Match → List Match → Except Err (Nat × Bound)
  | none, [] => .error .noMatching
  | some w, [] => .ok (w.cand.fd.id, w.bound)
  | none, m :: r => selectOld L (some m) r
  | some w, m :: r =>
      if moreSpecific L w.cand.mapping m.cand.mapping then selectOld L (some w) r
      else if moreSpecific L m.cand.mapping w.cand.mapping then selectOld L (some m) r
      else .error .ambiguous

namespace Ex
open Yaql.Props.C05.Ex

def mk (f : FDef) : Match :=
  { cand := { fd := f, mapping := { pos := f.params, kwd := [] } },
    bound := { pos := [], extra := [], kw := [] } }
def mA := mk (fn 0 [pos 'a' 0 (cls 4), pos 'b' 1 (cls 4)])     -- A(D, D)
def mB := mk (fn 1 [pos 'a' 0 (cls 2), pos 'b' 1 (cls 1)])     -- B(L, Base)
def mC := mk (fn 2 [pos 'a' 0 (cls 1), pos 'b' 1 (cls 3)])     -- C(Base, R)

end Ex

/-- before the repair: `A(D,D)`, `B(L,Base)`, `C(Base,R)` all compatible - `A` or `Ambiguous`
    depending on the enumeration order; the repaired selection answers `A` in every order -/
theorem old_order_dependent :
    selectOld C05.Ex.lat none [Ex.mA, Ex.mB, Ex.mC] = .ok (0, Ex.mA.bound) ∧
    selectOld C05.Ex.lat none [Ex.mB, Ex.mC, Ex.mA] = .error .ambiguous ∧
    (∀ ms, ms.Perm [Ex.mA, Ex.mB, Ex.mC] → choose C05.Ex.lat ms = .ok (0, Ex.mA.bound)) := by
  refine ⟨by decide +kernel, by decide +kernel, fun ms h => ?_⟩
  rw [choose_perm _ h]
  decide +kernel

/-! ### the comparison before 9bf7e72 -/

/-- `_is_specialization_of` over the pre-fix `is_specialization_of` (`none` = TypeError) -/
def specLoopOld (L : Lattice) : List (PTy × PTy) → Bool → Option Bool
  | [], res => some res
  | (t1, t2) :: r, res =>
      match isSpecializationOfOld L t2 t1 with
      | none => none
      | some true => some false
      | some false =>
          match isSpecializationOfOld L t1 t2 with
          | none => none
          | some true => specLoopOld L r true
          | some false => specLoopOld L r res

/-- `all(other is mapping or _is_specialization_of(mapping, other) ...)`, short-circuiting -/
def allSpecOld (L : Lattice) (m : Match) : List Match → Option Bool
  | [] => some true
  | o :: r =>
      if o.cand.fd.id == m.cand.fd.id then allSpecOld L m r
      else match specLoopOld L (m.cand.mapping.typePairs o.cand.mapping) false with
        | none => none
        | some false => some false
        | some true => allSpecOld L m r

/-- the list comprehension `winners = [...]`; `none` = a TypeError escaped -/
def winnersOld (L : Lattice) (ms : List Match) : List Match → Option (List Match)
  | [] => some []
  | m :: r =>
      match allSpecOld L m ms with
      | none => none
      | some b => match winnersOld L ms r with
          | none => none
          | some ws => some (if b then m :: ws else ws)

namespace Ex
open Yaql.Props.C05.Ex

def num : PTy := .py (.many [6, 8]) false []        -- Number(): (int, float)
def intTy : PTy := .py (.one 6) false []
/-- `X(a: Base, b: object)`, `A(a: object, b: Number)`, `B(a: object, b: Integer)` -/
def mX := mk (fn 0 [pos 'a' 0 (cls 1), pos 'b' 1 (cls 0)])
def mNum := mk (fn 1 [pos 'a' 0 (cls 0), pos 'b' 1 num])
def mInt := mk (fn 2 [pos 'a' 0 (cls 0), pos 'b' 1 intTy])

end Ex

/-- before 9bf7e72: with `X`, `A(.., Number)`, `B(.., Integer)` all type-compatible, enumeration
    order [A, B, X] let a TypeError escape while [X, B, A] found no winner (Ambiguous); the repaired
    comparison gives the same answer - no winner, Ambiguous - in every order -/
theorem old_tuple_order_dependent :
    winnersOld C05.Ex.lat [Ex.mNum, Ex.mInt, Ex.mX] [Ex.mNum, Ex.mInt, Ex.mX] = none ∧
    winnersOld C05.Ex.lat [Ex.mX, Ex.mInt, Ex.mNum] [Ex.mX, Ex.mInt, Ex.mNum] = some [] ∧
    (∀ ms, ms.Perm [Ex.mNum, Ex.mInt, Ex.mX] → choose C05.Ex.lat ms = .error .ambiguous) := by
  refine ⟨by decide +kernel, by decide +kernel, fun ms h => ?_⟩
  rw [choose_perm _ h]
  decide +kernel

/-- non-vacuity: a family with three simultaneously compatible candidates and a permutation of it -/
example : LayersPerm C05.Ex.famABC [{ fns := (C05.Ex.famABC.head!).fns.reverse, exclusive := false }] :=
  .cons (by decide +kernel) rfl .nil

example : (resolve C05.Ex.lat [{ fns := (C05.Ex.famABC.head!).fns.reverse, exclusive := false }] C05.Ex.callXX).res =
    (resolve C05.Ex.lat C05.Ex.famABC C05.Ex.callXX).res := by decide +kernel

end Yaql.Props.C06
