import Yaql.Model.EvalStore
/-!
# What the store-passing evaluator writes (`Model/EvalStore.lean`)

For ALL expressions, stores, start contexts and fuel:

* `log_disciplined`: the log an evaluation appends is *disciplined* (`okLog`): the contexts it allocates get
  the next free IDs, and every write (`c[name] = v`, `register_function`) targets the context allocated
  **last** - a context is written only by the call that created it, before anything else is allocated,
  i.e. before a child of it exists or anybody else can hold it; the closure a `def` registers captured the
  context it is registered in.
* `writes_fresh`: hence every write targets a context allocated during this evaluation (ID >= the size of
  the store at its start); the store afterwards is the store before with the log replayed on it (second part
  of `log_disciplined`: the log is complete, nothing is written that is not logged).
* `store_prefix_unchanged` (= `frame` for the mutable representation): every cell that existed before is
  identical afterwards - data, functions, parent - also when the evaluation ends in an exception; the
  store only grows (`store_extends`).
* `statement_only_dollar`: `Statement.evaluate` changes the cells that existed before exactly as
  `context['$'] = data` alone does.

The proofs go through one compositional predicate, `Sat m`: "from every state, `m` appends a disciplined
log segment and its store is the replay of that segment", closed under `bind`; `Open X m` is the same for
a computation that starts while context `X` is still the last one allocated (it may go on writing `X`).
-/
namespace Yaql.Props.EvalStore
open Yaql Yaql.Value Yaql.Eval Yaql.EvalStore

def apply1 (cs : List Cell) : Entry → List Cell
  | .alloc _ p => cs ++ [{ parent := some p }]
  | .set c n v => modifyCell cs c fun cell => { cell with data := Context.aset n v cell.data }
  | .reg c f b d => modifyCell cs c fun cell => { cell with funs := Context.aset f (b, d) cell.funs }

def replay (cs : List Cell) : List Entry → List Cell
  | [] => cs
  | en :: r => replay (apply1 cs en) r

def allocs : List Entry → Nat
  | [] => 0
  | .alloc _ _ :: r => allocs r + 1
  | _ :: r => allocs r

/-- the context an entry writes (`none`: it only allocates) -/
def target : Entry → Option Nat
  | .alloc _ _ => none
  | .set c _ _ => some c
  | .reg c _ _ _ => some c

/-- the discipline: `n` = next free ID, `cur` = the context allocated last (still unshared) -/
def okLog : Nat → Option Nat → List Entry → Bool
  | _, _, [] => true
  | n, _, .alloc id _ :: r => id == n && okLog (n + 1) (some id) r
  | n, cur, .set c _ _ :: r => cur == some c && okLog n cur r
  | n, cur, .reg c _ _ cap :: r => cur == some c && cap == c && okLog n cur r

theorem modifyCell_length (cs : List Cell) (c : Nat) (f : Cell → Cell) : (modifyCell cs c f).length = cs.length := by
  unfold modifyCell; split <;> simp

theorem apply1_length (cs : List Cell) (en : Entry) : (apply1 cs en).length = cs.length + allocs [en] := by
  cases en <;> simp [apply1, allocs, modifyCell_length]

theorem allocs_append (a b : List Entry) : allocs (a ++ b) = allocs a + allocs b := by
  induction a with
  | nil => simp [allocs]
  | cons en r ih => cases en <;> simp [allocs, ih] <;> omega

theorem replay_length : ∀ (d : List Entry) (cs : List Cell), (replay cs d).length = cs.length + allocs d
  | [], cs => by simp [replay, allocs]
  | en :: r, cs => by
      show (replay (apply1 cs en) r).length = cs.length + allocs ([en] ++ r)
      rw [replay_length r, apply1_length, Nat.add_assoc, allocs_append]

theorem replay_append : ∀ (a b : List Entry) (cs : List Cell), replay cs (a ++ b) = replay (replay cs a) b
  | [], _, _ => rfl
  | en :: r, b, cs => by simp only [List.cons_append, replay]; exact replay_append r b _

theorem okLog_weaken : ∀ (d : List Entry) (n : Nat) (cur : Option Nat), okLog n none d = true → okLog n cur d = true
  | [], _, _, _ => rfl
  | .alloc id p :: r, n, cur, h => by simpa [okLog] using h
  | .set c x v :: r, n, cur, h => by simp [okLog] at h
  | .reg c f b d :: r, n, cur, h => by simp [okLog] at h

theorem okLog_append : ∀ (a b : List Entry) (n : Nat) (cur : Option Nat), okLog n cur a = true →
    okLog (n + allocs a) none b = true → okLog n cur (a ++ b) = true
  | [], b, n, cur, _, hb => okLog_weaken b n cur hb
  | en :: r, b, n, cur, ha, hb => by
      cases en <;> simp only [okLog, Bool.and_eq_true, allocs, List.cons_append] at ha hb ⊢
      · exact ⟨ha.1, okLog_append r b _ _ ha.2 (by rwa [Nat.add_assoc, Nat.add_comm 1])⟩
      all_goals exact ⟨ha.1, okLog_append r b n cur ha.2 hb⟩

/-- a disciplined log writes fresh contexts only -/
theorem okLog_fresh (n0 : Nat) : ∀ (d : List Entry) (n : Nat) (cur : Option Nat), n0 ≤ n →
    (∀ c, cur = some c → n0 ≤ c) → okLog n cur d = true → ∀ en ∈ d, ∀ c, target en = some c → n0 ≤ c
  | [], _, _, _, _, _, en, hm, _, _ => by cases hm
  | en' :: r, n, cur, hn, hc, h, en, hm, c, ht => by
      rcases List.mem_cons.mp hm with rfl | hr
      · cases en <;> simp only [okLog, Bool.and_eq_true, beq_iff_eq, target, Option.some.injEq, reduceCtorEq] at h ht
        all_goals exact ht ▸ hc _ (by simp [h])
      · cases en' <;> simp only [okLog, Bool.and_eq_true, beq_iff_eq] at h
        · exact okLog_fresh n0 r _ _ (by omega) (fun c hc => by cases hc; omega) h.2 en hr c ht
        all_goals exact okLog_fresh n0 r n cur hn hc h.2 en hr c ht

theorem modifyCell_get_ne (cs : List Cell) (c i : Nat) (f : Cell → Cell) (h : i ≠ c) :
    (modifyCell cs c f)[i]? = cs[i]? := by
  unfold modifyCell; split
  · simp [Ne.symm h]
  · rfl

/-- replaying entries that write only IDs >= `n0` leaves the cells below `n0` alone -/
theorem replay_frame (n0 : Nat) : ∀ (d : List Entry) (cs : List Cell), n0 ≤ cs.length →
    (∀ en ∈ d, ∀ c, target en = some c → n0 ≤ c) → ∀ i < n0, (replay cs d)[i]? = cs[i]?
  | [], _, _, _, _, _ => rfl
  | en :: r, cs, hl, h, i, hi => by
      simp only [replay]
      rw [replay_frame n0 r (apply1 cs en) (by rw [apply1_length]; omega)
        (fun en' hm => h en' (List.mem_cons_of_mem _ hm)) i hi]
      have ht := h _ (List.mem_cons_self ..)
      cases en with
      | alloc id p => exact List.getElem?_append_left (by omega)
      | _ => exact modifyCell_get_ne _ _ _ _ (by have := ht _ rfl; omega)

/-- `s'` is `s` after the log segment `d` -/
def Seg (s s' : St) (d : List Entry) : Prop := s'.log = s.log ++ d ∧ s'.cells = replay s.cells d

/-- from every state `m` appends a disciplined segment (no context open at its start) -/
def Sat (m : M α) : Prop := ∀ s, ∃ d, Seg s (m s).2 d ∧ okLog s.cells.length none d = true

/-- ... started while `X` is the context allocated last -/
def Open (X : Nat) (m : M α) : Prop := ∀ s, ∃ d, Seg s (m s).2 d ∧ okLog s.cells.length (some X) d = true

/-- `m` only writes context `X` (closures it registers there captured `X`) -/
def Writes (X : Nat) (m : M α) : Prop := ∀ s, ∃ d, Seg s (m s).2 d ∧ allocs d = 0 ∧ ∀ n, okLog n (some X) d = true

theorem Seg.refl (s : St) : Seg s s [] := ⟨by simp, rfl⟩

theorem Seg.trans {s s1 s2 : St} {d1 d2 : List Entry} (h1 : Seg s s1 d1) (h2 : Seg s1 s2 d2) : Seg s s2 (d1 ++ d2) :=
  ⟨by rw [h2.1, h1.1, List.append_assoc], by rw [h2.2, h1.2, replay_append]⟩

theorem bind_run (m : M α) (f : α → M β) (s : St) :
    (m >>= f) s = match m s with | (.ok a, s') => f a s' | (.error e, s') => (.error e, s') := rfl

theorem Sat.pure (a : α) : Sat (pure a : M α) := fun s => ⟨[], Seg.refl s, rfl⟩
theorem Sat.fail (e : Err) : Sat (fail e : M α) := fun s => ⟨[], Seg.refl s, rfl⟩
theorem Sat.liftR (x : R α) : Sat (liftR x) := fun s => ⟨[], Seg.refl s, rfl⟩
theorem Sat.readVarS (c : Nat) (x : Name) : Sat (readVarS c x) := fun s => by
  refine ⟨[], ?_, rfl⟩
  unfold EvalStore.readVarS
  split
  · exact Seg.refl s
  · split <;> exact Seg.refl s
theorem Sat.getFunS (c : Nat) (f : Name) : Sat (getFunS c f) := fun s => ⟨[], Seg.refl s, rfl⟩

theorem Sat.open {m : M α} (h : Sat m) (X : Nat) : Open X m := fun s => by
  obtain ⟨d, hs, hd⟩ := h s
  exact ⟨d, hs, okLog_weaken d _ _ hd⟩

theorem seg_bind {m : M α} {f : α → M β} {s : St} {d1 : List Entry} {R : List Entry → Prop}
    (h1 : Seg s (m s).2 d1) (herr : R d1) (hok : ∀ a, ∃ d2, Seg (m s).2 (f a (m s).2).2 d2 ∧ R (d1 ++ d2)) :
    ∃ d, Seg s ((m >>= f) s).2 d ∧ R d := by
  rw [bind_run]
  rcases hm : m s with ⟨_ | a, s1⟩ <;> rw [hm] at h1 hok
  · exact ⟨d1, h1, herr⟩
  · obtain ⟨d2, h2, hr⟩ := hok a
    exact ⟨_, h1.trans h2, hr⟩

theorem bind_okLog {cur : Option Nat} {m : M α} {f : α → M β}
    (hm : ∀ s, ∃ d, Seg s (m s).2 d ∧ okLog s.cells.length cur d = true) (hf : ∀ a, Sat (f a)) :
    ∀ s, ∃ d, Seg s ((m >>= f) s).2 d ∧ okLog s.cells.length cur d = true := fun s => by
  obtain ⟨d1, hs1, hd1⟩ := hm s
  refine seg_bind hs1 hd1 fun a => ?_
  obtain ⟨d2, hs2, hd2⟩ := hf a (m s).2
  exact ⟨d2, hs2, okLog_append d1 d2 _ _ hd1 (by rw [← replay_length, ← hs1.2]; exact hd2)⟩

theorem Sat.bind {m : M α} {f : α → M β} (hm : Sat m) (hf : ∀ a, Sat (f a)) : Sat (m >>= f) := bind_okLog hm hf

theorem Open.bind {X : Nat} {m : M α} {f : α → M β} (hm : Open X m) (hf : ∀ a, Sat (f a)) : Open X (m >>= f) :=
  bind_okLog hm hf

theorem okLog_writes_append : ∀ (a b : List Entry) (n : Nat) (X : Nat), allocs a = 0 → (∀ n, okLog n (some X) a = true) →
    okLog n (some X) b = true → okLog n (some X) (a ++ b) = true
  | [], _, _, _, _, _, hb => hb
  | en :: r, b, n, X, h0, ha, hb => by
      cases en <;> simp only [okLog, Bool.and_eq_true, allocs, List.cons_append, Nat.add_eq_zero_iff] at h0 ha ⊢
      · omega
      all_goals exact ⟨(ha n).1, okLog_writes_append r b n X h0 (fun n => (ha n).2) hb⟩

/-- while `X` is open: write it, then go on with `X` still open -/
theorem Open.write_bind {X : Nat} {m : M α} {f : α → M β} (hm : Writes X m) (hf : ∀ a, Open X (f a)) :
    Open X (m >>= f) := fun s => by
  obtain ⟨d1, hs1, h0, hd1⟩ := hm s
  refine seg_bind hs1 (hd1 _) fun a => ?_
  obtain ⟨d2, hs2, hd2⟩ := hf a (m s).2
  rw [hs1.2, replay_length, h0] at hd2
  exact ⟨d2, hs2, okLog_writes_append d1 d2 _ _ h0 hd1 hd2⟩

theorem Writes.open {X : Nat} {m : M α} (hm : Writes X m) : Open X m := fun s => by
  obtain ⟨d, hs, _, hd⟩ := hm s
  exact ⟨d, hs, hd _⟩

/-- `create_child_context`, then whatever may be done while the new context is the last one -/
theorem Sat.child_bind {p : Nat} {f : Nat → M β} (hf : ∀ X, Open X (f X)) : Sat (childCtx p >>= f) := fun s => by
  rw [bind_run]
  simp only [childCtx]
  obtain ⟨d2, hs2, hd2⟩ := hf s.cells.length
    { cells := s.cells ++ [{ parent := some p }], log := s.log ++ [.alloc s.cells.length p] }
  refine ⟨.alloc s.cells.length p :: d2, ⟨?_, ?_⟩, ?_⟩
  · rw [hs2.1]; simp
  · rw [hs2.2]; rfl
  · simp only [okLog, beq_self_eq_true, Bool.true_and]
    simpa using hd2

theorem Sat.childCtx (p : Nat) : Sat (childCtx p) := fun s =>
  ⟨[.alloc s.cells.length p], ⟨rfl, rfl⟩, by simp [okLog]⟩

theorem Writes.setVar (X : Nat) (x : Name) (v : Value) : Writes X (setVar X x v) := fun s =>
  ⟨[.set X (Context.normName x) v], ⟨rfl, rfl⟩, rfl, fun n => by simp [okLog]⟩

theorem Writes.regFun (X : Nat) (f : Name) (b : Expr) : Writes X (regFun X f b X) := fun s =>
  ⟨[.reg X f b X], ⟨rfl, rfl⟩, rfl, fun n => by simp [okLog]⟩

theorem Writes.pure (X : Nat) (a : α) : Writes X (pure a : M α) := fun s =>
  ⟨[], Seg.refl s, rfl, fun _ => rfl⟩

theorem Writes.bind {X : Nat} {m : M α} {f : α → M β} (hm : Writes X m) (hf : ∀ a, Writes X (f a)) :
    Writes X (m >>= f) := fun s => by
  obtain ⟨d1, hs1, h0, hd1⟩ := hm s
  refine seg_bind (R := fun d => allocs d = 0 ∧ ∀ n, okLog n (some X) d = true) hs1 ⟨h0, hd1⟩ fun a => ?_
  obtain ⟨d2, hs2, h02, hd2⟩ := hf a (m s).2
  exact ⟨d2, hs2, by rw [allocs_append, h0, h02], fun n => okLog_writes_append d1 d2 n X h0 hd1 (hd2 n)⟩

theorem Writes.publishPos (X : Nat) : ∀ (vs : VL) (i : Nat), Writes X (publishPos X i vs)
  | [], _ => Writes.pure X ()
  | v :: vs, i => by
      unfold EvalStore.publishPos
      exact Writes.bind (Writes.setVar X _ v) (fun _ => Writes.publishPos X vs (i + 1))

theorem Writes.publishNamed (X : Nat) : ∀ (kvs : List (Name × Value)), Writes X (publishNamed X kvs)
  | [] => Writes.pure X ()
  | (k, v) :: r => by
      unfold EvalStore.publishNamed
      exact Writes.bind (Writes.setVar X k v) (fun _ => Writes.publishNamed X r)

theorem Sat.captureS {m : M α} (h : Sat m) : Sat (captureS m) := fun s => by
  obtain ⟨d, hs, hd⟩ := h s
  refine ⟨d, ?_, hd⟩
  unfold EvalStore.captureS
  cases hr : m s with
  | mk r s1 =>
    rw [hr] at hs
    cases r with
    | ok a => exact hs
    | error e => cases e <;> exact hs

/-! ## every part of the evaluator is disciplined

The bullets of a proof follow the arms of the definition it unfolds, in the order of `Model/EvalStore.lean`. -/

theorem Sat.bind_pure {m : M α} {g : α → β} (h : Sat m) : Sat (m >>= fun a => Pure.pure (g a)) :=
  h.bind fun _ => .pure _

theorem Sat.ite {c : Prop} [Decidable c] {a b : M α} (ha : Sat a) (hb : Sat b) : Sat (if c then a else b) := by
  split <;> assumption

theorem Open.ite {X : Nat} {c : Prop} [Decidable c] {a b : M α} (ha : Open X a) (hb : Open X b) :
    Open X (if c then a else b) := by
  split <;> assumption

theorem Sat.child {p : Nat} {f : Nat → M β} (hf : ∀ X, Sat (f X)) : Sat (EvalStore.childCtx p >>= f) :=
  Sat.child_bind fun X => (hf X).open X

theorem Writes.then {X : Nat} {w : M α} {k : M β} (hw : Writes X w) (hk : Sat k) : Open X (w >>= fun _ => k) :=
  Open.write_bind hw fun _ => hk.open X

theorem Sat.callPure (C : Nat) (x : R α) : Sat (callPure C x) := by
  unfold EvalStore.callPure
  split
  · exact .child fun _ => .pure _
  · exact .ite (.fail _) (.child fun _ => .fail _)

theorem Sat.mapLS {f : Value → M Value} (hf : ∀ x, Sat (f x)) : ∀ (xs : VL) (e : Option Err), Sat (mapLS f xs e)
  | [], e => Sat.pure _
  | x :: xs, e => by
      unfold EvalStore.mapLS
      refine (hf x).captureS.bind fun r => ?_
      split
      · exact .pure _
      · exact (Sat.mapLS hf xs e).bind_pure

theorem Sat.filterLS {f : Value → M Bool} (hf : ∀ x, Sat (f x)) : ∀ (xs : VL) (e : Option Err), Sat (filterLS f xs e)
  | [], e => Sat.pure _
  | x :: xs, e => by
      unfold EvalStore.filterLS
      refine (hf x).captureS.bind fun r => ?_
      split
      · exact .pure _
      · exact (Sat.filterLS hf xs e).bind_pure

theorem Sat.flatMapLS {f : Value → M (VL × Option Err)} (hf : ∀ x, Sat (f x)) :
    ∀ (xs : VL) (e : Option Err), Sat (flatMapLS f xs e)
  | [], e => Sat.pure _
  | x :: xs, e => by
      unfold EvalStore.flatMapLS
      refine (hf x).captureS.bind fun r => ?_
      split
      · exact .pure _
      · exact .pure _
      · exact (Sat.flatMapLS hf xs e).bind_pure

theorem Sat.takeWhileLS {f : Value → M Bool} (hf : ∀ x, Sat (f x)) : ∀ (xs : VL) (e : Option Err), Sat (takeWhileLS f xs e)
  | [], e => Sat.pure _
  | x :: xs, e => by
      unfold EvalStore.takeWhileLS
      refine (hf x).captureS.bind fun r => ?_
      split
      · exact .pure _
      · exact (Sat.takeWhileLS hf xs e).bind_pure
      · exact .pure _

theorem Sat.dropWhileLS {f : Value → M Bool} (hf : ∀ x, Sat (f x)) : ∀ (xs : VL) (e : Option Err), Sat (dropWhileLS f xs e)
  | [], e => Sat.pure _
  | x :: xs, e => by
      unfold EvalStore.dropWhileLS
      refine (hf x).captureS.bind fun r => ?_
      split
      · exact .pure _
      · exact Sat.dropWhileLS hf xs e
      · exact .pure _

theorem Sat.findLS {f : Value → M Bool} (hf : ∀ x, Sat (f x)) : ∀ (xs : VL) (e : Option Err) (i : Nat), Sat (findLS f i xs e)
  | [], none, _ => Sat.pure _
  | [], some e, _ => Sat.fail _
  | x :: xs, e, i => by
      unfold EvalStore.findLS
      exact (hf x).bind fun _ => .ite (.pure _) (Sat.findLS hf xs e (i + 1))

theorem Sat.foldLS {f : Value → Value → M Value} (hf : ∀ a x, Sat (f a x)) :
    ∀ (xs : VL) (e : Option Err) (acc : Value), Sat (foldLS f acc xs e)
  | [], none, _ => Sat.pure _
  | [], some e, _ => Sat.fail _
  | x :: xs, e, acc => by
      unfold EvalStore.foldLS
      exact (hf acc x).bind fun a => Sat.foldLS hf xs e a

theorem Sat.toDictLS {kf vf : Value → M Value} (hk : ∀ x, Sat (kf x)) (hv : ∀ x, Sat (vf x)) :
    ∀ (xs : VL) (e : Option Err) (acc : KV), Sat (toDictLS kf vf acc xs e)
  | [], none, _ => Sat.pure _
  | [], some e, _ => Sat.fail _
  | x :: xs, e, acc => by
      unfold EvalStore.toDictLS
      exact (hk x).bind fun _ => (hv x).bind fun _ => .ite (Sat.toDictLS hk hv xs e _) (.fail _)

theorem Sat.keysLS {f : Value → M Value} (hf : ∀ x, Sat (f x)) : ∀ (xs : VL), Sat (keysLS f xs)
  | [] => Sat.pure _
  | x :: xs => by
      unfold EvalStore.keysLS
      exact (hf x).captureS.bind fun _ => (Sat.keysLS hf xs).bind_pure

/-- the induction hypothesis on the knot -/
def SatEv (ev : EvS) : Prop := ∀ C e, Sat (ev C e)

theorem Sat.evalListS {ev : EvS} (hev : SatEv ev) (C : Nat) : ∀ es, Sat (evalListS ev C es)
  | [] => Sat.pure _
  | e :: es => by
      unfold EvalStore.evalListS
      exact (hev C e).bind fun _ => (Sat.liftR _).bind fun _ => (Sat.evalListS hev C es).bind_pure

theorem Sat.evalObjsS {ev : EvS} (hev : SatEv ev) (C : Nat) : ∀ es, Sat (evalObjsS ev C es)
  | [] => Sat.pure _
  | e :: es => by
      unfold EvalStore.evalObjsS
      exact (hev C e).bind fun _ => (Sat.evalObjsS hev C es).bind_pure

theorem Sat.evalPairsS {ev : EvS} (hev : SatEv ev) (C : Nat) : ∀ ps, Sat (evalPairsS ev C ps)
  | [] => Sat.pure _
  | (k, v) :: r => by
      unfold EvalStore.evalPairsS
      exact (hev C k).bind fun _ => (Sat.liftR _).bind fun _ => (hev C v).bind fun _ => (Sat.liftR _).bind fun _ =>
        (Sat.evalPairsS hev C r).bind_pure

theorem Sat.applyLamS {ev : EvS} (hev : SatEv ev) (D : Nat) (b : Expr) (args : VL) : Sat (applyLamS ev D b args) :=
  Sat.child_bind fun c => (Writes.publishPos c args 1).then (hev c b)

theorem Sat.lamVS {ev : EvS} (hev : SatEv ev) (D : Nat) (b : Expr) (args : VL) : Sat (lamVS ev D b args) :=
  (Sat.applyLamS hev D b args).bind fun _ => .liftR _

theorem Sat.lamBS {ev : EvS} (hev : SatEv ev) (D : Nat) (b : Expr) (args : VL) : Sat (lamBS ev D b args) :=
  (Sat.applyLamS hev D b args).bind_pure

theorem Sat.lamManyS {ev : EvS} (hev : SatEv ev) (D : Nat) (b : Expr) (x : Value) : Sat (lamManyS ev D b x) := by
  unfold EvalStore.lamManyS
  refine (Sat.applyLamS hev D b [x]).bind fun o => ?_
  split
  · exact .fail _
  · split
    · exact .pure _
    · exact (Sat.liftR _).bind_pure

theorem Sat.plusS (F : Nat) (a b : Value) : Sat (plusS F a b) :=
  .child fun Dl => .callPure Dl _

theorem Sat.onIter {r : ObjS} {bad : Err} {k : VL → Option Err → M β} (hk : ∀ xs e, Sat (k xs e)) :
    Sat (match toIterS r with | none => EvalStore.fail bad | some (xs, e) => k xs e) := by
  split
  · exact .fail _
  · exact hk _ _

theorem Sat.callMethodS {ev : EvS} (hev : SatEv ev) (Ca : Nat) (bad : Err) (r : ObjS) (f : Fn) (args : List Expr) :
    Sat (callMethodS ev Ca bad r f args) := by
  unfold EvalStore.callMethodS
  split
  · exact .onIter fun _ _ => .child fun F => (Sat.mapLS (fun _ => .lamVS hev F _ _) _ _).bind_pure
  · exact .onIter fun _ _ => .child fun F => (Sat.filterLS (fun _ => .lamBS hev F _ _) _ _).bind_pure
  · exact .onIter fun _ _ => .child fun F => (Sat.flatMapLS (Sat.lamManyS hev F _) _ _).bind_pure
  · exact .onIter fun _ _ => .child fun F => (Sat.takeWhileLS (fun _ => .lamBS hev F _ _) _ _).bind_pure
  · exact .onIter fun _ _ => .child fun F => (Sat.dropWhileLS (fun _ => .lamBS hev F _ _) _ _).bind_pure
  · split
    · exact .fail _
    · exact .child fun _ => .pure _
    · exact .child fun F => .ite ((Sat.pure _).bind fun _ => (Sat.liftR _).bind_pure)
        ((Sat.keysLS (fun _ => .lamVS hev F _ _) _).bind fun _ => (Sat.liftR _).bind_pure)
  · split
    · exact .fail _
    · exact .child fun _ => .pure _
    · exact .child fun F => .ite ((Sat.pure _).bind fun _ => (Sat.liftR _).bind_pure)
        ((Sat.keysLS (fun _ => .lamVS hev F _ _) _).bind fun _ => (Sat.liftR _).bind_pure)
  · exact .onIter fun _ _ => .child fun _ => (Sat.liftR _).bind_pure
  · exact .onIter fun _ _ => .child fun F => (Sat.findLS (fun _ => .lamBS hev F _ _) _ _ _).bind_pure
  · exact .onIter fun _ _ => .child fun _ => (Sat.liftR _).bind_pure
  · exact .onIter fun _ _ => .child fun F => (Sat.findLS (fun _ => (Sat.lamBS hev F _ _).bind_pure) _ _ _).bind_pure
  · exact .onIter fun _ _ => .child fun F => (Sat.findLS (fun _ => .lamBS hev F _ _) _ _ _).bind_pure
  · exact .onIter fun _ _ => .child fun F => (Sat.toDictLS (fun _ => .lamVS hev F _ _) (fun _ => .pure _) _ _ _).bind_pure
  · exact .onIter fun _ _ => .child fun F =>
      (Sat.toDictLS (fun _ => .lamVS hev F _ _) (fun _ => .lamVS hev F _ _) _ _ _).bind_pure
  · split
    · exact .fail _
    · exact .child fun _ => .fail _
    · exact .child fun _ => .fail _
    · exact .child fun F => (Sat.foldLS (fun _ _ => .lamVS hev F _ _) _ _ _).bind_pure
  · exact .onIter fun _ _ => (hev Ca _).bind fun _ => (Sat.liftR _).bind fun _ => .child fun F =>
      (Sat.foldLS (fun _ _ => .lamVS hev F _ _) _ _ _).bind_pure
  · split
    · exact .fail _
    · exact .child fun _ => .fail _
    · exact .child fun _ => .fail _
    · exact .child fun F => (Sat.foldLS (Sat.plusS F) _ _ _).bind_pure
  · exact .onIter fun _ _ => (hev Ca _).bind fun _ => (Sat.liftR _).bind fun _ => .child fun F =>
      (Sat.foldLS (Sat.plusS F) _ _ _).bind_pure
  · split
    · exact .fail _
    · exact .child fun _ => .pure _
    · exact .child fun _ => .fail _
    · exact .child fun _ => .fail _
  · refine .onIter fun _ _ => (hev Ca _).bind fun _ => .child fun _ => ?_
    split
    · exact .pure _
    · exact .fail _
    · exact .pure _
  · split
    · exact .fail _
    · exact .child fun _ => (Sat.liftR _).bind_pure
  · refine .onIter fun _ _ => (hev Ca _).bind fun _ => ?_
    split
    · exact .child fun _ => .ite (.fail _) (.pure _)
    · exact .fail _
    · exact .ite (.fail _) (.fail _)
  · refine .onIter fun _ _ => (hev Ca _).bind fun _ => ?_
    split
    · exact .child fun _ => .ite (.fail _) (.pure _)
    · exact .fail _
    · exact .ite (.fail _) (.fail _)
  · split
    · exact .child fun _ => .pure _
    · exact .child fun _ => .pure _
    · exact .child fun _ => .pure _
    · exact .child fun _ => (Sat.liftR _).bind_pure
    · exact .child fun _ => .pure _
    · exact .child fun _ => .pure _
    · exact .fail _
    · exact .fail _
  · split
    · exact (hev Ca _).bind fun _ => (Sat.liftR _).bind fun _ => .child fun _ => .ite (.pure _) (.fail _)
    · exact .fail _
  · split
    · exact (hev Ca _).bind fun _ => (Sat.liftR _).bind fun _ => (hev Ca _).bind fun _ => (Sat.liftR _).bind fun _ =>
        .child fun _ => .ite (.pure _) (.fail _)
    · exact .fail _
  · -- unpack: the call context is written, by nothing but the publication that follows its allocation
    split
    · exact .fail _
    · refine .ite (.fail _) ((Sat.evalListS hev Ca _).bind fun _ => .ite (.fail _) (Sat.child_bind fun F => ?_))
      split
      · exact .ite ((Writes.publishNamed F _).then (.fail _)) ((Sat.fail _).open F)
      · exact .ite ((Writes.publishNamed F _).then (.pure _))
          (.ite ((Sat.fail _).open F) ((Writes.publishNamed F _).then (.pure _)))
  all_goals exact .fail _

theorem Sat.callFnS {ev : EvS} (hev : SatEv ev) (C : Nat) (f : Fn) (args : List Expr) (kw : List (Expr × Expr)) :
    Sat (callFnS ev C f args kw) := by
  unfold EvalStore.callFnS
  split
  · -- let: positional and named arguments are published into the call context it returns
    exact (Sat.liftR _).bind fun _ => (Sat.evalListS hev C _).bind fun vs => (Sat.evalListS hev C _).bind fun _ =>
      Sat.child_bind fun L => Open.write_bind (Writes.publishPos L vs 1) fun _ =>
        (Writes.publishNamed L _).then (.pure _)
  · exact .ite ((Sat.liftR _).bind fun _ => .fail _)
      ((Sat.evalListS hev C _).bind fun vs => Sat.child_bind fun W => (Writes.publishPos W vs 1).then (.pure _))
  · -- def: the closure is registered in the call context, which it captured
    refine .ite (.fail _) ?_
    split
    · refine (hev C _).bind fun _ => ?_
      split
      · exact Sat.child_bind fun D => (Writes.regFun D _ _).then (.pure _)
      · exact .ite (.fail _) (.fail _)
    · exact .fail _
  · exact .ite (.fail _) ((Sat.evalObjsS hev C _).bind fun _ => .child fun _ => .child fun _ => .child fun _ =>
      (Sat.liftR _).bind_pure)
  · split
    · exact (Sat.evalPairsS hev C _).bind fun _ => .child fun _ => .liftR _
    · refine (hev C _).bind fun _ => ?_
      split
      · exact .fail _
      · exact .child fun _ => (Sat.liftR _).bind fun _ => (Sat.liftR _).bind fun _ => .liftR _
    · exact .fail _
  iterate 3 -- len, any, all: the method with the receiver as first argument
    refine .ite (.fail _) ?_
    split
    · exact .fail _
    · exact .ite (.fail _) ((hev C _).bind fun _ => Sat.callMethodS hev C _ _ _ _)
  · exact .fail _

theorem Sat.memberNoneS (K : Nat) : Sat (memberNoneS K) :=
  .child fun _ => .child fun _ => .child fun _ => .fail _

mutual
theorem Sat.memberVS (name : Name) : ∀ (x : Value) (K : Nat), Sat (memberVS K name x)
  | .dict d, K => by
    rw [EvalStore.memberVS]
    refine .child fun _ => .child fun _ => ?_
    split
    · exact .pure _
    · exact .fail _
  | .tuple l, K | .list l, K | .iter l, K => by
    rw [EvalStore.memberVS]
    exact .child fun _ => .child fun K2 => (Sat.memberVSL name l K2).bind fun _ => .liftR _
  | .set _, K => by rw [EvalStore.memberVS]; exact .fail _
  | .null, K | .bool _, K | .int _, K | .flt _, K | .str _, K | .host _, K => by
    rw [EvalStore.memberVS]; exact Sat.memberNoneS K
theorem Sat.memberVSL (name : Name) : ∀ (l : VL) (K : Nat), Sat (memberVSL K name l)
  | [], K => by rw [EvalStore.memberVSL]; exact .pure _
  | x :: xs, K => by
    rw [EvalStore.memberVSL]
    refine (Sat.memberVS name x K).captureS.bind fun _ => ?_
    split
    · exact .pure _
    · exact (Sat.memberVSL name xs K).bind_pure
end

theorem Sat.memberOfS (C : Nat) (r : ObjS) (name : Name) : Sat (memberOfS C r name) := by
  unfold EvalStore.memberOfS
  split
  · refine .child fun _ => ?_
    split
    · exact .pure _
    · exact .fail _
  · exact .fail _
  · split
    · exact .child fun K => (Sat.mapLS (fun x => Sat.memberVS name x K) _ _).bind_pure
    · exact .child fun _ => .child fun _ => .fail _

theorem Sat.stepS {ev : EvS} (hev : SatEv ev) : SatEv (stepS ev) := by
  intro C e
  unfold EvalStore.stepS
  split
  · exact .pure _
  · exact .pure _
  · exact .child fun G => .readVarS G _
  · exact (Sat.evalListS hev C _).bind fun _ => .child fun _ => .pure _
  · exact (Sat.evalPairsS hev C _).bind fun _ => .child fun _ => .liftR _
  · exact .ite ((hev C _).bind fun _ => (Sat.evalListS hev C _).bind fun _ => .callPure C _) (.fail _)
  · exact (hev C _).bind fun _ => .callPure C _
  · -- and: each operand in its own child of the operator's call context
    exact .child fun A => .child fun A1 => (hev A1 _).bind fun _ => .ite (.child fun A2 => hev A2 _) (.pure _)
  · exact .child fun A => .child fun A1 => (hev A1 _).bind fun _ => .ite (.pure _) (.child fun A2 => hev A2 _)
  · exact .ite ((hev C _).bind fun _ => (hev C _).bind fun _ => .callPure C _) (.fail _)
  · -- `->`: the right side runs in the context object the left side returned
    refine (hev C _).bind fun _ => ?_
    split
    · exact .child fun _ => hev _ _
    · exact .fail _
  · exact (hev C _).bind fun _ => .memberOfS C _ _
  · exact .callFnS hev C _ _ _
  · -- a `def`-registered function: arguments are published into a child of the captured context
    refine (Sat.getFunS C _).bind fun _ => ?_
    split
    · exact .fail _
    · exact (Sat.liftR _).bind fun _ => (Sat.evalListS hev C _).bind fun vs => (Sat.evalListS hev C _).bind fun _ =>
        .child fun _ => Sat.child_bind fun V => Open.write_bind (Writes.publishPos V vs 1) fun _ =>
          (Writes.publishNamed V _).then (hev V _)
  · exact (hev C _).bind fun _ => .ite (.fail _) (.child fun A => .child fun A1 => .callMethodS hev A1 _ _ _ _)
  · exact (hev C _).bind fun _ => .child fun _ => .child fun _ => .fail _

theorem Sat.evalS : ∀ n, SatEv (evalS n)
  | 0 => fun _ _ => Sat.fail _
  | n + 1 => Sat.stepS (Sat.evalS n)

theorem Sat.iterCalls (F : Nat) : ∀ n, Sat (iterCalls F n)
  | 0 => Sat.pure _
  | n + 1 => .child fun _ => .child fun _ => Sat.iterCalls F n

theorem Sat.finaliseS (F : Nat) (o : ObjS) : Sat (finaliseS F o) := by
  unfold EvalStore.finaliseS
  split
  · exact .pure _
  · split
    · exact (Sat.iterCalls F _).bind fun _ => (Sat.iterCalls F _).bind fun _ => (Sat.liftR _).bind fun _ => .liftR _
    · split
      · exact (Sat.iterCalls F _).bind fun _ => .liftR _
      · exact .fail _

theorem Sat.callS (fuel C : Nat) (e : Expr) : Sat (callS fuel C e) :=
  (Sat.evalS fuel C e).bind fun _ => .child fun F => .finaliseS F _

/-- `Statement.evaluate` on a context that is still the last one allocated (the host just made it) -/
theorem Open.evaluateS (fuel X : Nat) (doc : Value) (e : Expr) : Open X (evaluateS fuel X doc e) :=
  (Writes.setVar X _ doc).then (Sat.callS fuel X e)

theorem Sat.hostEvalS (fuel shared : Nat) (doc : Value) (e : Expr) : Sat (hostEvalS fuel shared doc e) :=
  Sat.child_bind fun X => Open.evaluateS fuel X doc e

theorem Sat.seg_fresh {m : M α} (h : Sat m) (s : St) :
    ∃ d, Seg s (m s).2 d ∧ ∀ en ∈ d, ∀ c, target en = some c → s.cells.length ≤ c := by
  obtain ⟨d, hs, hd⟩ := h s
  exact ⟨d, hs, okLog_fresh s.cells.length d _ none (Nat.le_refl _) nofun hd⟩

theorem Sat.fresh {m : M α} (h : Sat m) (s : St) :
    ∃ d, (m s).2.log = s.log ++ d ∧ ∀ en ∈ d, ∀ c, target en = some c → s.cells.length ≤ c := by
  obtain ⟨d, hs, hf⟩ := h.seg_fresh s
  exact ⟨d, hs.1, hf⟩

theorem Sat.frame {m : M α} (h : Sat m) (s : St) : ∀ i < s.cells.length, (m s).2.cells[i]? = s.cells[i]? := by
  obtain ⟨d, hs, hf⟩ := h.seg_fresh s
  rw [hs.2]
  exact replay_frame s.cells.length d s.cells (Nat.le_refl _) hf

theorem Sat.extends {m : M α} (h : Sat m) (s : St) : ∃ own, (m s).2.cells = s.cells ++ own :=
  (List.prefix_iff_getElem?.mpr fun i hi => by rw [h.frame s i hi, List.getElem?_eq_getElem hi]).imp fun _ => Eq.symm

/-- **log_disciplined** (all fuel, contexts, expressions, stores): the log an evaluation appends allocates the
    next free IDs in order and every write in it targets the context allocated last (a closure registered
    there captured that context); the store afterwards is the store before with that segment replayed. -/
theorem log_disciplined (n C : Nat) (e : Expr) (s : St) :
    ∃ d, (evalS n C e s).2.log = s.log ++ d ∧ (evalS n C e s).2.cells = replay s.cells d ∧
      okLog s.cells.length none d = true := by
  obtain ⟨d, hs, hd⟩ := Sat.evalS n C e s
  exact ⟨d, hs.1, hs.2, hd⟩

/-- **writes_fresh**: every write made during `evalS n C e` targets a context allocated during that evaluation -/
theorem writes_fresh (n C : Nat) (e : Expr) (s : St) :
    ∃ d, (evalS n C e s).2.log = s.log ++ d ∧ ∀ en ∈ d, ∀ c, target en = some c → s.cells.length ≤ c :=
  (Sat.evalS n C e).fresh s

/-- **store_prefix_unchanged** (`frame` for the mutable representation): the cells that existed before the
    evaluation are identical afterwards - data, functions, parent - whether it returns or raises -/
theorem store_prefix_unchanged (n C : Nat) (e : Expr) (s : St) :
    ∀ i < s.cells.length, (evalS n C e s).2.cells[i]? = s.cells[i]? :=
  (Sat.evalS n C e).frame s

/-- **store_extends**: the store only grows, behind the old cells -/
theorem store_extends (n C : Nat) (e : Expr) (s : St) : ∃ own, (evalS n C e s).2.cells = s.cells ++ own :=
  (Sat.evalS n C e).extends s

theorem setVar_length (C : Nat) (x : Name) (v : Value) (s : St) : (setVar C x v s).2.cells.length = s.cells.length := by
  simp [setVar, modifyCell_length]

theorem evaluateS_eq (fuel C : Nat) (doc : Value) (e : Expr) (s : St) :
    evaluateS fuel C doc e s = callS fuel C e (setVar C ['$'] doc s).2 := rfl

/-- **statement_only_dollar**: `statement.evaluate(data, context)` leaves every cell that existed before as
    `context['$'] = data` alone leaves it: the context it was handed differs by the `$` binding only (same
    functions, same parent, every other name as before - `setVar_other`), all other cells not at all. -/
theorem statement_only_dollar (fuel C : Nat) (doc : Value) (e : Expr) (s : St) :
    ∀ i < s.cells.length, (evaluateS fuel C doc e s).2.cells[i]? = (setVar C ['$'] doc s).2.cells[i]? := by
  intro i hi
  rw [evaluateS_eq]
  exact (Sat.callS fuel C e).frame _ i (by rw [setVar_length]; exact hi)

/-- what `context['$'] = data` does to the store: cell `C` gets `$1`, nothing else changes -/
theorem setVar_other (C : Nat) (x : Name) (v : Value) (s : St) (i : Nat) (h : i ≠ C) :
    (setVar C x v s).2.cells[i]? = s.cells[i]? := by
  simp only [setVar]; exact modifyCell_get_ne _ _ _ _ h

theorem setVar_self (C : Nat) (x : Name) (v : Value) (s : St) (cell : Cell) (h : s.cells[C]? = some cell) :
    (setVar C x v s).2.cells[C]? = some { cell with data := Context.aset (Context.normName x) v cell.data } := by
  simp only [setVar, modifyCell, h]
  exact List.getElem?_set_self (List.getElem?_eq_some_iff.mp h).1

/-- the host's own step (`create_child_context`, `evaluate` in the child) writes fresh cells only -/
theorem hostEval_extends (fuel shared : Nat) (doc : Value) (e : Expr) (s : St) :
    ∃ own, (hostEvalS fuel shared doc e s).2.cells = s.cells ++ own :=
  (Sat.hostEvalS fuel shared doc e).extends s

/-! ## non-vacuity: concrete programs -/

/-- (kind, context, name) of a log entry -/
def brief : Entry → Nat × Nat × Name
  | .alloc i p => (0, i, Nat.toDigits 10 p)
  | .set i n _ => (1, i, n)
  | .reg i f _ _ => (2, i, f)

/-- two cells: 0 = the host's root, 1 = its child handed to `evaluate` -/
def start : St := { cells := [{ data := [(['$', 'k'], .int 5)] }, { parent := some 0 }], log := [] }

-- `let(x => 1) -> $x` with data 7: `$1` into the given context 1; `let`'s context 2 gets `$x`; `->` runs in its own
-- context 3, `$x` is read through a child 4 of context 2; the finaliser's context 5
example : (evaluateS 6 1 (.int 7) (.arrow (.call .let_ [] [(.kw ['x'], .lit (.int 1))]) (.var ['$', 'x'])) start).1
      = .ok (.data (.int 1)) ∧
    (evaluateS 6 1 (.int 7) (.arrow (.call .let_ [] [(.kw ['x'], .lit (.int 1))]) (.var ['$', 'x'])) start).2.log.map brief
      = [(1, 1, ['$', '1']), (0, 2, ['1']), (1, 2, ['$', 'x']), (0, 3, ['1']), (0, 4, ['2']), (0, 5, ['1'])] :=
  ⟨rfl, by decide +kernel⟩

-- `def(f, $ + 1) -> f(2)`: the closure is registered in `def`'s own context 2 and captured it; the application
-- context 5 is a child of 2 and gets `$1`
example : (evalS 8 1 (.arrow (.call .def_ [.kw ['f'], .bin .add (.var ['$']) (.lit (.int 1))] [])
      (.ucall ['f'] [.lit (.int 2)] [])) start).2.log.map brief
      = [(0, 2, ['1']), (2, 2, ['f']), (0, 3, ['1']), (0, 4, ['2']), (0, 5, ['2']), (1, 5, ['$', '1']),
         (0, 6, ['5']), (0, 7, ['5'])] := by decide +kernel

-- the host's cells are untouched and the discipline holds on that log
example : ((evalS 8 1 (.arrow (.call .def_ [.kw ['f'], .bin .add (.var ['$']) (.lit (.int 1))] [])
      (.ucall ['f'] [.lit (.int 2)] [])) start).2.cells.take 2).map (·.data) = start.cells.map (·.data) := rfl

-- the discipline is not trivial: a write into the context the evaluation was started in is not a disciplined log
example : okLog 2 none [.set 1 ['$', 'x'] (.int 1)] = false := rfl
-- ... nor is a write into a context after a child of it was allocated
example : okLog 2 none [.alloc 2 1, .alloc 3 2, .set 2 ['$', '1'] (.int 1)] = false := rfl
example : okLog 2 none [.alloc 2 1, .set 2 ['$', '1'] (.int 1), .alloc 3 2] = true := rfl

end Yaql.Props.EvalStore
