import Yaql.Model.Eval
import Yaql.Gen.KwParams
/-!
# C04 - the keyword names in the reference interpreter are the ones of the live library

`Yaql.Gen.KwParams.rows` is regenerated on every run from `yaql.create_context()`: per builtin method of the
fragment the keyword each parameter after the receiver is passed by under the default convention
(`p.alias or p.name`: `keySelector`, `valueSelector`, `selector`, `predicate`, `seed` ..) and whether it is
evaluated lazily.  The hand-written `Yaql.Eval.kwParams` (what `Expr.positional` translates keyword
arguments with) is that table - a parameter renamed, re-ordered or made eager / lazy in the library breaks
this theorem.
-/
namespace Yaql.Props.C04Gen
open Yaql Yaql.Eval

theorem kwParams_live :
    Yaql.Gen.KwParams.rows = kwMethods.map (fun p => (p.1, kwParams p.2)) := by decide +kernel

/-- every row is a real translation table (no method of the list fell out because of a second overload) -/
theorem kwParams_total : ∀ p ∈ kwMethods, (kwParams p.2).isSome = true := by decide +kernel

/-- the multi-word parameters are spelled the way the convention spells them, not the way Python does
    (one row of the hand-written `Eval.kwParams` shown; by `kwParams_live` it is the library's) -/
theorem kwParams_camel : kwParams .toDict = some [(['k', 'e', 'y', 'S', 'e', 'l', 'e', 'c', 't', 'o', 'r'], true),
    (['v', 'a', 'l', 'u', 'e', 'S', 'e', 'l', 'e', 'c', 't', 'o', 'r'], true)] := rfl

end Yaql.Props.C04Gen
