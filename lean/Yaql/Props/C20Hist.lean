import Yaql.Model.DateTimeHist
import Yaql.Props.C20
/-!
C20 under statement reuse: the C20 operators are functions of their operands only, whatever the same
expression node was evaluated with before.

* `history_independent`, `history_getElem` - with the code's node (no per-node state) the k-th result of any
  history of evaluations of one node is `evalOp` of the k-th operand pair alone; `history_compare_instants`:
  hence, at every position of every history where both operands are datetimes, `= != < <= > >=` are the
  comparisons of the instants (zone or not) - `C20.compare_instants` carried over histories;
  `history_add_sub`: the same for `d + t` / `t + d` / `d - t` / `d2 - d1`;
* `lastWinner_breaks_equality`, `lastWinner_breaks_rows` - a node that remembers its last overload and reuses it
  whenever it still accepts the arguments is NOT history independent for `=` / `!=`: after two timespans (or a
  null row) a zoneless datetime and an aware one for the same instant compare unequal;
* `lastWinner_exact` - the exact condition under which such a memo is harmless: every overload that accepts the
  operands is the one resolution would choose (`Exact`); it holds for the orderings, `+` and `-`
  (`exact_of_not_equality`), and fails for `=` / `!=` (`not_exact_eq`) because the untyped overload accepts
  everything.
-/
namespace Yaql.Props.C20
open Yaql.DateTime Yaql.DateTimeHist

/-! ## history independence of the code's node -/

theorem evalSite_off (cfg : Cfg) (site : Site) (op : Op2) (a b : Operand) :
    evalSite cfg .off site op a b = (site, evalOp cfg op a b) := rfl

/-- **C20 under reuse.**  The results of a node over ANY history of operand pairs, from ANY node state, are the
    results of the pairs evaluated alone. -/
theorem history_independent (cfg : Cfg) (op : Op2) (site : Site) (h : List (Operand × Operand)) :
    runHistory cfg .off op site h = h.map fun ab => evalOp cfg op ab.1 ab.2 := by
  induction h generalizing site with
  | nil => rfl
  | cons ab rest ih =>
      obtain ⟨a, b⟩ := ab
      simp only [runHistory, evalSite_off, List.map_cons, ih]

theorem history_getElem (cfg : Cfg) (op : Op2) (site : Site) (h : List (Operand × Operand)) (k : Nat) :
    (runHistory cfg .off op site h)[k]? = (h[k]?).map fun ab => evalOp cfg op ab.1 ab.2 := by
  rw [history_independent, List.getElem?_map]

/-- what came before and what comes after does not matter -/
theorem history_context_free (cfg : Cfg) (op : Op2) (site site' : Site) (pre pre' post post' : List (Operand × Operand))
    (a b : Operand) :
    (runHistory cfg .off op site (pre ++ (a, b) :: post))[pre.length]? =
      (runHistory cfg .off op site' (pre' ++ (a, b) :: post'))[pre'.length]? := by
  simp [history_getElem]

theorem history1_independent (cfg : Cfg) (host : Int) (op : Op1) (h : List Operand) (k : Nat) :
    (runHistory1 cfg host op h)[k]? = (h[k]?).map (evalOp1 cfg host op) := by
  simp [runHistory1]

/-! ## what one evaluation is, for two datetimes -/

theorem select_dtdt_cmp (op : CmpOp) (x y : DT) : select declared (.cmp op) (.dt x) (.dt y) = some .dtdt := by
  cases op <;> rfl

theorem evalOp_dtdt_cmp (op : CmpOp) (x y : DT) :
    evalOp declared (.cmp op) (.dt x) (.dt y) = lift .bool (dtCmp op .conv .conv x y) := by
  simp only [evalOp, select_dtdt_cmp]
  cases op <;> rfl

/-- **C20.compare_instants over histories.**  At every position of every history of one `=`, `!=`, `<`, `<=`,
    `>`, `>=` node where both operands are datetimes with legal offsets, the result is the comparison of the
    instants (a value without zone = the same wall clock at UTC) - whatever kinds of operands the node saw
    before. -/
theorem history_compare_instants (op : CmpOp) (site : Site) (h : List (Operand × Operand)) (k : Nat) (x y : DT)
    (hk : h[k]? = some (.dt x, .dt y)) (hx : offOk x) (hy : offOk y) :
    (runHistory declared .off (.cmp op) site h)[k]? = some (.ok (.bool (cmpInt op (instant x) (instant y)))) := by
  rw [history_getElem, hk]
  simp only [Option.map_some, evalOp_dtdt_cmp, (compare_instants op x y).1 hx hy, lift]

/-- `+` and `-` over histories: the typed overloads, with the conversion of a zoneless value -/
theorem history_add_sub (site : Site) (h : List (Operand × Operand)) (k : Nat) (d e : DT) (t : Int) :
    (h[k]? = some (.dt d, .ts t) →
      (runHistory declared .off .plus site h)[k]? = some (lift .dt (dtPlusTs .conv d t)) ∧
      (runHistory declared .off .minus site h)[k]? = some (lift .dt (dtMinusTs .conv d t))) ∧
    (h[k]? = some (.ts t, .dt d) →
      (runHistory declared .off .plus site h)[k]? = some (lift .dt (tsPlusDt .conv t d))) ∧
    (h[k]? = some (.dt d, .dt e) →
      (runHistory declared .off .minus site h)[k]? = some (lift .ts (dtMinusDt .conv .conv d e))) := by
  refine ⟨fun hk => ⟨?_, ?_⟩, fun hk => ?_, fun hk => ?_⟩ <;> rw [history_getElem, hk] <;> rfl

/-! ## a node that remembers its last overload -/

/-- 2021-03-04 12:30:15.000250 without zone -/
def exNaive : DT := ⟨63750457815000250, none⟩
/-- the same instant at +04:45 -/
def exAware : DT := ⟨63750457815000250 + 17100000000, some 17100000000⟩

example : instant exNaive = instant exAware := by decide
example : offOk exNaive ∧ offOk exAware := by simp [offOk_iff, exNaive, exAware]; decide

/-- alone: equal (the property) -/
example : evalOp declared (.cmp .eq) (.dt exNaive) (.dt exAware) = .ok (.bool true) := by decide

/-- **the call-site memo breaks `=`.**  The same node first compares two timespans (the untyped overload wins),
    then the zoneless datetime with the aware one for the same instant: the remembered untyped overload still
    "accepts" them, python `==` on the raw values says unequal.  Without the memo the history gives `true`. -/
theorem lastWinner_breaks_equality :
    runHistory declared .lastWinner (.cmp .eq) {} [(.ts 5, .ts 5), (.dt exNaive, .dt exAware)] =
      [.ok (.bool true), .ok (.bool false)] ∧
    runHistory declared .off (.cmp .eq) {} [(.ts 5, .ts 5), (.dt exNaive, .dt exAware)] =
      [.ok (.bool true), .ok (.bool true)] ∧
    runHistory declared .lastWinner (.cmp .ne) {} [(.int 1, .int 1), (.dt exAware, .dt exNaive)] =
      [.ok (.bool false), .ok (.bool true)] := by decide

/-- inside ONE evaluation: `$rows.select($ = $ref)` over a column with a missing value -/
theorem lastWinner_breaks_rows :
    runHistory declared .lastWinner (.cmp .eq) {}
        [(.dt exNaive, .dt exAware), (.null, .dt exAware), (.dt exNaive, .dt exAware)] =
      [.ok (.bool true), .ok (.bool false), .ok (.bool false)] ∧
    runHistory declared .off (.cmp .eq) {}
        [(.dt exNaive, .dt exAware), (.null, .dt exAware), (.dt exNaive, .dt exAware)] =
      [.ok (.bool true), .ok (.bool false), .ok (.bool true)] := by decide

/-- every overload that accepts the operands is the one full resolution chooses -/
def Exact (cfg : Cfg) (op : Op2) : Prop :=
  ∀ ov a b, accepts cfg ov op a b = true → select cfg op a b = some ov

theorem select_accepts (cfg : Cfg) (op : Op2) (a b : Operand) (ov : Ov) (h : select cfg op a b = some ov) :
    accepts cfg ov op a b = true := by
  simp only [select] at h
  cases hf : typedOvs.find? (fun ov => accepts cfg ov op a b) with
  | some ov' =>
      simp only [hf, Option.some.injEq] at h
      subst h
      simpa using List.find?_some hf
  | none =>
      simp only [hf] at h
      split at h
      · simp only [Option.some.injEq] at h
        subst h
        assumption
      · cases h

theorem evalSite_lastWinner_exact (cfg : Cfg) (op : Op2) (hex : Exact cfg op) (site : Site) (a b : Operand) :
    (evalSite cfg .lastWinner site op a b).2 = evalOp cfg op a b := by
  simp only [evalSite, evalOp]
  cases hl : site.last with
  | none => cases select cfg op a b <;> rfl
  | some ov =>
      by_cases hacc : accepts cfg ov op a b = true
      · simp only [hacc, if_true, hex ov a b hacc]
      · simp only [hacc]
        cases select cfg op a b <;> rfl

/-- **when the memo is harmless.**  If every accepting overload is the resolved one, the remembering node is
    history independent too. -/
theorem lastWinner_exact (cfg : Cfg) (op : Op2) (hex : Exact cfg op) (site : Site) (h : List (Operand × Operand)) :
    runHistory cfg .lastWinner op site h = h.map fun ab => evalOp cfg op ab.1 ab.2 := by
  induction h generalizing site with
  | nil => rfl
  | cons ab rest ih =>
      obtain ⟨a, b⟩ := ab
      simp only [runHistory, List.map_cons, ih, evalSite_lastWinner_exact cfg op hex]

def typedFor : Operand → Operand → Option Ov
  | .dt _, .dt _ => some .dtdt
  | .ts _, .ts _ => some .tsts
  | .int _, .int _ => some .nums
  | .str _, .str _ => some .strs
  | .dt _, .ts _ => some .dtts
  | .ts _, .dt _ => some .tsdt
  | .null, .null => some .nullNull
  | _, .null => some .leftNull
  | .null, _ => some .nullRight
  | _, _ => none

theorem accepts_typedFor (cfg : Cfg) (ov : Ov) (op : Op2) (a b : Operand) (h : accepts cfg ov op a b = true) :
    (ov = .generic ∧ ∃ c, op = .cmp c ∧ CmpOp.isEquality c = true) ∨ (ov ∈ typedOvs ∧ typedFor a b = some ov) := by
  revert h
  -- one case for each of the 18 lines of `accepts`, in their order
  fun_cases accepts cfg ov op a b
  -- line 1, `.generic, .cmp op`: the untyped overload, accepted under `=` / `!=` only
  case case1 c => exact fun h => .inl ⟨rfl, c, rfl, h⟩
  -- line 15, `.leftNull, .cmp op, a, .null`: accepted only if `a` is not null
  case case15 =>
    cases a
    case null => simp [Operand.isNull]
    all_goals exact fun _ => .inr ⟨by decide, rfl⟩
  -- line 16, `.nullRight, .cmp op, .null, b`: accepted only if `b` is not null
  case case16 =>
    cases b
    case null => simp [Operand.isNull]
    all_goals exact fun _ => .inr ⟨by decide, rfl⟩
  -- line 18, the catch-all: nothing is accepted
  case case18 => nofun
  -- lines 2-14 and 17: a typed overload on operands of exactly its kinds
  all_goals exact fun _ => .inr ⟨by decide, rfl⟩

theorem find?_unique {α : Type} {l : List α} {p : α → Bool} {x : α} (hx : x ∈ l) (hp : p x = true)
    (hu : ∀ y ∈ l, p y = true → y = x) : l.find? p = some x := by
  cases hf : l.find? p with
  | none => exact absurd hp (by simpa using List.find?_eq_none.1 hf x hx)
  | some y => rw [hu y (List.mem_of_find?_eq_some hf) (List.find?_some hf)]

/-- the orderings, `+` and `-` are exact: their overloads have disjoint parameter types (at most one accepts) -/
theorem exact_of_not_equality (cfg : Cfg) (op : Op2) (h : ∀ c, op = .cmp c → CmpOp.isEquality c = false) :
    Exact cfg op := by
  intro ov a b hacc
  have typed : ∀ ov', accepts cfg ov' op a b = true → ov' ∈ typedOvs ∧ typedFor a b = some ov' := fun ov' h' =>
    (accepts_typedFor cfg ov' op a b h').resolve_left fun ⟨_, c, hc, he⟩ => by simp [h c hc] at he
  obtain ⟨hmem, hov⟩ := typed ov hacc
  unfold select
  rw [find?_unique (p := fun ov => accepts cfg ov op a b) hmem hacc fun ov' _ h' =>
    Option.some.inj ((typed ov' h').2.symm.trans hov)]

/-- so a remembering node is harmless for `<`, `<=`, `>`, `>=`, `+`, `-` ... -/
theorem lastWinner_orderings (cfg : Cfg) (c : CmpOp) (hc : CmpOp.isEquality c = false) (site : Site)
    (h : List (Operand × Operand)) :
    runHistory cfg .lastWinner (.cmp c) site h = h.map fun ab => evalOp cfg (.cmp c) ab.1 ab.2 :=
  lastWinner_exact cfg _ (exact_of_not_equality cfg _ (by intro c' e; cases e; exact hc)) site h

/-- `=` is not exact: the untyped overload accepts two datetimes, resolution chooses the typed one -/
theorem not_exact_eq : ¬ Exact declared (.cmp .eq) ∧ ¬ Exact declared (.cmp .ne) := by
  constructor <;> intro h
  · have := h .generic (.dt exNaive) (.dt exAware) rfl
    exact absurd this (by decide)
  · have := h .generic (.dt exNaive) (.dt exAware) rfl
    exact absurd this (by decide)

end Yaql.Props.C20
