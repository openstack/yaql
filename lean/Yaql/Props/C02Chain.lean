import Yaql.Props.C02
import Yaql.Props.C02Gen
/-!
# C02, chains of ANY length

`x0 op1 x1 op2 x2 ... opn xn` where all operators sit on ONE ply level: the tree is left-deep when the level is a
'left' row and right-deep when it is a 'right' row - for every number of operands (there is no length from which on the
grouping may change), for every table, and with arbitrary operands that are closed against the level (`Fits`).
`no_right_nesting` / `no_left_nesting`: a tree that nests the other way anywhere is not `WF`, so a re-balanced chain is
never the dictated tree.
-/
namespace Yaql.Props.C02Chain
open Yaql.Syntax Yaql.OpTable Yaql.Props.C02

abbrev Link := Str × Ast

/-- `((x0 op1 x1) op2 x2) ...` -/
def leftChain (c : Cfg) : Ast → List Link → Ast
  | acc, [] => acc
  | acc, (sym, x) :: xs =>
      leftChain c (.binary sym (match c.opRec sym with | some o => o.alias | none => none) acc x) xs

/-- `x0 op1 (x1 op2 (x2 ...))`; the chain is given as (operand, operator)* last -/
def rightChain (c : Cfg) : List (Ast × Str) → Ast → Ast
  | [], last => last
  | (x, sym) :: xs, last =>
      .binary sym (match c.opRec sym with | some o => o.alias | none => none) x (rightChain c xs last)

/-- the flat spelling -/
def leftToks (c : Cfg) (x0 : Ast) (xs : List Link) : List Token :=
  yield c x0 ++ xs.flatMap (fun l => tOp l.1 :: yield c l.2)

def rightToks (c : Cfg) (xs : List (Ast × Str)) (last : Ast) : List Token :=
  xs.flatMap (fun l => yield c l.1 ++ [tOp l.2]) ++ yield c last

/-- an operand that is closed against the level `p`: a value, itself as the table dictates, every operator open at its
right edge closes before a token of level `p`, and no postfix operation along its left edge is captured by a rule of
level `p` (leaves, parenthesised expressions, calls, lists, tighter operators) -/
def Fits (c : Cfg) (p : Prec) (x : Ast) : Prop :=
  isValue x = true ∧ WFn c x ∧ (∀ ρ ∈ rsr c x, reduceOver ρ p = true) ∧ (∀ q ∈ lsp c x, reduceOver p q = false)

/-- the operator is a binary operator of the table whose token has precedence `p` -/
def OnLevel (c : Cfg) (p : Prec) (sym : Str) : Prop :=
  ∃ o, c.opRec sym = some o ∧ o.bp ≠ 0 ∧ c.tokPrec o = p

theorem leftChain_yield (c : Cfg) : ∀ (xs : List Link) (acc : Ast),
    yield c (leftChain c acc xs) = leftToks c acc xs
  | [], acc => by simp [leftChain, leftToks]
  | (sym, x) :: xs, acc => by
      rw [leftChain, leftChain_yield c xs]
      simp [leftToks, yield, List.append_assoc]

theorem rightChain_yield (c : Cfg) : ∀ (xs : List (Ast × Str)) (last : Ast),
    yield c (rightChain c xs last) = rightToks c xs last
  | [], last => by simp [rightChain, rightToks]
  | (x, sym) :: xs, last => by
      rw [rightChain, yield, rightChain_yield c xs]
      simp [rightToks, List.append_assoc]

theorem wfn_binary {c : Cfg} {sym : Str} {o : OpRec} (ho : c.opRec sym = some o) (hb : o.bp ≠ 0) (al : Option Str)
    (l r : Ast) :
    WFn c (.binary sym al l r) ↔ al = o.alias ∧ isValue l = true ∧ isValue r = true ∧ WFn c l ∧ WFn c r ∧
      (∀ ρ ∈ rsr c l, reduceOver ρ (c.tokPrec o) = true) ∧ (∀ q ∈ lsp c r, reduceOver (c.tokPrec o) q = false) := by
  simp only [WFn, ho]
  exact ⟨fun ⟨_, e, _, h⟩ => by cases e; exact h, fun h => ⟨o, rfl, hb, h⟩⟩

/-- a 'left' level: the left-deep tree is `WF`, whatever the length -/
theorem leftChain_wf (c : Cfg) (p : Prec) (hl : reduceOver p p = true) :
    ∀ (xs : List Link) (acc : Ast), isValue acc = true → WFn c acc → (∀ ρ ∈ rsr c acc, reduceOver ρ p = true) →
      (∀ l ∈ xs, OnLevel c p l.1 ∧ Fits c p l.2) → WF c (leftChain c acc xs)
  | [], acc, hv, hw, _, _ => ⟨hv, hw⟩
  | (sym, x) :: xs, acc, hv, hw, hr, hx => by
      obtain ⟨⟨o, ho, hb, rfl⟩, hxv, hxw, hxr, hxl⟩ := hx (sym, x) (List.mem_cons_self ..)
      simp only [leftChain, ho]
      refine leftChain_wf c _ hl xs _ rfl ((wfn_binary ho hb ..).mpr ⟨rfl, hv, hxv, hw, hxw, hr, hxl⟩) ?_
        (fun l hlm => hx l (List.mem_cons_of_mem _ hlm))
      rw [rsr_binary ho]
      exact List.forall_mem_cons.mpr ⟨hl, hxr⟩

/-- a 'right' level: the right-deep tree is `WF`, whatever the length -/
theorem rightChain_wf (c : Cfg) (p : Prec) (hr : reduceOver p p = false) :
    ∀ (xs : List (Ast × Str)) (last : Ast), Fits c p last →
      (∀ l ∈ xs, OnLevel c p l.2 ∧ Fits c p l.1) →
      isValue (rightChain c xs last) = true ∧ WFn c (rightChain c xs last) ∧
        (∀ q ∈ lsp c (rightChain c xs last), reduceOver p q = false)
  | [], last, hlast, _ => ⟨hlast.1, hlast.2.1, hlast.2.2.2⟩
  | (x, sym) :: xs, last, hlast, hx => by
      obtain ⟨⟨o, ho, hb, rfl⟩, hxv, hxw, hxr, hxl⟩ := hx (x, sym) (List.mem_cons_self ..)
      obtain ⟨tv, tw, tl⟩ := rightChain_wf c _ hr xs last hlast (fun l hlm => hx l (List.mem_cons_of_mem _ hlm))
      simp only [rightChain, ho]
      refine ⟨rfl, (wfn_binary ho hb ..).mpr ⟨rfl, hxv, tv, hxw, tw, hxr, tl⟩, ?_⟩
      rw [lsp_binary ho]
      exact List.forall_mem_cons.mpr ⟨hr, hxl⟩

/-- **long chains, 'left' level**: for EVERY number of links the parser returns the left-deep tree -/
theorem parse_leftChain (c : Cfg) (hna : NoAmb c) (p : Prec) (hl : reduceOver p p = true) (x0 : Ast) (xs : List Link)
    (h0 : Fits c p x0) (hx : ∀ l ∈ xs, OnLevel c p l.1 ∧ Fits c p l.2) :
    parse c (leftToks c x0 xs) = .ok (leftChain c x0 xs) := by
  rw [← leftChain_yield]
  exact parse_roundtrip c hna _ (leftChain_wf c p hl xs x0 h0.1 h0.2.1 h0.2.2.1 hx)

/-- **long chains, 'right' level**: for EVERY number of links the parser returns the right-deep tree -/
theorem parse_rightChain (c : Cfg) (hna : NoAmb c) (p : Prec) (hr : reduceOver p p = false) (xs : List (Ast × Str))
    (last : Ast) (hlast : Fits c p last) (hx : ∀ l ∈ xs, OnLevel c p l.2 ∧ Fits c p l.1) :
    parse c (rightToks c xs last) = .ok (rightChain c xs last) := by
  rw [← rightChain_yield]
  obtain ⟨v, w, _⟩ := rightChain_wf c p hr xs last hlast hx
  exact parse_roundtrip c hna _ ⟨v, w⟩

/-- on a 'left' level no `WF` tree has an operator of the level as the root of a RIGHT operand of an operator of the
level (so no re-balanced chain, however long, is the dictated tree) -/
theorem no_right_nesting (c : Cfg) (p : Prec) (hl : reduceOver p p = true) {s1 s2 : Str} {a1 a2 : Option Str} {l r1 r2 : Ast}
    (h1 : OnLevel c p s1) (h2 : OnLevel c p s2) : ¬ WFn c (.binary s1 a1 l (.binary s2 a2 r1 r2)) := by
  obtain ⟨o1, ho1, hb1, rfl⟩ := h1
  obtain ⟨o2, ho2, _, hp2⟩ := h2
  intro h
  have := ((wfn_binary ho1 hb1 ..).mp h).2.2.2.2.2.2 _ (by rw [lsp_binary ho2]; exact List.mem_cons_self ..)
  rw [hp2, hl] at this
  cases this

/-- on a 'right' level no `WF` tree has an operator of the level as the root of a LEFT operand of an operator of the level -/
theorem no_left_nesting (c : Cfg) (p : Prec) (hr : reduceOver p p = false) {s1 s2 : Str} {a1 a2 : Option Str} {l1 l2 r : Ast}
    (h1 : OnLevel c p s1) (h2 : OnLevel c p s2) : ¬ WFn c (.binary s1 a1 (.binary s2 a2 l1 l2) r) := by
  obtain ⟨o1, ho1, hb1, rfl⟩ := h1
  obtain ⟨o2, ho2, _, hp2⟩ := h2
  intro h
  have := ((wfn_binary ho1 hb1 ..).mp h).2.2.2.2.2.1 _ (by rw [rsr_binary ho2]; exact List.mem_cons_self ..)
  rw [hp2, hr] at this
  cases this

/-! ## non-vacuity on the demo table (`+ -` share the 'left' level 3, `->` is the 'right' level 1) -/

theorem fits_leaf (c : Cfg) (p : Prec) (v : TokVal) : Fits c p (.getContextValue v) :=
  ⟨rfl, by simp [WFn], by simp [rsr], by simp [lsp]⟩

theorem fits_number (c : Cfg) (p : Prec) (v : TokVal) : Fits c p (.const .number v) :=
  ⟨rfl, by simp [WFn], by simp [rsr], by simp [lsp]⟩

def plusLevel : Prec := demoCfg.tokPrec ⟨0, 4, ['P'], none⟩
def arrowLevel : Prec := demoCfg.tokPrec ⟨0, -6, ['R'], none⟩

theorem plus_onLevel : OnLevel demoCfg plusLevel ['+'] := ⟨⟨0, 4, ['P'], none⟩, by decide, by decide, rfl⟩
theorem minus_onLevel : OnLevel demoCfg plusLevel ['-'] := ⟨⟨2, 4, ['M'], none⟩, by decide, by decide, by decide⟩
theorem arrow_onLevel : OnLevel demoCfg arrowLevel ['-', '>'] := ⟨⟨0, -6, ['R'], none⟩, by decide, by decide, rfl⟩

/-- a chain `$a + 1 - $a + 1 - ...` with 2n links parses left-deep, for every n -/
theorem demo_left (n : Nat) :
    parse demoCfg (leftToks demoCfg va ((List.replicate n [(['+'], n1), (['-'], va)]).flatten)) =
      .ok (leftChain demoCfg va ((List.replicate n [(['+'], n1), (['-'], va)]).flatten)) := by
  apply parse_leftChain demoCfg demo_noAmb plusLevel (by decide) va _ (fits_leaf ..)
  intro l hl
  obtain ⟨b, hb, hlb⟩ := List.mem_flatten.mp hl
  rw [List.eq_of_mem_replicate hb] at hlb
  rcases List.mem_cons.mp hlb with h | h
  · rw [h]; exact ⟨plus_onLevel, fits_number ..⟩
  · rw [List.mem_singleton.mp h]; exact ⟨minus_onLevel, fits_leaf ..⟩

/-- a chain `1 -> 1 -> ... -> $a` with n links parses right-deep, for every n -/
theorem demo_right (n : Nat) :
    parse demoCfg (rightToks demoCfg (List.replicate n (n1, ['-', '>'])) va) =
      .ok (rightChain demoCfg (List.replicate n (n1, ['-', '>'])) va) := by
  apply parse_rightChain demoCfg demo_noAmb arrowLevel (by decide) _ va (fits_leaf ..)
  intro l hl
  rw [List.eq_of_mem_replicate hl]
  exact ⟨arrow_onLevel, fits_number ..⟩

example : leftChain demoCfg va ((List.replicate 1 [(['+'], n1), (['-'], va)]).flatten) =
    .binary ['-'] none (.binary ['+'] none va n1) va := by rfl

example : ¬ WF demoCfg (.binary ['+'] none (.binary ['+'] none va n1) (.binary ['+'] none va n1)) :=
  fun h => no_right_nesting demoCfg plusLevel (by decide) plus_onLevel plus_onLevel h.2

/-! ## one operator repeated; the live tables -/

theorem reduceOver_self (p : Prec) : reduceOver p p = p.left := by simp [reduceOver]

/-- `x0 op x1 op ... op xn` for a binary operator on a 'left' row: left-deep for every n -/
theorem parse_repeat_left (c : Cfg) (hna : NoAmb c) {sym : Str} {o : OpRec} (ho : c.opRec sym = some o) (hb : o.bp ≠ 0)
    (hl : (c.tokPrec o).left = true) (x0 : Ast) (xs : List Ast) (h0 : Fits c (c.tokPrec o) x0)
    (hx : ∀ x ∈ xs, Fits c (c.tokPrec o) x) :
    parse c (leftToks c x0 (xs.map fun x => (sym, x))) = .ok (leftChain c x0 (xs.map fun x => (sym, x))) := by
  apply parse_leftChain c hna (c.tokPrec o) (by rw [reduceOver_self]; exact hl) x0 _ h0
  intro l hlm
  obtain ⟨x, hxm, rfl⟩ := List.mem_map.mp hlm
  exact ⟨⟨o, ho, hb, rfl⟩, hx x hxm⟩

/-- ... and on a 'right' row: right-deep for every n -/
theorem parse_repeat_right (c : Cfg) (hna : NoAmb c) {sym : Str} {o : OpRec} (ho : c.opRec sym = some o) (hb : o.bp ≠ 0)
    (hr : (c.tokPrec o).left = false) (xs : List Ast) (last : Ast) (hlast : Fits c (c.tokPrec o) last)
    (hx : ∀ x ∈ xs, Fits c (c.tokPrec o) x) :
    parse c (rightToks c (xs.map fun x => (x, sym)) last) = .ok (rightChain c (xs.map fun x => (x, sym)) last) := by
  apply parse_rightChain c hna (c.tokPrec o) (by rw [reduceOver_self]; exact hr) _ last hlast
  intro l hlm
  obtain ⟨x, hxm, rfl⟩ := List.mem_map.mp hlm
  exact ⟨⟨o, ho, hb, rfl⟩, hx x hxm⟩

def leftBinaryB (c : Cfg) (sym : Str) : Bool :=
  match c.opRec sym with
  | some o => decide (o.bp ≠ 0) && (c.tokPrec o).left
  | none => false

theorem leftBinary_spec {c : Cfg} {sym : Str} (h : leftBinaryB c sym = true) :
    ∃ o, c.opRec sym = some o ∧ o.bp ≠ 0 ∧ (c.tokPrec o).left = true := by
  unfold leftBinaryB at h
  split at h
  · rename_i o ho
    simp only [Bool.and_eq_true, decide_eq_true_eq] at h
    exact ⟨o, ho, h.1, h.2⟩
  · cases h

section live
open Yaql.Gen.OpTables Yaql.Props.C02Gen

def sAnd : Str := ['a', 'n', 'd']
def sOr : Str := ['o', 'r']

/-- in the LIVE default and legacy tables `and` and `or` are binary operators on 'left' rows -/
theorem live_and_or_left :
    leftBinaryB (Cfg.ofTable defaultTable false) sAnd = true ∧ leftBinaryB (Cfg.ofTable defaultTable false) sOr = true ∧
    leftBinaryB (Cfg.ofTable legacyTable false) sAnd = true ∧ leftBinaryB (Cfg.ofTable legacyTable false) sOr = true := by
  decide +kernel

theorem default_chain {sym : Str} (h : leftBinaryB (Cfg.ofTable defaultTable false) sym = true) (x0 : TokVal)
    (xs : List TokVal) :
    parse (Cfg.ofTable defaultTable false)
        (leftToks (Cfg.ofTable defaultTable false) (.getContextValue x0) (xs.map fun v => (sym, .getContextValue v))) =
      .ok (leftChain (Cfg.ofTable defaultTable false) (.getContextValue x0) (xs.map fun v => (sym, .getContextValue v))) := by
  obtain ⟨o, ho, hb, hl⟩ := leftBinary_spec h
  have := parse_repeat_left _ live_no_amb.1 ho hb hl (.getContextValue x0) (xs.map .getContextValue) (fits_leaf ..)
    (by intro x hx; obtain ⟨v, _, rfl⟩ := List.mem_map.mp hx; exact fits_leaf ..)
  simpa [List.map_map, Function.comp_def] using this

/-- the live default engine: `$x0 and $x1 and ... and $xn` is `((($x0 and $x1) and $x2) ...)` for EVERY n -/
theorem default_and_chain (x0 : TokVal) (xs : List TokVal) :
    parse (Cfg.ofTable defaultTable false)
        (leftToks (Cfg.ofTable defaultTable false) (.getContextValue x0) (xs.map fun v => (sAnd, .getContextValue v))) =
      .ok (leftChain (Cfg.ofTable defaultTable false) (.getContextValue x0) (xs.map fun v => (sAnd, .getContextValue v))) :=
  default_chain live_and_or_left.1 x0 xs

theorem default_or_chain (x0 : TokVal) (xs : List TokVal) :
    parse (Cfg.ofTable defaultTable false)
        (leftToks (Cfg.ofTable defaultTable false) (.getContextValue x0) (xs.map fun v => (sOr, .getContextValue v))) =
      .ok (leftChain (Cfg.ofTable defaultTable false) (.getContextValue x0) (xs.map fun v => (sOr, .getContextValue v))) :=
  default_chain live_and_or_left.2.1 x0 xs

end live

end Yaql.Props.C02Chain
