import Yaql.Props.C07
import Yaql.Gen.HostFacts
/-!
C07 over the generated tables (`Yaql/Gen/HostFacts.lean`, regenerated from the live registry of
`yaql.create_context()` by `harness/gens/hostfacts.py` on every run; all proofs are
evaluation of the tables, re-checked against what the code says now).

* `host_touch_only_yaqlized`: every getattr / subscript / call / format / escape use on a parameter
  whose declared type admits an opaque host object as it is belongs to one of the explicit,
  justified exception rows below; all other such uses sit on `Yaqlized(..)` parameters
  (`yaqlized_rows`: which exist, with the flag that matches the use) or on parameters whose type
  check refuses opaque objects.  The same for the `value` argument of every check/convert method,
  checker, converter and validator of the smart-type objects in the registry (`typeRows`).
* `no_format_templates`: no parameter that admits a string is used as a format template and no
  parameter is formatted by a non-literal template (a registered `format(template, ..)` would be such a row).
* `keyword_guard`: the KEYWORD_STRING token rule still starts with `(?!__)`.
* `gate_generated`: `C07.gate` instantiated with the generated registry.
-/
namespace Yaql.Props.C07Gen
open Yaql.Yaqlized Yaql.Gen.HostFacts

/-- (payload, parameter, host-touching uses tolerated there).  Every row is justified:

(The gate itself - `get_yaqlization_settings(value)`, i.e. `getattr(value, '__yaqlization__', None)`,
the one settings probe every object undergoes - is recorded as the use `probe`, which is not host
touching: the property statement excludes it, and so does the canary.)

1. `Lambda.convert value [getattr]`: KNOWN FINDING K3 `unwrapped-probe` -
   `callable(value) and hasattr(value, '__unwrapped__')` probes a callable host object that reached a
   Lambda-typed parameter through `call(name, args, kwargs)`.
2. `Lambda._call value [call]`: KNOWN FINDING K3 `callable-host-invoked-via-lambda-param` -
   `elif callable(value): value(*args, **kwargs)` calls that host object with expression-chosen
   arguments.
3. `indexation key [getattr, escape]`: KNOWN FINDING `indexer-key-startswith-probe` - the key of
   `obj[key]` is untyped; `_validate_name` calls `key.startswith('_')` and hands the key to the
   whitelist/blacklist entries before any check that it is a string.
-/
def exceptions : List (List Char × List Char × List Use) :=
  [ ("yaql.language.yaqltypes.Lambda.convert".toList, "value".toList, [.getattr]),
    ("yaql.language.yaqltypes.Lambda._call".toList, "value".toList, [.call]),
    ("yaql.standard_library.yaqlized.indexation".toList, "key".toList, [.getattr, .escape]) ]

/-- all host-touching uses of the row are tolerated by an exception entry for that very
    (payload, parameter) -/
def exempt (r : FactRow) : Bool :=
  (r.uses.filter Use.hostTouch).all fun u =>
    exceptions.any fun e => e.1 == r.payload && e.2.1 == r.param && e.2.2.contains u

def rowOk (r : FactRow) : Bool :=
  match r.ty with
  | .open => !r.touches || exempt r
  | _ => true

/-- C07Gen.host_touch_only_yaqlized -/
theorem host_touch_only_yaqlized : (rows ++ typeRows).all rowOk = true := by decide +kernel

/-- the table is the whole registry: 284 FunctionDefinitions today; it is never empty, and the
    three yaqlized access forms are in it with the flag that matches what they do to the object -/
theorem table_nonempty : registry.length = functionDefinitions ∧ 0 < registry.length ∧
    rows.length ≥ registry.length := by decide +kernel

def hasRow (payload param : String) (ty : TyClass) (u : Use) : Bool :=
  -- cheap tests first: the kernel converts a string literal per comparison
  rows.any fun r => r.ty == ty && r.uses.contains u && r.payload == payload.toList && r.param == param.toList

theorem yaqlized_rows :
    hasRow "yaql.standard_library.yaqlized.attribution" "obj" (.yaqlized true false false) .getattr = true ∧
    hasRow "yaql.standard_library.yaqlized.op_dot" "receiver" (.yaqlized false true false) .getattr = true ∧
    hasRow "yaql.standard_library.yaqlized.indexation" "obj" (.yaqlized false false true) .subscript = true := by
  decide +kernel

/-- every `Yaqlized(..)` parameter asks for at least one switch; one whose payload subscripts the
    object asks for the indexer switch, one whose payload does getattr on it for the attribute or the
    method switch; it is never called, formatted or passed to unknown code; and every such payload
    fetches the settings (`probe`) -/
theorem yaqlized_flags_match : rows.all (fun r =>
    match r.ty with
    | .yaqlized a m i => (a || m || i) && (!r.uses.contains .subscript || i) &&
        (!r.uses.contains .getattr || a || m) && r.uses.contains .probe &&
        r.uses.all (fun u => u == .getattr || u == .subscript || u == .probe)
    | _ => true) = true := by decide +kernel

/-- the type check of `Yaqlized(..)` does nothing to the object but fetch its settings -/
theorem yaqlized_checker_probes_only : typeRows.all (fun r =>
    !(r.payload == "yaql.standard_library.yaqlized.Yaqlized.__init__.<locals>.check_value".toList) ||
      (r.uses.contains .probe && !r.touches)) = true := by
  -- turning a string literal into its characters is slow to check, the longer the slower; comparing
  -- the literals of the rows with the one here is not, so the rows are gone through by `simp`
  have beq_toList (a b : String) : (a.toList == b.toList) = (a == b) := by
    rw [Bool.eq_iff_iff, beq_iff_eq, beq_iff_eq, String.toList_inj]
  simp only [typeRows, List.all_cons, List.all_nil, beq_toList, String.reduceBEq, Bool.not_false, Bool.true_or,
    Bool.true_and, Bool.not_true, Bool.false_or]
  decide

/-- the scan is not blind (and this does not depend on any of the exception rows staying in the
    code): it sees the `predicate(..)` calls in the payloads of Lambda-typed parameters, the
    `str(..)` conversions and the hand-over of untyped values to sibling lambdas -/
theorem scan_sees_uses :
    (rows.filter fun r => r.ty == .converted && r.uses.contains .call).length ≥ 20 ∧
    (rows.filter fun r => r.ty == .open && r.uses.contains .reenter).length ≥ 5 ∧
    ((rows ++ typeRows).filter fun r => r.uses.contains .strconv).length ≥ 1 := by decide +kernel

/-- no parameter that admits a string is used as a format template (`p % x`, `p.format(..)`), and no
    parameter is formatted by a template that is not a literal of the payload -/
theorem no_format_templates : (rows ++ typeRows).all (fun r =>
    !r.uses.contains .fmtarg && (!r.uses.contains .template || !r.admitsStr)) = true := by decide +kernel

/-- C07Gen.keyword_guard: a keyword token cannot start with `__` -/
theorem keyword_guard : keywordRegex.take 6 = "(?!__)".toList := by decide +kernel

/-! ## the gate on the generated registry -/

theorem table_ok : Yaql.Props.C07.TableOk exempt registry := by
  intro f hf r hr hty htouch
  have hall : rows.all rowOk = true := by
    have := host_touch_only_yaqlized
    rw [List.all_append, Bool.and_eq_true] at this
    exact this.1
  have hmem : r ∈ rows := by
    simp only [rows, List.mem_flatMap]
    exact ⟨f, hf, hr⟩
  have := List.all_eq_true.1 hall r hmem
  simp only [rowOk, hty, htouch, Bool.not_true, Bool.false_or] at this
  exact this

/-- C07.gate for the registry as it is now: whichever overload yaql selects among those whose
    parameters admit the arguments, an opaque host object bound to a parameter whose payload touches
    it (getattr / subscript / call / format / escape) and that is not one of the listed exceptions
    passed `Yaqlized.check` with that parameter's flags - an object without settings is never bound
    there -/
theorem gate_generated {E V : Type} (fits : FactRow → V → Bool)
    (name : List Char) (args : List (Arg E V)) (f : FnDef)
    (hf : f ∈ candidates fits registry name args)
    (r : FactRow) (h : Host E) (hp : (r, Arg.host h) ∈ f.explicit.zip args)
    (htouch : r.touches = true) (hex : exempt r = false) (hconv : r.ty ≠ .converted) :
    ∃ a m i, r.ty = .yaqlized a m i ∧ check { attrs := a, methods := m, index := i } h = true ∧ h ≠ none :=
  Yaql.Props.C07.gate_candidates fits exempt registry table_ok name args f hf r h hp htouch hex hconv

/-- non-vacuity on the real table: `$obj.attr` with a yaqlized object has a candidate, the same
    call with a plain host object has none among the yaqlized overloads -/
def yaqlizedFns : List FnDef :=
  registry.filter fun f => f.params.any fun r => r.ty == .yaqlized true false false

def attrCall (h : Host Entry) : List FnDef :=
  candidates (V := Unit) (fun r _ => r.param == "attr".toList) yaqlizedFns "#operator_.".toList
    [.host h, .native ()]

theorem gate_witness : yaqlizedFns.length = 1 ∧ (attrCall (some {})).length = 1 ∧ (attrCall none).length = 0 ∧
    (attrCall (some { yaqlizeAttributes := false })).length = 0 := by decide +kernel

end Yaql.Props.C07Gen
