import Yaql.Model.Signature
import Yaql.Props.C05
import Yaql.Lemmas.C05Lists
/-!
C05, "arity, keyword names and defaults": the parameter table that the resolution rules work on is the
one the Python signature of the payload prescribes.

`Yaql.Signature.define` models `specs.get_function_definition` (the decorators' `set_parameter` calls
followed by the automatic declarations).

* `define_sound` - every entry of the table sits under the key / at the position `place` gives its
  argument and carries exactly the default the payload declares for it (`declaredDefault`).
* `define_complete` - every positional and keyword-only argument, `*args` and `**kwargs` has an entry.
* `defaults_complete` - hence every argument with a Python default gets that default, positional
  (aligned to the right end of `spec.args`) or keyword-only (by name), whatever else the payload declares;
  arguments without a Python default stay mandatory (`mandatory_stay_mandatory`).
* `define_perm` - the table does not depend on the order of the decorators (the tables are permutations
  of each other: same entry under every key).
* `kwonly_elif_drops_default` - the contrast: looking at the keyword-only defaults only when the payload has
  no positional defaults makes `def f(a, b=10, *, flag=False)` lose the default of `flag`, and `f(1)` is no
  longer callable (`mapArgs`).
-/
namespace Yaql.Props.C05Sig
open Yaql.Types Yaql.Resolve Yaql.Signature

variable (k : Consts) (sig : PySig)

/-- what `define_sound` says of one entry -/
def Good (p : Param) : Prop :=
  place sig p.name = some (p.key, p.position) ∧ p.default = declaredDefault sig p.name

theorem good_mkParam (d : Decl) (key : Key) (pos : Option Nat) (h : place sig d.name = some (key, pos)) :
    Good sig (mkParam k sig d key pos) := ⟨h, rfl⟩

theorem setParameter_ok {ps ps' : List Param} {d : Decl} (h : setParameter k sig ps d = .ok ps') :
    ∃ key pos, place sig d.name = some (key, pos) ∧ hasKey ps key = false ∧
      ps' = ps ++ [mkParam k sig d key pos] := by
  unfold setParameter at h
  cases hp : place sig d.name with
  | none => simp [hp] at h
  | some kp =>
      obtain ⟨key, pos⟩ := kp
      simp only [hp] at h
      cases hk : hasKey ps key with
      | true => simp [hk] at h
      | false =>
          simp only [hk] at h
          refine ⟨key, pos, rfl, hk, ?_⟩
          injection h with h
          exact h.symm

theorem setParameter_eq_ok {ps : List Param} {d : Decl} {key : Key} {pos : Option Nat}
    (hp : place sig d.name = some (key, pos)) (hk : hasKey ps key = false) :
    setParameter k sig ps d = .ok (ps ++ [mkParam k sig d key pos]) := by
  unfold setParameter
  rw [hp]
  simp only [hk, Bool.false_eq_true, if_false]

theorem setParameter_good {ps ps' : List Param} {d : Decl} (h : setParameter k sig ps d = .ok ps')
    (hg : ∀ p ∈ ps, Good sig p) : ∀ p ∈ ps', Good sig p := by
  obtain ⟨key, pos, hp, _, rfl⟩ := setParameter_ok k sig h
  intro p hm
  rcases List.mem_append.mp hm with hm | hm
  · exact hg p hm
  · rw [List.mem_singleton.mp hm]; exact good_mkParam k sig d key pos hp

/-- `if <key> not in fd.parameters: fd.set_parameter(n, ..)`: what `fillNames` does for every name and
    `fillSpecial` for `*` and `**` -/
def fillOne (infer : Name → Option PTy) (key : Key) (n : Name) (ps : List Param) : Except SigErr (List Param) :=
  if hasKey ps key then .ok ps else setParameter k sig ps (autoDecl infer n)

theorem fillNames_cons (infer : Name → Option PTy) (n : Name) (ns : List Name) (ps : List Param) :
    fillNames k sig infer ps (n :: ns) =
      (fillOne k sig infer (.name n) n ps).bind fun ps1 => fillNames k sig infer ps1 ns := by
  unfold fillOne
  rw [fillNames]
  split
  · rfl
  · cases setParameter k sig ps (autoDecl infer n) <;> rfl

theorem bind_ok {α β : Type} {x : Except SigErr α} {f : α → Except SigErr β} {b : β} (h : x.bind f = .ok b) :
    ∃ a, x = .ok a ∧ f a = .ok b := by
  cases x with
  | error e => cases h
  | ok a => exact ⟨a, rfl, h⟩

/-! the stages of `define` before the naming convention change the table through `set_parameter` only:
    what `set_parameter` keeps, they keep -/
section preserves
variable {P : List Param → Prop}
  (hs : ∀ {ps ps' : List Param} {d : Decl}, setParameter k sig ps d = .ok ps' → P ps → P ps')
include hs

theorem setAll_preserves : ∀ (ds : List Decl) {ps ps' : List Param}, setAll k sig ps ds = .ok ps' → P ps → P ps'
  | [], ps, ps', h, hp => by cases h; exact hp
  | d :: ds, ps, ps', h, hp => by
      simp only [setAll] at h
      cases h1 : setParameter k sig ps d with
      | error e => simp [h1] at h
      | ok ps1 =>
          simp only [h1] at h
          exact setAll_preserves ds h (hs h1 hp)

theorem fillOne_preserves (infer : Name → Option PTy) {key : Key} {n : Name} {ps ps' : List Param}
    (h : fillOne k sig infer key n ps = .ok ps') (hp : P ps) : P ps' := by
  unfold fillOne at h
  split at h
  · cases h; exact hp
  · exact hs h hp

theorem fillNames_preserves (infer : Name → Option PTy) : ∀ (ns : List Name) {ps ps' : List Param},
    fillNames k sig infer ps ns = .ok ps' → P ps → P ps'
  | [], ps, ps', h, hp => by cases h; exact hp
  | n :: ns, ps, ps', h, hp => by
      rw [fillNames_cons] at h
      obtain ⟨ps1, h1, h⟩ := bind_ok h
      exact fillNames_preserves infer ns h (fillOne_preserves k sig hs infer h1 hp)

theorem fillSpecial_preserves (infer : Name → Option PTy) (key : Key) (o : Option Name) {ps ps' : List Param}
    (h : fillSpecial k sig infer key o ps = .ok ps') (hp : P ps) : P ps' := by
  cases o with
  | none => cases h; exact hp
  | some n => exact fillOne_preserves k sig hs infer h hp

end preserves

theorem applyConvention_good (conv : Option (Name → Name)) {ps : List Param} (hg : ∀ p ∈ ps, Good sig p) :
    ∀ p ∈ applyConvention conv ps, Good sig p := by
  cases conv with
  | none => exact hg
  | some f =>
      intro p hm
      simp only [applyConvention, List.mem_map] at hm
      obtain ⟨q, hq, rfl⟩ := hm
      have := hg q hq
      split
      · exact this
      · exact this

/-- the stages of `define` -/
theorem define_ok {infer : Name → Option PTy} {conv : Option (Name → Name)} {decls : List Decl}
    {ps : List Param} (h : define k infer conv sig decls = .ok ps) :
    ∃ ps0 ps1 ps2 ps3, setAll k sig [] decls = .ok ps0 ∧
      fillNames k sig infer ps0 (sig.args ++ sig.kwonly) = .ok ps1 ∧
      fillSpecial k sig infer .star sig.varargs ps1 = .ok ps2 ∧
      fillSpecial k sig infer .starstar sig.varkw ps2 = .ok ps3 ∧ ps = applyConvention conv ps3 := by
  unfold define at h
  cases h0 : setAll k sig [] decls with
  | error e => simp [h0] at h
  | ok ps0 =>
    simp only [h0] at h
    cases h1 : fillNames k sig infer ps0 (sig.args ++ sig.kwonly) with
    | error e => simp [h1] at h
    | ok ps1 =>
      simp only [h1] at h
      cases h2 : fillSpecial k sig infer .star sig.varargs ps1 with
      | error e => simp [h2] at h
      | ok ps2 =>
        simp only [h2] at h
        cases h3 : fillSpecial k sig infer .starstar sig.varkw ps2 with
        | error e => simp [h3] at h
        | ok ps3 =>
          simp only [h3] at h
          injection h with h
          exact ⟨ps0, ps1, ps2, ps3, rfl, h1, h2, h3, h.symm⟩

/-- EVERY ENTRY IS THE ONE THE SIGNATURE PRESCRIBES: its key and position are those of its argument, its
    default is the default the payload declares for that argument - for every signature, every set of
    decorators, every `parameter_type_func` and convention -/
theorem define_sound {infer : Name → Option PTy} {conv : Option (Name → Name)} {decls : List Decl}
    {ps : List Param} (h : define k infer conv sig decls = .ok ps) :
    ∀ p ∈ ps, place sig p.name = some (p.key, p.position) ∧ p.default = declaredDefault sig p.name := by
  obtain ⟨ps0, ps1, ps2, ps3, h0, h1, h2, h3, rfl⟩ := define_ok k sig h
  have hs := fun {ps ps' d} => setParameter_good k sig (ps := ps) (ps' := ps') (d := d)
  exact applyConvention_good sig conv <| fillSpecial_preserves k sig hs infer _ _ h3 <|
    fillSpecial_preserves k sig hs infer _ _ h2 <| fillNames_preserves k sig hs infer _ h1 <|
    setAll_preserves k sig hs decls h0 (by simp)

/-! ## completeness: every argument has an entry -/

theorem hasKey_append_left {ps : List Param} (qs : List Param) {key : Key} (h : hasKey ps key = true) :
    hasKey (ps ++ qs) key = true := by
  simp only [hasKey] at h ⊢
  simp [List.any_append, h]

theorem setParameter_mono {ps ps' : List Param} {d : Decl} (h : setParameter k sig ps d = .ok ps') {key : Key}
    (hk : hasKey ps key = true) : hasKey ps' key = true := by
  obtain ⟨_, _, _, _, rfl⟩ := setParameter_ok k sig h
  exact hasKey_append_left _ hk

theorem setParameter_has {ps ps' : List Param} {d : Decl} (h : setParameter k sig ps d = .ok ps') :
    ∃ key pos, place sig d.name = some (key, pos) ∧ hasKey ps' key = true := by
  obtain ⟨key, pos, hp, _, rfl⟩ := setParameter_ok k sig h
  refine ⟨key, pos, hp, ?_⟩
  simp [hasKey, mkParam]

theorem fillNames_mono (infer : Name → Option PTy) (ns : List Name) {ps ps' : List Param}
    (h : fillNames k sig infer ps ns = .ok ps') {key : Key} : hasKey ps key = true → hasKey ps' key = true :=
  fillNames_preserves k sig (fun h1 => setParameter_mono k sig h1) infer ns h

theorem fillSpecial_mono (infer : Name → Option PTy) (key' : Key) (o : Option Name) {ps ps' : List Param}
    (h : fillSpecial k sig infer key' o ps = .ok ps') {key : Key} : hasKey ps key = true → hasKey ps' key = true :=
  fillSpecial_preserves k sig (fun h1 => setParameter_mono k sig h1) infer key' o h

theorem hasKey_applyConvention (conv : Option (Name → Name)) (ps : List Param) (key : Key) :
    hasKey (applyConvention conv ps) key = hasKey ps key := by
  cases conv with
  | none => rfl
  | some f =>
      simp only [applyConvention, hasKey, List.any_map]
      congr 1
      funext p
      simp only [Function.comp]
      split <;> rfl

theorem place_key {n : Name} {key : Key} {pos : Option Nat} (h : place sig n = some (key, pos)) :
    (sig.varkw = some n ∧ key = .starstar) ∨ (sig.varkw ≠ some n ∧ sig.varargs = some n ∧ key = .star) ∨
    (sig.varkw ≠ some n ∧ sig.varargs ≠ some n ∧ key = .name n) := by
  unfold place at h
  by_cases h1 : sig.varkw = some n
  · rw [if_pos (by simpa using h1)] at h
    cases h; exact .inl ⟨h1, rfl⟩
  · rw [if_neg (by simpa using h1)] at h
    by_cases h2 : sig.varargs = some n
    · rw [if_pos (by simpa using h2)] at h
      cases h; exact .inr (.inl ⟨h1, h2, rfl⟩)
    · rw [if_neg (by simpa using h2)] at h
      refine .inr (.inr ⟨h1, h2, ?_⟩)
      split at h
      · cases h; rfl
      · split at h
        · cases h; rfl
        · cases h

theorem place_name_key {n : Name} {key : Key} {pos : Option Nat} (h : place sig n = some (key, pos))
    (h1 : sig.varkw ≠ some n) (h2 : sig.varargs ≠ some n) : key = .name n := by
  rcases place_key sig h with ⟨e, _⟩ | ⟨_, e, _⟩ | ⟨_, _, e⟩
  · exact absurd e h1
  · exact absurd e h2
  · exact e

theorem fillOne_has (infer : Name → Option PTy) {key : Key} {n : Name} {ps ps' : List Param}
    (h : fillOne k sig infer key n ps = .ok ps')
    (hkey : ∀ key' pos, place sig n = some (key', pos) → key' = key) : hasKey ps' key = true := by
  unfold fillOne at h
  split at h
  · rename_i hk; cases h; exact hk
  · obtain ⟨key', pos, hp, hk'⟩ := setParameter_has k sig h
    rw [← hkey key' pos hp]; exact hk'

theorem fillNames_complete (infer : Name → Option PTy)
    (hv1 : ∀ n ∈ sig.args ++ sig.kwonly, sig.varkw ≠ some n)
    (hv2 : ∀ n ∈ sig.args ++ sig.kwonly, sig.varargs ≠ some n) :
    ∀ (ns : List Name), (∀ n ∈ ns, n ∈ sig.args ++ sig.kwonly) → ∀ {ps ps' : List Param},
    fillNames k sig infer ps ns = .ok ps' → ∀ n ∈ ns, hasKey ps' (.name n) = true
  | [], _, ps, ps', _, n, hn => by cases hn
  | m :: ns, hsub, ps, ps', h, n, hn => by
      rw [fillNames_cons] at h
      obtain ⟨ps1, h1, h2⟩ := bind_ok h
      rcases List.mem_cons.mp hn with rfl | hn
      · have hmem := hsub n List.mem_cons_self
        exact fillNames_mono k sig infer ns h2 <| fillOne_has k sig infer h1 fun _ _ hp =>
          place_name_key sig hp (hv1 n hmem) (hv2 n hmem)
      · exact fillNames_complete infer hv1 hv2 ns (fun n hn => hsub n (List.mem_cons_of_mem _ hn)) h2 n hn

theorem distinct_varkw {s : PySig} (h : s.Distinct) : ∀ n ∈ s.args ++ s.kwonly, s.varkw ≠ some n := by
  intro n hn hv
  unfold PySig.Distinct at h
  rw [hv] at h
  have := List.nodup_append.mp h
  exact this.2.2 n (by simp at hn ⊢; rcases hn with hn | hn <;> simp [hn]) n (by simp) rfl

theorem distinct_varargs {s : PySig} (h : s.Distinct) : ∀ n ∈ s.args ++ s.kwonly, s.varargs ≠ some n := by
  intro n hn hv
  unfold PySig.Distinct at h
  rw [hv] at h
  have h' := (List.nodup_append.mp h).1
  have := List.nodup_append.mp h'
  exact this.2.2 n hn n (by simp) rfl

theorem distinct_args_kwonly {s : PySig} (h : s.Distinct) : ∀ n ∈ s.kwonly, n ∉ s.args := by
  intro n hn ha
  unfold PySig.Distinct at h
  have h' := (List.nodup_append.mp (List.nodup_append.mp h).1).1
  exact (List.nodup_append.mp h').2.2 n ha n hn rfl

theorem declaredDefault_kwonly (hd : sig.Distinct) {n : Name} (hn : n ∈ sig.kwonly) :
    declaredDefault sig n = alookup n sig.kwdefaults := by
  have hc : sig.args.contains n = false := by
    rw [Bool.eq_false_iff]; intro hc
    exact distinct_args_kwonly hd n hn (by simpa using hc)
  simp only [declaredDefault, hc, Bool.and_false, Bool.false_eq_true, if_false]

theorem distinct_args {s : PySig} (h : s.Distinct) : s.args.Nodup := by
  unfold PySig.Distinct at h
  exact (List.nodup_append.mp (List.nodup_append.mp (List.nodup_append.mp h).1).1).1

/-- EVERY ARGUMENT HAS AN ENTRY -/
theorem define_complete (hd : sig.Distinct) {infer : Name → Option PTy} {conv : Option (Name → Name)}
    {decls : List Decl} {ps : List Param} (h : define k infer conv sig decls = .ok ps) :
    (∀ n ∈ sig.args ++ sig.kwonly, hasKey ps (.name n) = true) ∧
    (sig.varargs.isSome → hasKey ps .star = true) ∧ (sig.varkw.isSome → hasKey ps .starstar = true) := by
  obtain ⟨ps0, ps1, ps2, ps3, h0, h1, h2, h3, rfl⟩ := define_ok k sig h
  simp only [hasKey_applyConvention]
  refine ⟨fun n hn => ?_, fun hv => ?_, fun hv => ?_⟩
  · have := fillNames_complete k sig infer (distinct_varkw hd) (distinct_varargs hd) _ (fun _ h => h) h1 n hn
    exact fillSpecial_mono k sig infer _ _ h3 (fillSpecial_mono k sig infer _ _ h2 this)
  · refine fillSpecial_mono k sig infer _ _ h3 ?_
    cases hva : sig.varargs with
    | none => simp [hva] at hv
    | some n =>
        rw [hva] at h2
        refine fillOne_has k sig infer h2 fun key pos hp => ?_
        rcases place_key sig hp with ⟨e, _⟩ | ⟨_, _, e⟩ | ⟨_, e, _⟩
        · -- `*n` and `**n` cannot carry the same name
          unfold PySig.Distinct at hd
          rw [hva, e] at hd
          exact absurd rfl ((List.nodup_append.mp hd).2.2 n (by simp) n (by simp))
        · exact e
        · exact absurd hva e
  · cases hvk : sig.varkw with
    | none => simp [hvk] at hv
    | some n =>
        rw [hvk] at h3
        refine fillOne_has k sig infer h3 fun key pos hp => ?_
        rcases place_key sig hp with ⟨_, e⟩ | ⟨e, _⟩ | ⟨e, _⟩
        · exact e
        · exact absurd hvk e
        · exact absurd hvk e

/-! ## the defaults -/

theorem hasKey_mem {ps : List Param} {key : Key} (h : hasKey ps key = true) : ∃ p ∈ ps, p.key = key := by
  simp only [hasKey, List.any_eq_true, beq_iff_eq] at h
  exact h

theorem place_key_name {n : Name} {key : Key} {pos : Option Nat} {m : Name}
    (h : place sig n = some (key, pos)) (hk : key = .name m) : n = m := by
  subst hk
  rcases place_key sig h with ⟨_, e⟩ | ⟨_, _, e⟩ | ⟨_, _, e⟩
  · cases e
  · cases e
  · injection e with e; exact e.symm

/-- `place` of a positional argument / of a keyword-only argument of a well-formed signature -/
theorem place_arg (hd : sig.Distinct) {n : Name} (hn : n ∈ sig.args) :
    place sig n = some (.name n, some (sig.args.idxOf n)) := by
  have h1 := distinct_varkw hd n (by simp [hn])
  have h2 := distinct_varargs hd n (by simp [hn])
  have e1 : (sig.varkw == some n) = false := by simpa using h1
  have e2 : (sig.varargs == some n) = false := by simpa using h2
  have hnk : n ∉ sig.kwonly := fun hk => distinct_args_kwonly hd n hk hn
  simp [place, e1, e2, hnk, hn]

theorem place_kwonly (hd : sig.Distinct) {n : Name} (hn : n ∈ sig.kwonly) :
    place sig n = some (.name n, none) := by
  have h1 := distinct_varkw hd n (by simp [hn])
  have h2 := distinct_varargs hd n (by simp [hn])
  have e1 : (sig.varkw == some n) = false := by simpa using h1
  have e2 : (sig.varargs == some n) = false := by simpa using h2
  simp [place, e1, e2, hn]

/-- the entry of a named argument -/
theorem entry_of (hd : sig.Distinct) {infer : Name → Option PTy} {conv : Option (Name → Name)}
    {decls : List Decl} {ps : List Param} (h : define k infer conv sig decls = .ok ps)
    {n : Name} (hn : n ∈ sig.args ++ sig.kwonly) :
    ∃ p ∈ ps, p.key = .name n ∧ p.name = n ∧ place sig n = some (.name n, p.position) ∧
      p.default = declaredDefault sig n := by
  obtain ⟨p, hp, hk⟩ := hasKey_mem ((define_complete k sig hd h).1 n hn)
  obtain ⟨hpl, hdf⟩ := define_sound k sig h p hp
  have hname : p.name = n := place_key_name sig hpl hk
  refine ⟨p, hp, hk, hname, ?_, ?_⟩
  · rw [← hname, hpl, hk, hname]
  · rw [hdf, hname]

/-- EVERY PARAMETER WITH A PYTHON DEFAULT GETS THAT DEFAULT - positional: the defaults belong to the LAST
    `len(defaults)` positional arguments, whether or not the payload also has keyword-only arguments;
    keyword-only: by name, whether or not the payload also has positional defaults - and it sits at the
    position of its argument (keyword-only: none) -/
theorem defaults_complete (hd : sig.Distinct) (hlen : sig.defaults.length ≤ sig.args.length)
    {infer : Name → Option PTy} {conv : Option (Name → Name)} {decls : List Decl} {ps : List Param}
    (h : define k infer conv sig decls = .ok ps) :
    (∀ (i : Nat) (hi : i < sig.args.length) (hdf : i + sig.defaults.length ≥ sig.args.length),
      ∃ p ∈ ps, p.key = .name sig.args[i] ∧ p.position = some i ∧
        p.default = some (sig.defaults[i + sig.defaults.length - sig.args.length]'(by omega))) ∧
    (∀ n ∈ sig.kwonly, ∀ v, alookup n sig.kwdefaults = some v →
      ∃ p ∈ ps, p.key = .name n ∧ p.position = none ∧ p.default = some v) := by
  refine ⟨fun i hi hdf => ?_, fun n hn v hv => ?_⟩
  · have hmem : sig.args[i] ∈ sig.args := List.getElem_mem hi
    obtain ⟨p, hp, hk, _, hpl, hdflt⟩ := entry_of k sig hd h (n := sig.args[i]) (by simp [hmem])
    refine ⟨p, hp, hk, ?_, ?_⟩
    · rw [place_arg sig hd hmem, (distinct_args hd).idxOf_getElem i hi] at hpl
      injection hpl with hpl; injection hpl with _ hpl; exact hpl.symm
    · rw [hdflt]
      unfold declaredDefault
      have hne : sig.defaults.isEmpty = false := by
        cases hdl : sig.defaults with
        | nil => simp [hdl] at hdf; omega
        | cons _ _ => rfl
      have hc : sig.args.contains sig.args[i] = true := List.contains_iff_mem.2 hmem
      simp only [hne, hc, Bool.not_false, Bool.and_self, if_true, (distinct_args hd).idxOf_getElem i hi]
      rw [if_pos hdf]
      exact List.getElem?_eq_getElem _
  · obtain ⟨p, hp, hk, _, hpl, hdflt⟩ := entry_of k sig hd h (n := n) (by simp [hn])
    refine ⟨p, hp, hk, ?_, ?_⟩
    · rw [place_kwonly sig hd hn] at hpl
      injection hpl with hpl; injection hpl with _ hpl; exact hpl.symm
    · rw [hdflt, declaredDefault_kwonly sig hd hn]
      exact hv

/-- and an argument WITHOUT a Python default stays mandatory (NO_DEFAULT) -/
theorem mandatory_stay_mandatory (hd : sig.Distinct) (hkw : sig.KwDefaultsOk)
    {infer : Name → Option PTy} {conv : Option (Name → Name)}
    {decls : List Decl} {ps : List Param} (h : define k infer conv sig decls = .ok ps) :
    (∀ (i : Nat) (hi : i < sig.args.length), i + sig.defaults.length < sig.args.length →
      ∀ p ∈ ps, p.key = .name sig.args[i] → p.default = none) ∧
    (∀ n ∈ sig.kwonly, alookup n sig.kwdefaults = none → ∀ p ∈ ps, p.key = .name n → p.default = none) := by
  refine ⟨fun i hi hlt p hp hk => ?_, fun n hn hv p hp hk => ?_⟩
  · obtain ⟨hpl, hdf⟩ := define_sound k sig h p hp
    have hname : p.name = sig.args[i] := place_key_name sig hpl hk
    rw [hdf, hname]
    unfold declaredDefault
    have hmem : sig.args[i] ∈ sig.args := List.getElem_mem hi
    have hc : sig.args.contains sig.args[i] = true := List.contains_iff_mem.2 hmem
    simp only [hc, Bool.and_true, (distinct_args hd).idxOf_getElem i hi]
    split
    · rw [if_neg (by omega)]
    · cases hl : alookup sig.args[i] sig.kwdefaults with
      | none => rfl
      | some v => exact absurd hmem (distinct_args_kwonly hd _ (hkw _ v hl))
  · obtain ⟨hpl, hdf⟩ := define_sound k sig h p hp
    have hname : p.name = n := place_key_name sig hpl hk
    rw [hdf, hname, declaredDefault_kwonly sig hd hn]
    exact hv

/-! ## the order of the decorators does not matter -/

abbrev Tab := Except SigErr (List Param)

/-- "whenever the left table exists, the right one exists and holds the same entries" -/
def Le (a b : Tab) : Prop := ∀ ps, a = .ok ps → ∃ ps', b = .ok ps' ∧ ps.Perm ps'

theorem Le.refl (a : Tab) : Le a a := fun ps h => ⟨ps, h, .refl _⟩
theorem Le.trans {a b c : Tab} (h1 : Le a b) (h2 : Le b c) : Le a c := by
  intro ps h
  obtain ⟨ps', h', p1⟩ := h1 ps h
  obtain ⟨ps'', h'', p2⟩ := h2 ps' h'
  exact ⟨ps'', h'', p1.trans p2⟩

theorem Le.ok {ps ps' : List Param} (h : ps.Perm ps') : Le (.ok ps) (.ok ps') := fun _ hq => by
  cases hq; exact ⟨ps', rfl, h⟩

theorem Le.bind {a b : Tab} {f g : List Param → Tab} (h : Le a b)
    (hf : ∀ ps ps', ps.Perm ps' → Le (f ps) (g ps')) : Le (a.bind f) (b.bind g) := by
  intro qs hq
  obtain ⟨ps, rfl, hq⟩ := bind_ok hq
  obtain ⟨ps', rfl, hp⟩ := h ps rfl
  exact hf ps ps' hp qs hq

/-- one decorator applied to a table that may already have failed -/
def stepE (a : Tab) (d : Decl) : Tab := a.bind fun ps => setParameter k sig ps d

theorem foldl_stepE_error (e : SigErr) : ∀ ds : List Decl, ds.foldl (stepE k sig) (.error e) = .error e
  | [] => rfl
  | _ :: ds => foldl_stepE_error e ds

theorem setAll_eq_foldl : ∀ (ds : List Decl) (ps : List Param),
    setAll k sig ps ds = ds.foldl (stepE k sig) (.ok ps)
  | [], _ => rfl
  | d :: ds, ps => by
      rw [setAll]
      show _ = ds.foldl (stepE k sig) (setParameter k sig ps d)
      cases setParameter k sig ps d with
      | ok ps1 => exact setAll_eq_foldl ds ps1
      | error e => exact (foldl_stepE_error k sig e ds).symm

theorem hasKey_perm {ps ps' : List Param} (h : ps.Perm ps') (key : Key) : hasKey ps key = hasKey ps' key := by
  unfold hasKey
  rw [Bool.eq_iff_iff]
  simp only [List.any_eq_true]
  exact ⟨fun ⟨p, hp, hk⟩ => ⟨p, h.mem_iff.mp hp, hk⟩, fun ⟨p, hp, hk⟩ => ⟨p, h.mem_iff.mpr hp, hk⟩⟩

theorem setParameter_le {ps ps' : List Param} (h : ps.Perm ps') (d : Decl) :
    Le (setParameter k sig ps d) (setParameter k sig ps' d) := by
  intro qs hq
  obtain ⟨key, pos, hp, hk, rfl⟩ := setParameter_ok k sig hq
  refine ⟨ps' ++ [mkParam k sig d key pos], ?_, h.append_right _⟩
  exact setParameter_eq_ok k sig hp (by rw [← hasKey_perm h key]; exact hk)

theorem stepE_congr (a b : Tab) (d : Decl) (h : Le a b) : Le (stepE k sig a d) (stepE k sig b d) :=
  Le.bind h fun _ _ hp => setParameter_le k sig hp d

theorem hasKey_snoc (ps : List Param) (p : Param) (key : Key) :
    hasKey (ps ++ [p]) key = (hasKey ps key || p.key == key) := by
  simp [hasKey, List.any_append]

theorem stepE_comm (a : Tab) (x y : Decl) :
    Le (stepE k sig (stepE k sig a x) y) (stepE k sig (stepE k sig a y) x) := by
  intro qs hq
  obtain ⟨ps1, hq1, hq⟩ := bind_ok hq
  obtain ⟨ps, rfl, hx⟩ := bind_ok hq1
  obtain ⟨kx, px, hpx, hkx, rfl⟩ := setParameter_ok k sig hx
  obtain ⟨ky, py, hpy, hky, rfl⟩ := setParameter_ok k sig hq
  rw [hasKey_snoc, Bool.or_eq_false_iff] at hky
  obtain ⟨hky1, hne⟩ := hky
  have hne' : (ky == kx) = false := by
    rw [beq_eq_false_iff_ne] at hne ⊢; exact fun e => hne e.symm
  refine ⟨ps ++ [mkParam k sig y ky py] ++ [mkParam k sig x kx px], ?_, ?_⟩
  · show (setParameter k sig ps y).bind (fun ps => setParameter k sig ps x) = _
    rw [setParameter_eq_ok k sig hpy hky1]
    exact setParameter_eq_ok k sig hpx (by rw [hasKey_snoc, hkx]; exact hne')
  · rw [List.append_assoc, List.append_assoc]
    exact List.Perm.append_left ps (List.Perm.swap _ _ _)

/-- the decorators in another order: the same table, if any -/
theorem setAll_perm {ds ds' : List Decl} (h : ds.Perm ds') (ps : List Param) :
    Le (setAll k sig ps ds) (setAll k sig ps ds') := by
  rw [setAll_eq_foldl, setAll_eq_foldl]
  exact Yaql.Lemmas.C05Lists.foldl_perm_of_comm Le (stepE k sig) Le.refl (fun _ _ _ => Le.trans)
    (fun a b d => stepE_congr k sig a b d) (fun a x y => stepE_comm k sig a x y) h _ _ (Le.refl _)

theorem fillOne_le (infer : Name → Option PTy) (key : Key) (n : Name) {ps ps' : List Param} (h : ps.Perm ps') :
    Le (fillOne k sig infer key n ps) (fillOne k sig infer key n ps') := by
  unfold fillOne
  rw [← hasKey_perm h]
  split
  · exact Le.ok h
  · exact setParameter_le k sig h _

theorem fillNames_le (infer : Name → Option PTy) : ∀ (ns : List Name) {ps ps' : List Param}, ps.Perm ps' →
    Le (fillNames k sig infer ps ns) (fillNames k sig infer ps' ns)
  | [], _, _, h => Le.ok h
  | n :: ns, ps, ps', h => by
      rw [fillNames_cons, fillNames_cons]
      exact Le.bind (fillOne_le k sig infer _ n h) fun _ _ h' => fillNames_le infer ns h'

theorem fillSpecial_le (infer : Name → Option PTy) (key : Key) (o : Option Name) {ps ps' : List Param}
    (h : ps.Perm ps') : Le (fillSpecial k sig infer key o ps) (fillSpecial k sig infer key o ps') := by
  cases o with
  | none => exact Le.ok h
  | some n => exact fillOne_le k sig infer key n h

theorem applyConvention_perm (conv : Option (Name → Name)) {ps ps' : List Param} (h : ps.Perm ps') :
    (applyConvention conv ps).Perm (applyConvention conv ps') := by
  cases conv with
  | none => exact h
  | some f => exact h.map _

/-- THE TABLE IS INSENSITIVE TO THE ORDER OF THE DECORATORS: with the decorators applied in any other order
    `get_function_definition` succeeds as well and yields the same entries (a permutation of the table:
    `parameters` is a dict, an entry is found by its key) -/
theorem define_perm {infer : Name → Option PTy} {conv : Option (Name → Name)} {decls decls' : List Decl}
    (hperm : decls.Perm decls') {ps : List Param} (h : define k infer conv sig decls = .ok ps) :
    ∃ ps', define k infer conv sig decls' = .ok ps' ∧ ps.Perm ps' := by
  obtain ⟨ps0, ps1, ps2, ps3, h0, h1, h2, h3, rfl⟩ := define_ok k sig h
  obtain ⟨q0, g0, p0⟩ := setAll_perm k sig hperm [] ps0 h0
  obtain ⟨q1, g1, p1⟩ := fillNames_le k sig infer _ p0 ps1 h1
  obtain ⟨q2, g2, p2⟩ := fillSpecial_le k sig infer _ _ p1 ps2 h2
  obtain ⟨q3, g3, p3⟩ := fillSpecial_le k sig infer _ _ p2 ps3 h3
  exact ⟨applyConvention conv q3, by simp [define, g0, g1, g2, g3], applyConvention_perm conv p3⟩

/-- in particular: under every key the same entry -/
theorem define_perm_find {infer : Name → Option PTy} {conv : Option (Name → Name)} {decls decls' : List Decl}
    (hperm : decls.Perm decls') {ps ps' : List Param} (h : define k infer conv sig decls = .ok ps)
    (h' : define k infer conv sig decls' = .ok ps') (p : Param) : p ∈ ps ↔ p ∈ ps' := by
  obtain ⟨qs, hq, hp⟩ := define_perm k sig hperm h
  rw [h'] at hq
  injection hq with hq
  subst hq
  exact hp.mem_iff

/-! ## non-vacuity, and the contrast -/
namespace Ex
open Yaql.Props.C05.Ex

def kc : Consts := { object := 0, vTrue := 0 }
def ten : Arg := .value (.obj 6 [] 10)
def falseV : Arg := .value (.obj 8 [] 11)

/-- `def f(a, b=10, *, flag=False)` -/
def sigF : PySig :=
  { args := [['a'], ['b']], defaults := [ten], varargs := none, kwonly := [['f', 'l', 'a', 'g']],
    kwdefaults := [(['f', 'l', 'a', 'g'], falseV)], varkw := none }

/-- `@specs.parameter('flag', bool)` and `@specs.parameter('a', D)` -/
def declFlag : Decl := { name := ['f', 'l', 'a', 'g'], ty := .pyclass 8 }
def declA : Decl := { name := ['a'], ty := .pyclass 4 }

def tableF : List Param :=
  [ { key := .name ['a'], name := ['a'], alias := none, position := some 0, default := none,
      ty := .py (.one 0) true [0] },
    { key := .name ['b'], name := ['b'], alias := none, position := some 1, default := some ten,
      ty := .py (.one 6) true [0] },
    { key := .name ['f', 'l', 'a', 'g'], name := ['f', 'l', 'a', 'g'], alias := none, position := none,
      default := some falseV, ty := .py (.one 8) true [0] } ]

example : (define kc inferByName none sigF []).toOption = some tableF := by decide +kernel

example : sigF.Distinct := by unfold PySig.Distinct; decide +kernel

/-- two decorators in both orders: the same entries, listed in the order of decoration -/
example : (define kc inferByName none sigF [declFlag, declA]).toOption.map (·.map (·.name)) =
      some [['f', 'l', 'a', 'g'], ['a'], ['b']] ∧
    (define kc inferByName none sigF [declA, declFlag]).toOption.map (·.map (·.name)) =
      some [['a'], ['f', 'l', 'a', 'g'], ['b']] := by decide +kernel

/-- declaring an argument twice / an argument the payload does not have is refused -/
def errOf (t : Tab) : Option SigErr :=
  match t with
  | .error e => some e
  | .ok _ => none

example : errOf (define kc inferByName none sigF [declA, declA]) = some .duplicate ∧
    errOf (define kc inferByName none sigF [{ name := ['z'] }]) = some .noParameterFound := by decide +kernel

/-- hidden parameters are recognised by their name; the convention fills the missing aliases -/
def sigH : PySig :=
  { args := [['c', 'o', 'n', 't', 'e', 'x', 't'], ['x']], defaults := [], varargs := some ['r'],
    kwonly := [], kwdefaults := [], varkw := some ['k'] }

def tabH : Option (List Param) := (define kc inferByName (some fun n => n ++ ['!']) sigH []).toOption

example : tabH.map (·.map (·.key)) = some [.name ['c', 'o', 'n', 't', 'e', 'x', 't'], .name ['x'], .star, .starstar] ∧
    tabH.map (·.map (·.position)) = some [some 0, some 1, some 2, none] ∧
    tabH.map (·.map (·.ty.isHidden)) = some [true, false, false, false] ∧
    tabH.map (·.map (·.alias)) = some [some ['c', 'o', 'n', 't', 'e', 'x', 't', '!'], some ['x', '!'],
      some ['r', '!'], some ['k', '!']] := by decide +kernel

/-- the default lookup with the keyword-only branch as an `elif` of "the payload has positional defaults" -/
def declaredDefaultElif (sig : PySig) (n : Name) : Option Arg :=
  if !sig.defaults.isEmpty then
    if sig.args.contains n then
      let i := sig.args.idxOf n
      if i + sig.defaults.length >= sig.args.length then
        sig.defaults[i + sig.defaults.length - sig.args.length]?
      else none
    else none
  else alookup n sig.kwdefaults

/-- `f(1)` against the table of `def f(a, b=10, *, flag=False)`: callable; with the default of `flag`
    dropped (what `declaredDefaultElif` records) it is not -/
theorem kwonly_elif_drops_default :
    declaredDefault sigF ['f', 'l', 'a', 'g'] = some falseV ∧
    declaredDefaultElif sigF ['f', 'l', 'a', 'g'] = none ∧
    (mapArgs lat tableF [.value (.obj 6 [0] 1)] []).isSome = true ∧
    (mapArgs lat (tableF.map fun p => { p with default := declaredDefaultElif sigF p.name })
      [.value (.obj 6 [0] 1)] []).isSome = false := by decide +kernel

end Ex

end Yaql.Props.C05Sig
