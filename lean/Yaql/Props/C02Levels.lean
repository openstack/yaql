import Yaql.Model.OpTable
import Yaql.Props.C02Table
/-!
C02, table layer: `levels_contiguous` - in an operator list whose every group holds at least one
real operator (true of the standard lists, kept by `insert_operator`), every group number owns a
key of `precedence_dict`, so the loop `for i in range(1, len(precedence_dict) + 1)` of
`_generate_operator_funcs` reaches every key: no row of the ply tuple is dropped.
-/
namespace Yaql.Props.C02Levels
open Yaql.OpTable Yaql.Props.C02Table

theorem get?_set_eq {α} : ∀ (d : Dict α) (k : Str) (v : α), (d.set k v).get? k = some v
  | [], k, v => by simp [Dict.set, Dict.get?]
  | (k', v') :: rest, k, v => by
    by_cases h : k' = k
    · simp [Dict.set, Dict.get?, h]
    · simp [Dict.set, Dict.get?, h, get?_set_eq rest k v]

theorem get?_set_ne {α} : ∀ (d : Dict α) (k k2 : Str) (v : α), k2 ≠ k → (d.set k v).get? k2 = d.get? k2
  | [], k, k2, v, h => by simp [Dict.set, Dict.get?, Ne.symm h]
  | (k', v') :: rest, k, k2, v, h => by
    by_cases hk : k' = k
    · subst hk; simp [Dict.set, Dict.get?, Ne.symm h]
    · by_cases hk2 : k' = k2
      · subst hk2; simp [Dict.set, Dict.get?, hk]
      · simp [Dict.set, Dict.get?, hk, hk2, get?_set_ne rest k k2 v h]

theorem mem_of_get? {α} : ∀ (d : Dict α) (k : Str) (v : α), d.get? k = some v → (k, v) ∈ d
  | [], k, v, h => by simp [Dict.get?] at h
  | (k', v') :: rest, k, v, h => by
    by_cases hk : k' = k
    · simp [Dict.get?, hk] at h; subst h; simp [hk]
    · simp [Dict.get?, hk] at h; exact List.mem_cons_of_mem _ (mem_of_get? rest k v h)

theorem mem_set {α} : ∀ (d : Dict α) (k : Str) (v : α) (e : Str × α), e ∈ d.set k v → e ∈ d ∨ e = (k, v)
  | [], k, v, e, h => by simpa [Dict.set] using h
  | (k', v') :: rest, k, v, e, h => by
    by_cases hk : k' = k
    · subst hk
      simp only [Dict.set, BEq.rfl, ↓reduceIte, List.mem_cons] at h ⊢
      exact h.elim .inr (.inl ∘ .inr)
    · simp only [Dict.set, beq_iff_eq, hk, ↓reduceIte, List.mem_cons] at h ⊢
      exact h.elim (.inl ∘ .inl) fun h => (mem_set rest k v e h).imp .inr id

/-- some symbol of the table is unary or binary at group `g` -/
def HasLevel (d : Dict OpRec) (g : Nat) : Prop :=
  ∃ sym o, d.get? sym = some o ∧ (o.up.natAbs = g ∨ o.bp.natAbs = g)

/-- no symbol of the table is unary or binary beyond group `n` -/
def Bounded (d : Dict OpRec) (n : Nat) : Prop :=
  ∀ e ∈ d, e.2.up.natAbs ≤ n ∧ e.2.bp.natAbs ≤ n

/-- an operator record other than the name/value pseudo-operator (which gets no group of the table) -/
def realOp : Rec → Bool
  | .op _ ty _ => ty != .nameValue
  | .sep => false

theorem storeRec_eq (st : BuildSt) (sym : Str) (up bp : Int) (nm : Str) (al : Option Str) :
    ∃ nm' n, storeRec st sym up bp nm al = { st with ops := st.ops.set sym ⟨up, bp, nm', al⟩, nextName := n } := by
  unfold storeRec
  repeat' split
  all_goals exact ⟨_, _, rfl⟩

theorem buildStep_op {st st1 : BuildSt} {sym : Str} {ty : OpType} {al : Option Str}
    (h : buildStep st (.op sym ty al) = .ok st1) :
    (ty = .nameValue ∧ st1 = { st with nameValue := some sym }) ∨
    ∃ up bp cur, cur = (st.ops.get? sym).getD ⟨0, 0, [], none⟩ ∧ st1 = storeRec st sym up bp cur.name al ∧ ty ≠ .nameValue ∧
      ((cur.up = 0 ∧ up.natAbs = st.precedence ∧ bp = cur.bp) ∨ (cur.bp = 0 ∧ bp.natAbs = st.precedence ∧ up = cur.up)) := by
  cases ty <;> simp only [buildStep] at h <;> split at h <;> cases h
  case nameValue => exact .inl ⟨rfl, rfl⟩
  all_goals rename_i hz; rw [Decidable.not_not] at hz
  case prefixUnary | suffixUnary => exact .inr ⟨_, _, _, rfl, rfl, nofun, .inl ⟨hz, by simp, rfl⟩⟩
  case binaryLeft | binaryRight => exact .inr ⟨_, _, _, rfl, rfl, nofun, .inr ⟨hz, by simp, rfl⟩⟩

theorem buildStep_spec (st st1 : BuildSt) (r : Rec)
    (hb : Bounded st.ops st.precedence) (h : buildStep st r = .ok st1) :
    (st1.precedence = st.precedence + (if r.isSep then 1 else 0)) ∧
    Bounded st1.ops st1.precedence ∧
    (∀ g, g ≠ 0 → HasLevel st.ops g → HasLevel st1.ops g) ∧
    (realOp r = true → HasLevel st1.ops st.precedence) := by
  cases r with
  | sep =>
    cases h
    exact ⟨rfl, fun e he => ⟨Nat.le_succ_of_le (hb e he).1, Nat.le_succ_of_le (hb e he).2⟩, fun _ _ h => h, nofun⟩
  | op sym ty al =>
    rcases buildStep_op h with ⟨rfl, rfl⟩ | ⟨up, bp, cur, hcur, rfl, hty, hslot⟩
    · exact ⟨rfl, hb, fun _ _ h => h, nofun⟩
    obtain ⟨nm', n, e⟩ := storeRec_eq st sym up bp cur.name al
    rw [e]
    have hcb : cur.up.natAbs ≤ st.precedence ∧ cur.bp.natAbs ≤ st.precedence := by
      cases hg : st.ops.get? sym with
      | none => rw [hcur, hg]; exact ⟨Nat.zero_le _, Nat.zero_le _⟩
      | some o => rw [hcur, hg]; exact hb _ (mem_of_get? _ _ _ hg)
    refine ⟨rfl, fun e he => ?_, ?_, fun _ => ⟨sym, _, get?_set_eq .., hslot.imp (·.2.1) (·.2.1)⟩⟩
    · rcases mem_set _ _ _ _ he with he | rfl
      · exact hb e he
      · rcases hslot with ⟨_, h1, rfl⟩ | ⟨_, h1, rfl⟩
        · exact ⟨Nat.le_of_eq h1, hcb.2⟩
        · exact ⟨hcb.1, Nat.le_of_eq h1⟩
    · intro g hg ⟨s2, o, ho, hl⟩
      by_cases hs : s2 = sym
      · subst hs
        obtain rfl : cur = o := by rw [hcur, ho]; rfl
        refine ⟨s2, _, get?_set_eq .., ?_⟩
        -- the slot that was overwritten was empty, and `g ≠ 0`
        rcases hslot with ⟨h0, _, rfl⟩ | ⟨h0, _, rfl⟩
        · exact hl.imp (fun hl => by rw [h0] at hl; exact absurd hl.symm hg) id
        · exact hl.imp id (fun hl => by rw [h0] at hl; exact absurd hl.symm hg)
      · exact ⟨s2, o, by rw [get?_set_ne _ _ _ _ hs]; exact ho, hl⟩

def groupHasReal (g : List Rec) : Prop := ∃ r ∈ g, realOp r = true

/-- every group of the list holds at least one operator that is not the name/value pseudo-operator -/
def Populated (ops : OpList) : Prop := ∀ g ∈ splitGroups ops, groupHasReal g

theorem buildFrom_spec : ∀ (ops : OpList) (st st' : BuildSt), 1 ≤ st.precedence →
    Bounded st.ops st.precedence → buildFrom st ops = .ok st' →
    st'.precedence = st.precedence + countSeps ops ∧ Bounded st'.ops st'.precedence ∧
    (∀ g, g ≠ 0 → HasLevel st.ops g → HasLevel st'.ops g) ∧
    (∀ j g, (splitGroups ops)[j]? = some g → groupHasReal g → HasLevel st'.ops (st.precedence + j))
  | [], st, st', hp, hb, h => by
    cases h
    refine ⟨rfl, hb, fun _ _ h => h, fun j g hj ⟨r, hr, _⟩ => ?_⟩
    cases j <;> simp [splitGroups] at hj
    subst hj; cases hr
  | r :: rs, st, st', hp, hb, h => by
    simp only [buildFrom] at h
    split at h
    · rename_i st1 hs
      obtain ⟨a1, a2, a3, a4⟩ := buildStep_spec st st1 r hb hs
      obtain ⟨b1, b2, b3, b4⟩ := buildFrom_spec rs st1 st' (by rw [a1]; omega) a2 h
      rw [a1] at b1 b4
      refine ⟨?_, b2, fun g hg hl => b3 g hg (a3 g hg hl), fun j g hj hr => ?_⟩
      · cases r <;> simp [countSeps, Rec.isSep, Rec.isOp] at b1 ⊢ <;> omega
      cases r with
      | sep =>
        cases j with
        | zero => cases hj; obtain ⟨_, hr, _⟩ := hr; cases hr
        | succ j =>
          have := b4 j g hj hr
          simp only [Rec.isSep, Rec.isOp, Bool.not_false, ↓reduceIte] at this
          rwa [Nat.add_assoc, Nat.add_comm 1] at this
      | op s t al =>
        obtain ⟨g0, gs, h1, h2⟩ := splitGroups_op s t al rs
        simp only [Rec.isSep, Rec.isOp, Bool.not_true, Bool.false_eq_true, ↓reduceIte, Nat.add_zero] at b4
        rw [h2] at hj
        rw [h1] at b4
        cases j with
        | zero =>
          cases hj
          obtain ⟨r, hrm, hreal⟩ := hr
          rcases List.mem_cons.mp hrm with rfl | hrm
          · exact b3 _ (by omega) (a4 hreal)
          · exact b4 0 g0 rfl ⟨r, hrm, hreal⟩
        | succ j => exact b4 (j + 1) g hj hr
    · cases h

/-- **every group number owns an operator of the built table, and no operator lies beyond the last group** -/
theorem build_levels (ops : OpList) (tab : Table) (hpop : Populated ops) (h : buildOperatorTable ops = .ok tab) :
    (∀ g, 1 ≤ g → g ≤ (splitGroups ops).length → HasLevel tab.ops g) ∧
    Bounded tab.ops (splitGroups ops).length := by
  simp only [buildOperatorTable] at h
  split at h
  · rename_i st hs
    injection h with h; subst h
    obtain ⟨b1, b2, _, b4⟩ := buildFrom_spec ops {} st (by simp) nofun hs
    refine ⟨?_, ?_⟩
    · intro g hg1 hg2
      have hj : g - 1 < (splitGroups ops).length := by omega
      have := b4 (g - 1) _ (List.getElem?_eq_getElem hj) (hpop _ (List.getElem_mem hj))
      have e : ({} : BuildSt).precedence + (g - 1) = g := by simp; omega
      rwa [e] at this
    · rw [length_splitGroups, ← show st.precedence = countSeps ops + 1 by rw [b1]; simp; omega]
      exact b2
  · simp at h

def HasKey (d : PDict) (k : PKey) : Prop := ∃ names, (k, names) ∈ d

theorem hasKey_cons (e : PKey × List Str) (d : PDict) (k : PKey) : HasKey (e :: d) k ↔ k = e.1 ∨ HasKey d k := by
  obtain ⟨k', v⟩ := e
  simp [HasKey, exists_or]

theorem hasKey_extend : ∀ (d : PDict) (k : PKey) (ns : List Str) (k2 : PKey),
    HasKey (d.extend k ns) k2 ↔ HasKey d k2 ∨ k2 = k
  | [], k, ns, k2 => by simp [PDict.extend, HasKey]
  | (k', v) :: rest, k, ns, k2 => by
    by_cases hk : k' = k
    · subst hk
      simp only [PDict.extend, BEq.rfl, ↓reduceIte, hasKey_cons]
      exact ⟨fun h => .inl h, fun h => h.elim id .inl⟩
    · have hbeq : (k' == k) = false := by simpa using hk
      simp only [PDict.extend, hbeq, Bool.false_eq_true, ↓reduceIte, hasKey_cons, hasKey_extend rest k ns k2, or_assoc]

/-- keys contributed by one table record -/
def keysOf (o : OpRec) (k : PKey) : Prop := (o.up ≠ 0 ∧ k = unaryKey o) ∨ (o.bp ≠ 0 ∧ k = binaryKey o)

theorem hasKey_funcsStep (f : Funcs) (o : OpRec) (k : PKey) :
    HasKey (funcsStep f o).pdict k ↔ HasKey f.pdict k ∨ keysOf o k := by
  unfold funcsStep pdictStep keysOf
  by_cases hu : o.up ≠ 0 <;> by_cases hb : o.bp ≠ 0 <;> simp [hu, hb, hasKey_extend, or_assoc]

theorem hasKey_foldl : ∀ (l : List OpRec) (f : Funcs) (k : PKey),
    HasKey (l.foldl funcsStep f).pdict k ↔ HasKey f.pdict k ∨ ∃ o ∈ l, keysOf o k
  | [], f, k => by simp
  | o :: l, f, k => by
    simp only [List.foldl_cons, hasKey_foldl l (funcsStep f o) k, hasKey_funcsStep, List.mem_cons,
      exists_eq_or_imp, or_assoc]

theorem hasKey_funcsOf (t : Table) (k : PKey) :
    HasKey (funcsOf t).pdict k ↔ ∃ sym o, (sym, o) ∈ t.ops ∧ keysOf o k := by
  rw [funcsOf, hasKey_foldl]
  simp only [HasKey, List.not_mem_nil, exists_false, false_or, List.mem_map, Prod.exists]
  exact ⟨fun ⟨_, ⟨a, o, h, rfl⟩, hk⟩ => ⟨a, o, h, hk⟩, fun ⟨a, o, h, hk⟩ => ⟨o, ⟨a, o, h, rfl⟩, hk⟩⟩

/-- a list of numbers that contains every one of `1..n` has at least `n` entries -/
theorem length_ge_of_covers : ∀ (n : Nat) (l : List Nat), (∀ g, 1 ≤ g → g ≤ n → g ∈ l) → n ≤ l.length
  | 0, _, _ => Nat.zero_le _
  | n + 1, l, h => by
    have hm : n + 1 ∈ l := h (n + 1) (by omega) (Nat.le_refl _)
    have := length_ge_of_covers n (l.erase (n + 1)) (fun g h1 h2 =>
      (List.mem_erase_of_ne (by omega)).mpr (h g h1 (by omega)))
    rw [List.length_erase_of_mem hm] at this
    have : 0 < l.length := List.length_pos_of_mem hm
    omega

/-- **C02.levels_contiguous.**  For an operator list whose every group holds a real operator, and
the table `_build_operator_table` makes of it: every group number `1..max` owns a key of the
precedence dictionary, and every key's level lies in `1..len(dict)` - the hypothesis under which
`for i in range(1, len(precedence_dict) + 1)` visits every key. -/
theorem levels_contiguous (ops : OpList) (tab : Table) (hpop : Populated ops)
    (h : buildOperatorTable ops = .ok tab) :
    (∀ g, 1 ≤ g → g ≤ (splitGroups ops).length → ∃ side, HasKey (funcsOf tab).pdict (g, side)) ∧
    (∀ k, HasKey (funcsOf tab).pdict k → 1 ≤ k.1 ∧ k.1 ≤ (funcsOf tab).pdict.length) := by
  obtain ⟨hl, hb⟩ := build_levels ops tab hpop h
  have hcover : ∀ g, 1 ≤ g → g ≤ (splitGroups ops).length → ∃ side, HasKey (funcsOf tab).pdict (g, side) := by
    intro g h1 h2
    obtain ⟨sym, o, ho, hlev⟩ := hl g h1 h2
    have hk : ∃ side, keysOf o (g, side) := by
      rcases hlev with rfl | rfl
      · exact ⟨_, .inl ⟨fun h0 => absurd (h0 ▸ h1) (by decide), rfl⟩⟩
      · exact ⟨_, .inr ⟨fun h0 => absurd (h0 ▸ h1) (by decide), rfl⟩⟩
    exact hk.imp fun side hk => (hasKey_funcsOf tab _).mpr ⟨sym, o, mem_of_get? _ _ _ ho, hk⟩
  refine ⟨hcover, ?_⟩
  have hlen : (splitGroups ops).length ≤ (funcsOf tab).pdict.length := by
    have := length_ge_of_covers (splitGroups ops).length ((funcsOf tab).pdict.map (·.1.1)) (by
      intro g h1 h2
      obtain ⟨side, names, hm⟩ := hcover g h1 h2
      exact List.mem_map.mpr ⟨((g, side), names), hm, rfl⟩)
    simpa using this
  intro k hk
  obtain ⟨sym, o, hm, hko⟩ := (hasKey_funcsOf tab k).mp hk
  obtain ⟨b1, b2⟩ : o.up.natAbs ≤ _ ∧ o.bp.natAbs ≤ _ := hb _ hm
  rcases hko with ⟨h0, rfl⟩ | ⟨h0, rfl⟩
  · simp only [unaryKey]
    exact ⟨by omega, by omega⟩
  · simp only [binaryKey]
    exact ⟨by omega, by omega⟩

/-! ### `Populated` is kept by `insert_operator` -/

theorem mem_modify {α} (f : α → α) (l : List α) (i : Nat) (x : α) (h : x ∈ l.modify i f) :
    x ∈ l ∨ ∃ y ∈ l, x = f y := by
  by_cases hi : i < l.length
  · rw [List.modify_eq_take_cons_drop hi, List.mem_append, List.mem_cons] at h
    rcases h with h | rfl | h
    · exact .inl (List.mem_of_mem_take h)
    · exact .inr ⟨l[i], List.getElem_mem hi, rfl⟩
    · exact .inl (List.mem_of_mem_drop h)
  · rw [List.modify_eq_self (by omega)] at h; exact .inl h

theorem mem_insertIdx' {α} (a : α) (l : List α) (i : Nat) (x : α) (h : x ∈ l.insertIdx i a) : x = a ∨ x ∈ l := by
  by_cases hi : i ≤ l.length
  · exact (List.mem_insertIdx hi).1 h
  · rw [List.insertIdx_of_length_lt (by omega)] at h; exact .inr h

theorem populated_tidy {ops : OpList} (h : Populated ops) : Tidy ops := by
  intro g hg he
  obtain ⟨r, hr, _⟩ := h g hg
  rw [he] at hr; simp at hr

/-- **reachability**: `insert_operator` (of anything but a new group made of the name/value
pseudo-operator alone) keeps every group populated, so `levels_contiguous` holds for every table
reachable from the standard ones by inserts -/
theorem populated_insert (ops : OpList) (hp : Populated ops) (ex : Option Str) (bin : Bool) (sym : Str)
    (ty : OpType) (cg : Bool) (al : Option Str) (r : OpList) (hty : cg = true → ty ≠ .nameValue)
    (h : insertOperator ops ex bin sym ty cg al = .ok r) : Populated r := by
  have hnew : cg = true → groupHasReal [.op sym ty al] := fun hc =>
    ⟨_, List.mem_singleton_self _, by simpa [realOp] using hty hc⟩
  intro g' hg'
  cases ex with
  | none =>
    obtain ⟨h1, h2⟩ := insert_front ops bin sym ty al
    cases cg with
    | false =>
      obtain rfl : .op sym ty al :: ops = r := Except.ok.inj (h1.symm.trans h)
      obtain ⟨g, gs, e1, e2⟩ := splitGroups_op sym ty al ops
      rw [Populated, e1] at hp
      rw [e2] at hg'
      rcases List.mem_cons.mp hg' with rfl | hg'
      · obtain ⟨x, hx, hxr⟩ := hp g (List.mem_cons_self ..)
        exact ⟨x, List.mem_cons_of_mem _ hx, hxr⟩
      · exact hp g' (List.mem_cons_of_mem _ hg')
    | true =>
      obtain ⟨r', hr', hs⟩ := h2 (populated_tidy hp)
      obtain rfl : r' = r := Except.ok.inj (hr'.symm.trans h)
      rw [hs] at hg'
      exact (List.mem_cons.mp hg').elim (· ▸ hnew rfl) (hp g')
  | some e =>
    cases hf : findExisting e bin ops 0 with
    | none => simp [insertOperator, hf] at h
    | some i =>
      cases cg with
      | false =>
        rw [insert_same_group ops e bin sym ty al i r hf h] at hg'
        rcases mem_modify _ _ _ _ hg' with hm | ⟨y, hy, rfl⟩
        · exact hp g' hm
        · obtain ⟨x, hx, hxr⟩ := hp y hy
          exact ⟨x, List.mem_append_left _ hx, hxr⟩
      | true =>
        rw [insert_new_group ops (populated_tidy hp) e bin sym ty al i r hf h] at hg'
        exact (mem_insertIdx' _ _ _ _ hg').elim (· ▸ hnew rfl) (hp g')

/-- the operator lists reachable from `base` by successful `insert_operator` calls that do not put the
name/value pseudo-operator into a group of its own -/
inductive Reachable (base : OpList) : OpList → Prop
  | base : Reachable base base
  | insert {ops r : OpList} (ex : Option Str) (bin : Bool) (sym : Str) (ty : OpType) (cg : Bool) (al : Option Str) :
      Reachable base ops → (cg = true → ty ≠ .nameValue) →
      insertOperator ops ex bin sym ty cg al = .ok r → Reachable base r

theorem reachable_populated {base ops : OpList} (hb : Populated base) (h : Reachable base ops) : Populated ops := by
  induction h with
  | base => exact hb
  | insert ex bin sym ty cg al _ hty hi ih => exact populated_insert _ ih ex bin sym ty cg al _ hty hi

instance (g : List Rec) : Decidable (groupHasReal g) := by unfold groupHasReal; exact inferInstance
instance (ops : OpList) : Decidable (Populated ops) := by unfold Populated; exact inferInstance

/-- the standard operator lists (default factory with `=>`, no keyword operator, legacy) are populated -/
theorem standard_populated :
    Populated (factoryOperators (some ['=', '>'])) ∧ Populated (factoryOperators none) ∧
    (∀ l, legacyOperators = .ok l → Populated l) := by
  refine ⟨by decide, by decide, ?_⟩
  intro l h
  exact populated_insert _ (by decide) _ _ _ _ _ _ _ (by simp) h

end Yaql.Props.C02Levels
