import Yaql.Model.ConvertId
import Yaql.Props.C10
/-!
C09 - evaluation has no side effects on host data, context or statement.

This file: the two data converters over Python objects **with allocation identities**
(`Model/ConvertId.lean`).  Aliasing is modelled with identities carried by the container nodes of a
value, not with a heap: a converter cannot *write* to its argument in this model at all (it is a pure
function of it - the real code's lack of writes is what `C09Gen.no_param_mutation` and the dynamic
snapshot oracle check); what the theorems decide is which **objects of the argument are still
reachable from the result**, i.e. whether the host, by changing its data later, changes a value yaql
holds, and whether a caller, by changing the result, changes host data.
-/
namespace Yaql.Props.C09
open Yaql.Convert
open Yaql.Props.C10 (outKind buildsSet map_eq_ok bind_eq_ok ite_error_eq_ok convOut_map convOut_seq convElems_cons
  convPairs_cons)

/-! ## the identity-carrying converters are the C10 converters -/

mutual
theorem convInI_erase : ∀ (n : Nat) (x : Obj), erase (convInI n x).1 = convIn (erase x)
  | n, .sc s => by simp [convInI, erase, convIn]
  | n, .seq id k l => by
      have ih := convInIL_erase (n + 1) l
      simp only [convInI, erase, convIn]
      by_cases h : (inKind k == .iter) = true
      · have hk : inKind k = .iter := by simpa using h
        simp [erase, ih, hk]
      · simp [h, erase, ih]
  | n, .map id k kvs => by
      have ih := convInIP_erase (n + 1) kvs
      simp [convInI, erase, convIn, ih]
  | n, .lazyMap id src l => by
      have ih := convInIL_erase (n + 1) l
      simp [convInI, erase, convIn, ih, inKind]
theorem convInIL_erase : ∀ (n : Nat) (l : List Obj), eraseL (convInIL n l).1 = convInL (eraseL l)
  | n, [] => by simp [convInIL, eraseL, convInL]
  | n, x :: xs => by
      simp [convInIL, eraseL, convInL, convInI_erase n x, convInIL_erase (convInI n x).2 xs]
theorem convInIP_erase : ∀ (n : Nat) (l : List (Obj × Obj)), eraseP (convInIP n l).1 = convInP (eraseP l)
  | n, [] => by simp [convInIP, eraseP, convInP]
  | n, (k, v) :: r => by
      simp [convInIP, eraseP, convInP, convInI_erase n k, convInI_erase (convInI n k).2 v,
        convInIP_erase (convInI (convInI n k).2 v).2 r]
end

/-! ## `convert_input_data`: what the result is made of -/

theorem range_node {n n' : Nat} {ids : List Nat} (h : n + 1 ≤ n' ∧ ∀ i ∈ ids, n + 1 ≤ i ∧ i < n') :
    n ≤ n' ∧ ∀ i ∈ n :: ids, n ≤ i ∧ i < n' := by
  refine ⟨by omega, fun i hi => ?_⟩
  rcases List.mem_cons.mp hi with rfl | hi
  · omega
  · have := h.2 i hi; omega

theorem range_append {n m n' : Nat} {a b : List Nat} (ha : n ≤ m ∧ ∀ i ∈ a, n ≤ i ∧ i < m)
    (hb : m ≤ n' ∧ ∀ i ∈ b, m ≤ i ∧ i < n') : n ≤ n' ∧ ∀ i ∈ a ++ b, n ≤ i ∧ i < n' := by
  refine ⟨by omega, fun i hi => ?_⟩
  rcases List.mem_append.mp hi with hi | hi
  · have := ha.2 i hi; omega
  · have := hb.2 i hi; omega

mutual
/-- every object of the result was allocated by this call: its identities fill `[n, n')` -/
theorem convInI_range : ∀ (n : Nat) (x : Obj),
    n ≤ (convInI n x).2 ∧ ∀ i ∈ nodeIds (convInI n x).1, n ≤ i ∧ i < (convInI n x).2
  | n, .sc s => by simp [convInI, nodeIds]
  | n, .seq id k l => by
      have := range_node (convInIL_range (n + 1) l)
      simp only [convInI]
      split <;> exact this
  | n, .map id k kvs => range_node (convInIP_range (n + 1) kvs)
  | n, .lazyMap id src l => range_node (convInIL_range (n + 1) l)
theorem convInIL_range : ∀ (n : Nat) (l : List Obj),
    n ≤ (convInIL n l).2 ∧ ∀ i ∈ nodeIdsL (convInIL n l).1, n ≤ i ∧ i < (convInIL n l).2
  | n, [] => by simp [convInIL, nodeIdsL]
  | n, x :: xs => range_append (convInI_range n x) (convInIL_range (convInI n x).2 xs)
theorem convInIP_range : ∀ (n : Nat) (l : List (Obj × Obj)),
    n ≤ (convInIP n l).2 ∧ ∀ i ∈ nodeIdsP (convInIP n l).1, n ≤ i ∧ i < (convInIP n l).2
  | n, [] => by simp [convInIP, nodeIdsP]
  | n, (k, v) :: r =>
      range_append (range_append (convInI_range n k) (convInI_range (convInI n k).2 v))
        (convInIP_range (convInI (convInI n k).2 v).2 r)
end

theorem append_subset_append {a a' b b' : List Nat} (ha : a ⊆ a') (hb : b ⊆ b') : a ++ b ⊆ a' ++ b' :=
  List.append_subset.mpr ⟨List.subset_append_of_subset_left _ ha, List.subset_append_of_subset_right _ hb⟩

mutual
/-- the only references into the argument are the sources of lazily wrapped iterables -/
theorem convInI_src : ∀ (n : Nat) (x : Obj), ∀ i ∈ srcRefs (convInI n x).1, i ∈ nodeIds x
  | n, .sc s => by simp [convInI, srcRefs]
  | n, .seq id k l => by
      have ih : srcRefsL (convInIL (n + 1) l).1 ⊆ nodeIdsL l := convInIL_src (n + 1) l
      simp only [convInI]
      split
      · exact List.cons_subset_cons id ih
      · exact List.subset_cons_of_subset id ih
  | n, .map id k kvs => List.subset_cons_of_subset id (convInIP_src (n + 1) kvs)
  | n, .lazyMap id src l => List.cons_subset_cons id (convInIL_src (n + 1) l)
theorem convInIL_src : ∀ (n : Nat) (l : List Obj), ∀ i ∈ srcRefsL (convInIL n l).1, i ∈ nodeIdsL l
  | n, [] => by simp [convInIL, srcRefsL]
  | n, x :: xs => append_subset_append (convInI_src n x) (convInIL_src _ xs)
theorem convInIP_src : ∀ (n : Nat) (l : List (Obj × Obj)), ∀ i ∈ srcRefsP (convInIP n l).1, i ∈ nodeIdsP l
  | n, [] => by simp [convInIP, srcRefsP]
  | n, (k, v) :: r =>
      append_subset_append (append_subset_append (convInI_src n k) (convInI_src _ v)) (convInIP_src _ r)
end

theorem inKind_eager {k : SeqKind} (h : k.isEager = true) :
    (inKind k == .iter) = false ∧ (inKind k).isFrozen = true := by
  cases k <;> simp_all [SeqKind.isEager, inKind, SeqKind.isFrozen]

mutual
/-- a document of lists / tuples / dicts / sets / scalars is converted into frozen containers only, and
    the result holds no reference to any object of the document -/
theorem convInI_frozen : ∀ (n : Nat) (x : Obj), eagerDoc x = true →
    frozen (convInI n x).1 = true ∧ srcRefs (convInI n x).1 = []
  | n, .sc s, _ => by simp [convInI, frozen, srcRefs]
  | n, .seq id k l, h => by
      simp only [eagerDoc, Bool.and_eq_true] at h
      obtain ⟨f, s⟩ := convInIL_frozen (n + 1) l h.2
      obtain ⟨k1, k2⟩ := inKind_eager h.1
      simp [convInI, k1, frozen, srcRefs, k2, f, s]
  | n, .map id k kvs, h => by
      simp only [eagerDoc] at h
      obtain ⟨f, s⟩ := convInIP_frozen (n + 1) kvs h
      simp [convInI, frozen, srcRefs, f, s]
  | n, .lazyMap id src l, h => by simp [eagerDoc] at h
theorem convInIL_frozen : ∀ (n : Nat) (l : List Obj), eagerDocL l = true →
    frozenL (convInIL n l).1 = true ∧ srcRefsL (convInIL n l).1 = []
  | n, [], _ => by simp [convInIL, frozenL, srcRefsL]
  | n, x :: xs, h => by
      simp only [eagerDocL, Bool.and_eq_true] at h
      obtain ⟨a1, a2⟩ := convInI_frozen n x h.1
      obtain ⟨b1, b2⟩ := convInIL_frozen (convInI n x).2 xs h.2
      simp [convInIL, frozenL, srcRefsL, a1, a2, b1, b2]
theorem convInIP_frozen : ∀ (n : Nat) (l : List (Obj × Obj)), eagerDocP l = true →
    frozenP (convInIP n l).1 = true ∧ srcRefsP (convInIP n l).1 = []
  | n, [], _ => by simp [convInIP, frozenP, srcRefsP]
  | n, (k, v) :: r, h => by
      simp only [eagerDocP, Bool.and_eq_true] at h
      obtain ⟨a1, a2⟩ := convInI_frozen n k h.1.1
      obtain ⟨b1, b2⟩ := convInI_frozen (convInI n k).2 v h.1.2
      obtain ⟨c1, c2⟩ := convInIP_frozen (convInI (convInI n k).2 v).2 r h.2
      simp [convInIP, frozenP, srcRefsP, a1, a2, b1, b2, c1, c2]
end

mutual
/-- opaque host objects (anything that is not a str / Sequence / Mapping / MutableSet / Iterable) are
    passed on as they are, each exactly where it was -/
theorem convInI_host : ∀ (n : Nat) (x : Obj), hostLeaves (convInI n x).1 = hostLeaves x
  | n, .sc s => by simp [convInI]
  | n, .seq id k l => by
      have ih := convInIL_host (n + 1) l
      simp only [convInI]
      by_cases h : (inKind k == .iter) = true <;> simp [h, hostLeaves, ih]
  | n, .map id k kvs => by simp [convInI, hostLeaves, convInIP_host (n + 1) kvs]
  | n, .lazyMap id src l => by simp [convInI, hostLeaves, convInIL_host (n + 1) l]
theorem convInIL_host : ∀ (n : Nat) (l : List Obj), hostLeavesL (convInIL n l).1 = hostLeavesL l
  | n, [] => by simp [convInIL]
  | n, x :: xs => by simp [convInIL, hostLeavesL, convInI_host n x, convInIL_host _ xs]
theorem convInIP_host : ∀ (n : Nat) (l : List (Obj × Obj)), hostLeavesP (convInIP n l).1 = hostLeavesP l
  | n, [] => by simp [convInIP]
  | n, (k, v) :: r => by
      simp [convInIP, hostLeavesP, convInI_host n k, convInI_host _ v, convInIP_host _ r]
end

/-- **C09.convert_input_fresh** (all documents, all depths).  For every Python object `d` and every
    allocator state `n` above the identities of `d`: the value `convert_input_data(d)` binds to `$`
    (1) has the content C10's model gives, (2) consists of objects allocated by this call only - no
    object of `d` is a node of it -, (3) refers to objects of `d` at most as the source of a lazily
    wrapped iterable, and (4) if `d` is a document of lists / tuples / dicts / sets / scalars - the
    property's quantifier - contains **no mutable object at all** (tuples, FrozenDicts, frozensets and
    scalars only) and no reference to any object of `d`.  The converter is a function of `d`: the
    document itself is not an output of it (nothing is written; see `C09Gen.no_param_mutation` for the
    real code). -/
theorem convert_input_fresh (n : Nat) (d : Obj) (hd : ∀ i ∈ nodeIds d, i < n) :
    erase (convInI n d).1 = convIn (erase d) ∧
    (∀ i ∈ nodeIds (convInI n d).1, i ∉ nodeIds d ∧ n ≤ i ∧ i < (convInI n d).2) ∧
    (∀ i ∈ srcRefs (convInI n d).1, i ∈ nodeIds d) ∧
    (eagerDoc d = true → frozen (convInI n d).1 = true ∧ srcRefs (convInI n d).1 = []) := by
  refine ⟨convInI_erase n d, ?_, convInI_src n d, convInI_frozen n d⟩
  intro i hi
  have := (convInI_range n d).2 i hi
  refine ⟨fun hmem => ?_, this⟩
  have := hd i hmem
  omega

/-- the guard of (4) is needed: a host **generator** (or frozenset, or dict view) is wrapped, not copied -
    the `$` value holds the host's object and pulling it consumes the host's generator.  Outside the
    property's quantifier (lists, dicts, sets), modelled as implemented. -/
theorem convert_input_lazy_holds_source :
    let d : Obj := .seq 0 .list [.seq 1 .iter [.sc (.int 1)]]
    srcRefs (convInI 2 d).1 = [1] ∧ frozen (convInI 2 d).1 = false := by
  decide +kernel

example : eagerDoc (.map 0 .dict [(.sc (.str ['a']), .seq 1 .list [.seq 2 .set [.sc (.int 1)], .seq 3 .tuple []])]) = true ∧
    (convInI 4 (.map 0 .dict [(.sc (.str ['a']), .seq 1 .list [.seq 2 .set [.sc (.int 1)], .seq 3 .tuple []])])).1
      = .map 4 .fdict [(.sc (.str ['a']), .seq 5 .tuple [.seq 6 .fset [.sc (.int 1)], .seq 7 .tuple []])] :=
  ⟨by decide +kernel, rfl⟩

/-! ## `convert_output_data` -/

def eraseR : Except Err (Obj × Nat) → Except Err Py
  | .ok p => .ok (erase p.1)
  | .error e => .error e
def eraseRL : Except Err (List Obj × Nat) → Except Err (List Py)
  | .ok p => .ok (eraseL p.1)
  | .error e => .error e
def eraseRP : Except Err (List (Obj × Obj) × Nat) → Except Err (List (Py × Py))
  | .ok p => .ok (eraseP p.1)
  | .error e => .error e

theorem eraseL_length : ∀ l : List Obj, (eraseL l).length = l.length
  | [] => rfl
  | _ :: xs => by simp [eraseL, eraseL_length xs]
theorem eraseP_length : ∀ l : List (Obj × Obj), (eraseP l).length = l.length
  | [] => rfl
  | (_, _) :: xs => by simp [eraseP, eraseP_length xs]

/-! The finaliser with identities in the same normal form as `C10.convOut_seq` etc. -/

theorem convOutI_map (o : Opts) (lim : Limit) (n id : Nat) (mk : MapKind) (kvs : List (Obj × Obj)) :
    convOutI o lim n (.map id mk kvs) =
      if lim.admits kvs.length then (convPairsI o lim (n + 1) kvs).map fun p => (.map n .dict p.1, p.2)
      else .error .tooLarge := by
  rw [convOutI]; cases convPairsI o lim (n + 1) kvs <;> rfl

theorem convOutI_seq (o : Opts) (lim : Limit) (n id : Nat) (k : SeqKind) (l : List Obj) :
    convOutI o lim n (.seq id k l) =
      if k.sized && !lim.admits l.length then .error .tooLarge
      else (convElemsI o lim (buildsSet k && !o.s2l) (if k.sized then none else lim) (n + 1) l).map
        fun p => (.seq n (outKind o k) p.1, p.2) := by
  rw [convOutI]
  cases k <;> cases lim.admits l.length <;>
    simp [SeqKind.sized, SeqKind.isView, SeqKind.isSetLike, SeqKind.isSeq, buildsSet, outKind] <;>
    split <;> simp [*, Except.map]

theorem convOutI_lazy (o : Opts) (lim : Limit) (n id src : Nat) (l : List Obj) :
    convOutI o lim n (.lazyMap id src l) =
      (convElemsI o lim false lim (n + 1) l).map fun p => (.seq n .list p.1, p.2) := by
  rw [convOutI]; cases convElemsI o lim false lim (n + 1) l <;> rfl

theorem convElemsI_cons (o : Opts) (lim : Limit) (nh : Bool) (b : Option Nat) (n : Nat) (x : Obj) (xs : List Obj) :
    convElemsI o lim nh b n (x :: xs) =
      if b == some 0 then .error .tooLarge else
      (convOutI o lim n x).bind fun a =>
        if nh && !hashableO a.1 then .error .unhashable else
        (convElemsI o lim nh (b.map (· - 1)) a.2 xs).map fun r => (a.1 :: r.1, r.2) := by
  rw [convElemsI]
  cases convOutI o lim n x with
  | error e => rfl
  | ok a => dsimp only [Except.bind]; cases convElemsI o lim nh (b.map (· - 1)) a.2 xs <;> rfl

theorem convPairsI_cons (o : Opts) (lim : Limit) (n : Nat) (k v : Obj) (r : List (Obj × Obj)) :
    convPairsI o lim n ((k, v) :: r) =
      (convOutI o lim n v).bind fun a => (convOutI o lim a.2 k).bind fun b =>
        if !hashableO b.1 then .error .unhashable else
        (convPairsI o lim b.2 r).map fun c => ((b.1, a.1) :: c.1, c.2) := by
  rw [convPairsI]
  cases convOutI o lim n v with
  | error e => rfl
  | ok a =>
    dsimp only [Except.bind]
    cases convOutI o lim a.2 k with
    | error e => rfl
    | ok b => dsimp only; cases convPairsI o lim b.2 r <;> rfl

mutual
/-- forgetting identities, the finaliser with identities is C10's finaliser (same result, same error) -/
theorem convOutI_erase (o : Opts) (lim : Limit) : ∀ (n : Nat) (x : Obj),
    eraseR (convOutI o lim n x) = convOut o lim (erase x)
  | n, .sc s => rfl
  | n, .map id k kvs => by
      rw [convOutI_map, erase, convOut_map, eraseP_length, ← convPairsI_erase o lim (n + 1) kvs]
      cases lim.admits kvs.length
      · rfl
      · cases convPairsI o lim (n + 1) kvs <;> rfl
  | n, .seq id k l => by
      rw [convOutI_seq, erase, convOut_seq, eraseL_length, ← convElemsI_erase o lim _ _ (n + 1) l]
      cases k.sized && !lim.admits l.length
      · cases convElemsI o lim _ _ (n + 1) l <;> rfl
      · rfl
  | n, .lazyMap id src l => by
      rw [convOutI_lazy, erase, convOut_seq]
      show _ = (convElems o lim false lim (eraseL l)).map (Py.seq .list)
      rw [← convElemsI_erase o lim false lim (n + 1) l]
      cases convElemsI o lim false lim (n + 1) l <;> rfl
theorem convElemsI_erase (o : Opts) (lim : Limit) (nh : Bool) : ∀ (b : Option Nat) (n : Nat) (l : List Obj),
    eraseRL (convElemsI o lim nh b n l) = convElems o lim nh b (eraseL l)
  | b, n, [] => rfl
  | b, n, x :: xs => by
      rw [convElemsI_cons, eraseL, convElems_cons, ← convOutI_erase o lim n x]
      cases b == some 0
      · cases convOutI o lim n x with
        | error e => rfl
        | ok a =>
            simp only [Except.bind, eraseR, ← convElemsI_erase o lim nh _ a.2 xs]
            rw [show hashable (erase a.1) = hashableO a.1 from rfl]
            cases nh && !hashableO a.1
            · cases convElemsI o lim nh _ a.2 xs <;> rfl
            · rfl
      · rfl
theorem convPairsI_erase (o : Opts) (lim : Limit) : ∀ (n : Nat) (l : List (Obj × Obj)),
    eraseRP (convPairsI o lim n l) = convPairs o lim (eraseP l)
  | n, [] => rfl
  | n, (k, v) :: r => by
      rw [convPairsI_cons, eraseP, convPairs_cons, ← convOutI_erase o lim n v]
      cases convOutI o lim n v with
      | error e => rfl
      | ok a =>
          simp only [Except.bind, eraseR, ← convOutI_erase o lim a.2 k]
          cases convOutI o lim a.2 k with
          | error e => rfl
          | ok b =>
              simp only [← convPairsI_erase o lim b.2 r]
              rw [show hashable (erase b.1) = hashableO b.1 from rfl]
              cases !hashableO b.1
              · cases convPairsI o lim b.2 r <;> rfl
              · rfl
end

/-- "allocated by this call, nothing borrowed": pairwise distinct identities in `[n, n')`, no lazily held
    source, opaque host leaves only from `hl` -/
structure Fresh (n : Nat) (hl ids srcs hosts : List Nat) (n' : Nat) : Prop where
  le : n ≤ n'
  range : ∀ i ∈ ids, n ≤ i ∧ i < n'
  nodup : ids.Nodup
  srcs : srcs = []
  hosts : ∀ h ∈ hosts, h ∈ hl

theorem Fresh.nil (n : Nat) : Fresh n [] [] [] [] n :=
  ⟨Nat.le_refl _, by simp, List.nodup_nil, rfl, by simp⟩

theorem Fresh.node {n n' : Nat} {hl ids srcs hosts : List Nat} (h : Fresh (n + 1) hl ids srcs hosts n') :
    Fresh n hl (n :: ids) srcs hosts n' :=
  have r := range_node ⟨h.le, h.range⟩
  ⟨r.1, r.2, List.nodup_cons.mpr ⟨fun hm => by have := h.range n hm; omega, h.nodup⟩, h.srcs, h.hosts⟩

theorem Fresh.append {n m n' : Nat} {hl₁ ids₁ srcs₁ hosts₁ hl₂ ids₂ srcs₂ hosts₂ : List Nat}
    (a : Fresh n hl₁ ids₁ srcs₁ hosts₁ m) (b : Fresh m hl₂ ids₂ srcs₂ hosts₂ n') :
    Fresh n (hl₁ ++ hl₂) (ids₁ ++ ids₂) (srcs₁ ++ srcs₂) (hosts₁ ++ hosts₂) n' ∧
    Fresh n (hl₂ ++ hl₁) (ids₂ ++ ids₁) (srcs₂ ++ srcs₁) (hosts₂ ++ hosts₁) n' := by
  have hr := range_append ⟨a.le, a.range⟩ ⟨b.le, b.range⟩
  have hd : ∀ x ∈ ids₁, ∀ y ∈ ids₂, x ≠ y := by
    intro x hx y hy hxy
    have := a.range x hx; have := b.range y hy; omega
  constructor
  · exact ⟨hr.1, hr.2, List.nodup_append.mpr ⟨a.nodup, b.nodup, hd⟩, by simp [a.srcs, b.srcs],
      append_subset_append a.hosts b.hosts⟩
  · exact ⟨hr.1, fun i hi => hr.2 i (by simpa [or_comm] using hi),
      List.nodup_append.mpr ⟨b.nodup, a.nodup, fun x hx y hy h => hd y hy x hx h.symm⟩, by simp [a.srcs, b.srcs],
      append_subset_append b.hosts a.hosts⟩

mutual
theorem convOutI_fresh (o : Opts) (lim : Limit) : ∀ (n : Nat) (x : Obj) (p : Obj × Nat),
    convOutI o lim n x = .ok p →
    Fresh n (hostLeaves x) (nodeIds p.1) (srcRefs p.1) (hostLeaves p.1) p.2
  | n, .sc s, p, h => by
      cases h
      exact ⟨Nat.le_refl _, by simp [nodeIds], by simp [nodeIds], rfl, fun h hh => hh⟩
  | n, .map id k kvs, p, h => by
      rw [convOutI_map] at h
      split at h
      · obtain ⟨q, hq, rfl⟩ := map_eq_ok.mp h
        exact (convPairsI_fresh o lim (n + 1) kvs q hq).node
      · cases h
  | n, .seq id k l, p, h => by
      rw [convOutI_seq] at h
      obtain ⟨q, hq, rfl⟩ := map_eq_ok.mp (ite_error_eq_ok.mp h).2
      exact (convElemsI_fresh o lim _ _ (n + 1) l q hq).node
  | n, .lazyMap id src l, p, h => by
      rw [convOutI_lazy] at h
      obtain ⟨q, hq, rfl⟩ := map_eq_ok.mp h
      exact (convElemsI_fresh o lim _ _ (n + 1) l q hq).node
theorem convElemsI_fresh (o : Opts) (lim : Limit) (nh : Bool) :
    ∀ (b : Option Nat) (n : Nat) (l : List Obj) (p : List Obj × Nat),
    convElemsI o lim nh b n l = .ok p →
    Fresh n (hostLeavesL l) (nodeIdsL p.1) (srcRefsL p.1) (hostLeavesL p.1) p.2
  | b, n, [], p, h => by cases h; exact Fresh.nil n
  | b, n, x :: xs, p, h => by
      rw [convElemsI_cons] at h
      obtain ⟨a, ha, h⟩ := bind_eq_ok.mp (ite_error_eq_ok.mp h).2
      obtain ⟨r, hr, rfl⟩ := map_eq_ok.mp (ite_error_eq_ok.mp h).2
      exact ((convOutI_fresh o lim n x a ha).append (convElemsI_fresh o lim nh _ a.2 xs r hr)).1
theorem convPairsI_fresh (o : Opts) (lim : Limit) :
    ∀ (n : Nat) (l : List (Obj × Obj)) (p : List (Obj × Obj) × Nat),
    convPairsI o lim n l = .ok p →
    Fresh n (hostLeavesP l) (nodeIdsP p.1) (srcRefsP p.1) (hostLeavesP p.1) p.2
  | n, [], p, h => by cases h; exact Fresh.nil n
  | n, (k, v) :: r, p, h => by
      rw [convPairsI_cons] at h
      obtain ⟨a, ha, h⟩ := bind_eq_ok.mp h
      obtain ⟨b, hb, h⟩ := bind_eq_ok.mp h
      obtain ⟨c, hc, rfl⟩ := map_eq_ok.mp (ite_error_eq_ok.mp h).2
      -- the value is converted before the key
      exact (((convOutI_fresh o lim n v a ha).append (convOutI_fresh o lim a.2 k b hb)).2.append
        (convPairsI_fresh o lim b.2 r c hc)).1
end

/-- the finalised result is a tree of pairwise distinct new objects -/
theorem convElemsI_nodup (o : Opts) (lim : Limit) (nh : Bool) :
    ∀ (b : Option Nat) (n : Nat) (l : List Obj) (p : List Obj × Nat),
    convElemsI o lim nh b n l = .ok p → (nodeIdsL p.1).Nodup :=
  fun b n l p h => (convElemsI_fresh o lim nh b n l p h).nodup
theorem convPairsI_nodup (o : Opts) (lim : Limit) :
    ∀ (n : Nat) (l : List (Obj × Obj)) (p : List (Obj × Obj) × Nat),
    convPairsI o lim n l = .ok p → (nodeIdsP p.1).Nodup :=
  fun n l p h => (convPairsI_fresh o lim n l p h).nodup

/-- **C09.convert_output_fresh** (all values, all depths, all four option combinations, every limit).
    Whenever `convert_output_data` succeeds on a value `v` - whatever `v` is made of: raw host lists and
    dicts, yaql's frozen containers, iterators, views - then every container object of the result was
    allocated by this call (identity in `[n, n')`, so none is an object of `v` or of anything that existed
    before), the objects are pairwise distinct (a tree: changing one node of the result changes no other),
    the result holds no lazily wrapped source, and its content is the one C10 proves plain.  Opaque
    non-iterable host objects (`Scalar.host`) are handed out as they are (`else: return obj`) - the only
    objects of `v` that survive, and only those. -/
theorem convert_output_fresh (o : Opts) (lim : Limit) (n : Nat) (v r : Obj) (n' : Nat)
    (h : convOutI o lim n v = .ok (r, n')) :
    n ≤ n' ∧ (∀ i ∈ nodeIds r, n ≤ i ∧ i < n') ∧ (nodeIds r).Nodup ∧ srcRefs r = [] ∧
    (∀ x ∈ hostLeaves r, x ∈ hostLeaves v) ∧ convOut o lim (erase v) = .ok (erase r) := by
  have f := convOutI_fresh o lim n v (r, n') h
  refine ⟨f.le, f.range, f.nodup, f.srcs, f.hosts, ?_⟩
  rw [← convOutI_erase o lim n v, h]; rfl

/-- **C09.convert_output_no_alias_with_conversion_off.**  One evaluation as the host sees it
    (`hostEval`): `$` is bound to the converted data or - `yaql.convertInputData` off - to the host's own
    object `d`; the expression is **any** function of that value (it may return it, parts of it, or new
    containers holding parts of it: raw host lists and dicts flow through); the default `#finalize`
    converts the outcome.  If output conversion is on (the default), the finalised result shares **no
    container object with the host document**, in both input modes, for every option combination:
    `convert_output_data` rebuilds every Mapping (keys and values), every Set, every tuple / list
    (elements included) and every other iterable.  The guard is exact: see `output_conversion_off_aliases`. -/
theorem convert_output_no_alias_with_conversion_off (convertInput : Bool) (o : Opts) (lim : Limit)
    (f : Obj → Nat → Obj × Nat) (hf : ∀ x m, m ≤ (f x m).2)
    (n : Nat) (d : Obj) (hd : ∀ i ∈ nodeIds d, i < n) (r : Obj) (n' : Nat)
    (h : hostEval convertInput true o lim f n d = .ok (r, n')) :
    (∀ i ∈ nodeIds r, i ∉ nodeIds d) ∧ srcRefs r = [] ∧ (nodeIds r).Nodup := by
  simp only [hostEval, finalize, if_true] at h
  obtain ⟨_, h2, h3, h4, _, _⟩ := convert_output_fresh o lim _ _ r n' h
  refine ⟨?_, h4, h3⟩
  intro i hi hmem
  have h5 := (h2 i hi).1
  have h6 := hf (bindDollar convertInput n d).1 (bindDollar convertInput n d).2
  have h7 : n ≤ (bindDollar convertInput n d).2 := by
    unfold bindDollar
    cases convertInput
    · simp
    · simpa using (convInI_range n d).1
  have := hd i hmem
  omega

/-- identities of the container objects of an outcome, and the next free identity -/
def resIds : Except Err (Obj × Nat) → Option (List Nat × Nat)
  | .ok p => some (nodeIds p.1, p.2)
  | .error _ => none

/-- with `yaql.convertInputData` **and** `yaql.convertOutputData` both off, `$` hands the host its own
    list back: the guard "output conversion on" cannot be dropped (modelled as implemented; the engine
    option says what it does) -/
theorem output_conversion_off_aliases :
    resIds (hostEval false false {} none (fun x m => (x, m)) 2 (.seq 0 .list [.map 1 .dict []]))
      = some ([0, 1], 2) := by
  decide +kernel

/-- ... whereas with input conversion on even the unfinalised `$` is a frozen copy sharing nothing -/
theorem output_conversion_off_input_on (o : Opts) (lim : Limit) (n : Nat) (d : Obj)
    (hd : ∀ i ∈ nodeIds d, i < n) (he : eagerDoc d = true) (r : Obj) (n' : Nat)
    (h : hostEval true false o lim (fun x m => (x, m)) n d = .ok (r, n')) :
    frozen r = true ∧ ∀ i ∈ nodeIds r, i ∉ nodeIds d := by
  simp only [hostEval, finalize, bindDollar, if_true, Bool.false_eq_true, if_false, Except.ok.injEq,
    Prod.mk.injEq] at h
  obtain ⟨h1, h2⟩ := h
  subst h1
  obtain ⟨_, c2, _, c4⟩ := convert_input_fresh n d hd
  exact ⟨(c4 he).1, fun i hi => (c2 i hi).1⟩

/-- non-vacuity: conversion off, `$.a` picks the host's own list out of the host's own dict, the result is
    a new list with a new (rebuilt) set inside -/
example :
    resIds (hostEval false true {} none
        (fun x m => match x with | .map _ _ ((_, v) :: _) => (v, m) | y => (y, m)) 3
        (.map 0 .dict [(.sc (.str ['a']), .seq 1 .list [.seq 2 .set [.sc (.int 1)]])]))
      = some ([3, 4], 5) := by
  decide +kernel

end Yaql.Props.C09
