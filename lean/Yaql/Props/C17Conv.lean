import Yaql.Props.C17
import Yaql.Lemmas.C05Lists
import Yaql.Model.ContextHist
import Yaql.Model.RegistryRow
/-!
C17, naming conventions and read purity.

* function collection WITH `use_convention`: every plain context reached converts the requested
  name by its own convention, and the result is again the layer-by-layer collection of the
  statement over the layer list (`collectU_refines`); with `use_convention=False`, without
  conventions, or on a chain with ONE convention the lookup is the literal lookup of the
  (converted) name (`collectU_off`, `collectU_no_convention`, `collectU_uniform`);
* function lookups are a function of what `register_function` / `delete_function` wrote and of
  the conventions - nothing else (`collectU_congr`, `data_writes_invisible`);
* READ PURITY over histories: a read leaves the state alone, so inserting or removing reads
  anywhere in a history changes neither the state nor the answer of any other read
  (`hrun_erase_reads`, `read_insertion_invisible`, `last_read_depends_on_writes`);
* the contrasting design - a layer that remembers how it resolved a requested name, keyed by the
  name alone - is NOT pure (`Ex.memo_reads_not_pure`).
-/
namespace Yaql.Props.C17Conv
open Yaql.Context Yaql.Props.C17

/-! ## the layer list under a convention flag -/

/-- the layer one plain context contributes when asked with `use_convention = uc` -/
def cellLayerU (cv : Convs) (uc : Bool) (c : Nat) (cell : Cell) : Layer :=
  { data := fun n => alookup n cell.data,
    funcs := fun n => cellFuncs cell (lookupName cv uc c n),
    excl := fun n => cell.excl.contains (lookupName cv uc c n) }

mutual
def ownLayerU (cs : Cells) (cv : Convs) (uc : Bool) : Shape → Layer
  | .plain c _ => cellLayerU cv uc c (cs.get c)
  | .multi ms _ => ownLayerUL cs cv uc ms
  | .linked t _ => ownLayerU cs cv uc t
def ownLayerUL (cs : Cells) (cv : Convs) (uc : Bool) : List Shape → Layer
  | [] => Layer.empty
  | m :: ms => (ownLayerU cs cv uc m).merge (ownLayerUL cs cv uc ms)
end

mutual
def layersU (cs : Cells) (cv : Convs) (uc : Bool) : Shape → List Layer
  | .plain c p => cellLayerU cv uc c (cs.get c) :: layersUO cs cv uc p
  | .multi ms p => ownLayerUL cs cv uc ms :: layersUO cs cv uc p
  | .linked t p => ownLayerU cs cv uc t :: layersUO cs cv uc p
def layersUO (cs : Cells) (cv : Convs) (uc : Bool) : Option Shape → List Layer
  | none => []
  | some s => layersU cs cv uc s
end

mutual
theorem getFunctionsU_own (cs : Cells) (cv : Convs) (uc : Bool) (n : Name) :
    ∀ s, getFunctionsU cs cv uc n s = ((ownLayerU cs cv uc s).funcs n, (ownLayerU cs cv uc s).excl n)
  | .plain c p => by simp [getFunctionsU, ownLayerU, cellLayerU]
  | .multi ms p => by simp [getFunctionsU, ownLayerU, getFunctionsUL_own cs cv uc n ms]
  | .linked t p => by simp [getFunctionsU, ownLayerU, getFunctionsU_own cs cv uc n t]
theorem getFunctionsUL_own (cs : Cells) (cv : Convs) (uc : Bool) (n : Name) :
    ∀ ms, getFunctionsUL cs cv uc n ms =
      ((ownLayerUL cs cv uc ms).funcs n, (ownLayerUL cs cv uc ms).excl n)
  | [] => by simp [getFunctionsUL, ownLayerUL, Layer.empty]
  | m :: ms => by
      simp [getFunctionsUL, ownLayerUL, Layer.merge, getFunctionsU_own cs cv uc n m,
        getFunctionsUL_own cs cv uc n ms]
end

mutual
theorem collectAtU_refines (cs : Cells) (cv : Convs) (uc : Bool) (n : Name) :
    ∀ s, collectAtU cs cv uc n s = collectSpec n (layersU cs cv uc s)
  | .plain c p => by
      simp [collectAtU, layersU, collectSpec, cellLayerU, collectFromU_refines cs cv uc n p]
  | .multi ms p => by
      simp [collectAtU, layersU, collectSpec, getFunctionsUL_own, collectFromU_refines cs cv uc n p]
  | .linked t p => by
      simp [collectAtU, layersU, collectSpec, getFunctionsU_own, collectFromU_refines cs cv uc n p]
theorem collectFromU_refines (cs : Cells) (cv : Convs) (uc : Bool) (n : Name) :
    ∀ o, collectFromU cs cv uc n o = collectSpec n (layersUO cs cv uc o)
  | none => by simp [collectFromU, layersUO, collectSpec]
  | some s => by simp [collectFromU, layersUO, collectAtU_refines cs cv uc n s]
end

/-- **function collection under a convention flag** is the collection of the statement (nearest
    layer first, empty layers dropped, stop after an exclusive layer) over the layer list in which
    every plain context answers under the name ITS OWN convention makes of the requested one -/
theorem collectU_refines (cs : Cells) (cv : Convs) (s : Shape) (name : Name) (uc : Bool) :
    collectFunctionsU cs cv s name uc = collectSpec (rstripUnderscore name) (layersU cs cv uc s) := by
  simp [collectFunctionsU, collectFromU, collectAtU_refines]

/-! ## when the convention lookup is a literal lookup -/

mutual
theorem getFunctionsU_key (cs : Cells) (cv : Convs) (uc : Bool) (n k : Name) :
    ∀ s, (∀ c ∈ delCells s, lookupName cv uc c n = k) →
      getFunctionsU cs cv uc n s = getFunctions cs k s
  | .plain c p, h => by
      have := h c (by simp [delCells])
      simp [getFunctionsU, getFunctions, this]
  | .multi ms p, h => by
      simpa [getFunctionsU, getFunctions] using getFunctionsUL_key cs cv uc n k ms (by simpa [delCells] using h)
  | .linked t p, h => by
      simpa [getFunctionsU, getFunctions] using getFunctionsU_key cs cv uc n k t (by simpa [delCells] using h)
theorem getFunctionsUL_key (cs : Cells) (cv : Convs) (uc : Bool) (n k : Name) :
    ∀ ms, (∀ c ∈ delCellsL ms, lookupName cv uc c n = k) →
      getFunctionsUL cs cv uc n ms = getFunctionsL cs k ms
  | [], _ => by simp [getFunctionsUL, getFunctionsL]
  | m :: ms, h => by
      have h1 := getFunctionsU_key cs cv uc n k m (fun c hc => h c (by simp [delCellsL, hc]))
      have h2 := getFunctionsUL_key cs cv uc n k ms (fun c hc => h c (by simp [delCellsL, hc]))
      simp [getFunctionsUL, getFunctionsL, h1, h2]
end

mutual
theorem collectAtU_key (cs : Cells) (cv : Convs) (uc : Bool) (n k : Name) :
    ∀ s, (∀ c ∈ cellsOf s, lookupName cv uc c n = k) → collectAtU cs cv uc n s = collectAt cs k s
  | .plain c p, h => by
      have h0 := h c (by simp [cellsOf])
      have hp := collectFromU_key cs cv uc n k p (fun c hc => h c (by simp [cellsOf, hc]))
      simp [collectAtU, collectAt, h0, hp]
  | .multi ms p, h => by
      have h0 := getFunctionsUL_key cs cv uc n k ms (fun c hc => h c (by simp [cellsOf, hc]))
      have hp := collectFromU_key cs cv uc n k p (fun c hc => h c (by simp [cellsOf, hc]))
      simp [collectAtU, collectAt, h0, hp]
  | .linked t p, h => by
      have h0 := getFunctionsU_key cs cv uc n k t (fun c hc => h c (by simp [cellsOf, hc]))
      have hp := collectFromU_key cs cv uc n k p (fun c hc => h c (by simp [cellsOf, hc]))
      simp [collectAtU, collectAt, h0, hp]
theorem collectFromU_key (cs : Cells) (cv : Convs) (uc : Bool) (n k : Name) :
    ∀ o, (∀ c ∈ cellsOfO o, lookupName cv uc c n = k) → collectFromU cs cv uc n o = collectFrom cs k o
  | none, _ => by simp [collectFromU, collectFrom]
  | some s, h => by
      simpa [collectFromU, collectFrom] using collectAtU_key cs cv uc n k s (by simpa [cellsOfO] using h)
end

/-- `use_convention=False`: conventions play no role, the lookup is the literal one of C17 -/
theorem collectU_off (cs : Cells) (cv : Convs) (s : Shape) (name : Name) :
    collectFunctionsU cs cv s name false = collectFunctions cs s name := by
  simpa [collectFunctionsU, collectFunctions, collectFromU, collectFrom] using
    collectAtU_key cs cv false _ _ s (fun c _ => by simp [lookupName])

theorem getFunctionsU_off (cs : Cells) (cv : Convs) (n : Name) (s : Shape) :
    getFunctionsU cs cv false n s = getFunctions cs n s :=
  getFunctionsU_key cs cv false n n s (fun c _ => by simp [lookupName])

/-- no reachable context has a convention: `use_convention` makes no difference -/
theorem collectU_no_convention (cs : Cells) (cv : Convs) (s : Shape) (name : Name) (uc : Bool)
    (h : ∀ c ∈ cellsOf s, cv.get c = none) :
    collectFunctionsU cs cv s name uc = collectFunctions cs s name := by
  simpa [collectFunctionsU, collectFunctions, collectFromU, collectFrom] using
    collectAtU_key cs cv uc _ _ s (fun c hc => by simp [lookupName, h c hc])

/-- every reachable context has the convention `f` (a tree made by `yaql.create_context()` and
    its children): the convention lookup of `name` is the literal lookup of `f(name.rstrip('_'))`
    - in EVERY layer, whatever was looked up before -/
theorem collectU_uniform (cs : Cells) (cv : Convs) (s : Shape) (name : Name) (f : Conv)
    (h : ∀ c ∈ cellsOf s, cv.get c = some f) :
    collectFunctionsU cs cv s name true = collectFrom cs (f (rstripUnderscore name)) (some s) := by
  simpa [collectFunctionsU, collectFromU, collectFrom] using
    collectAtU_key cs cv true _ _ s (fun c hc => by simp [lookupName, h c hc])

/-! ## function lookups depend on the registrations only -/

/-- two cell tables agree on what `register_function` / `delete_function` write -/
def SameFuncs (cs cs' : Cells) : Prop :=
  ∀ c, (cs'.get c).funcs = (cs.get c).funcs ∧ (cs'.get c).excl = (cs.get c).excl

mutual
theorem getFunctionsU_congr {cs cs' : Cells} (h : SameFuncs cs cs') (cv : Convs) (uc : Bool) (n : Name) :
    ∀ s, getFunctionsU cs' cv uc n s = getFunctionsU cs cv uc n s
  | .plain c p => by simp [getFunctionsU, cellFuncs, (h c).1, (h c).2]
  | .multi ms p => by simp [getFunctionsU, getFunctionsUL_congr h cv uc n ms]
  | .linked t p => by simp [getFunctionsU, getFunctionsU_congr h cv uc n t]
theorem getFunctionsUL_congr {cs cs' : Cells} (h : SameFuncs cs cs') (cv : Convs) (uc : Bool) (n : Name) :
    ∀ ms, getFunctionsUL cs' cv uc n ms = getFunctionsUL cs cv uc n ms
  | [] => by simp [getFunctionsUL]
  | m :: ms => by
      simp [getFunctionsUL, getFunctionsU_congr h cv uc n m, getFunctionsUL_congr h cv uc n ms]
end

mutual
theorem collectAtU_congr {cs cs' : Cells} (h : SameFuncs cs cs') (cv : Convs) (uc : Bool) (n : Name) :
    ∀ s, collectAtU cs' cv uc n s = collectAtU cs cv uc n s
  | .plain c p => by
      have hf : ∀ k, cellFuncs (cs'.get c) k = cellFuncs (cs.get c) k := fun k => by
        simp [cellFuncs, (h c).1]
      simp only [collectAtU, hf, (h c).2, collectFromU_congr h cv uc n p]
  | .multi ms p => by
      simp [collectAtU, getFunctionsUL_congr h cv uc n ms, collectFromU_congr h cv uc n p]
  | .linked t p => by
      simp [collectAtU, getFunctionsU_congr h cv uc n t, collectFromU_congr h cv uc n p]
theorem collectFromU_congr {cs cs' : Cells} (h : SameFuncs cs cs') (cv : Convs) (uc : Bool) (n : Name) :
    ∀ o, collectFromU cs' cv uc n o = collectFromU cs cv uc n o
  | none => by simp [collectFromU]
  | some s => by simp [collectFromU, collectAtU_congr h cv uc n s]
end

/-- **results depend only on registrations**: two states whose cells hold the same overload
    tables and exclusive names answer every function lookup alike, from every context, for both
    values of `use_convention` -/
theorem collectU_congr {cs cs' : Cells} (h : SameFuncs cs cs') (cv : Convs) (s : Shape) (name : Name)
    (uc : Bool) : collectFunctionsU cs' cv s name uc = collectFunctionsU cs cv s name uc := by
  simp [collectFunctionsU, collectFromU, collectAtU_congr h]

theorem modify_data_sameFuncs (cs : Cells) (c : Nat) (g : List (Name × Val) → List (Name × Val)) :
    SameFuncs cs (modifyCell cs c fun cell => { cell with data := g cell.data }) := by
  intro c'
  rw [get_modify]
  split <;> exact ⟨rfl, rfl⟩

/-- assigning a variable changes no function lookup -/
theorem data_writes_invisible (cs : Cells) (cv : Convs) (s t : Shape) (v : Name) (x : Val)
    (name : Name) (uc : Bool) :
    collectFunctionsU (setData cs t v x) cv s name uc = collectFunctionsU cs cv s name uc := by
  apply collectU_congr
  unfold setData
  cases writeCell t with
  | none => intro c; simp
  | some c => exact modify_data_sameFuncs cs c _

/-! ## read purity over histories -/

theorem hstep_read (st : HSt) (q : Query) : hstep st (.read q) = (st, .ok) := rfl

/-- reads can be erased from a history: the state reached is that of the writes alone -/
theorem hrun_erase_reads : ∀ (ops : List HOp) (st : HSt),
    hrun st ops = hrun st (ops.filter fun o => !o.isRead) :=
  Lemmas.C05Lists.foldl_filter_of_fixed _ _ fun st op h => by
    cases op with
    | read q => rfl
    | _ => cases h

theorem hrun_append (st : HSt) (a b : List HOp) : hrun st (a ++ b) = hrun (hrun st a) b := by
  simp [hrun, List.foldl_append]

theorem transcript_append : ∀ (a b : List HOp) (st : HSt),
    transcript st (a ++ b) = transcript st a ++ transcript (hrun st a) b
  | [], b, st => by simp [transcript, hrun]
  | op :: r, b, st => by
      cases op <;>
        simp [transcript, hrun, List.foldl_cons] <;>
        exact transcript_append r b _

/-- **a read inserted anywhere in a history is invisible to every other read**: the answers
    before it and after it are the ones the history without it gives -/
theorem read_insertion_invisible (st : HSt) (a b : List HOp) (q : Query) :
    transcript st (a ++ .read q :: b) =
      transcript st a ++ answer (hrun st a) q :: transcript (hrun st a) b ∧
    transcript st (a ++ b) = transcript st a ++ transcript (hrun st a) b := by
  refine ⟨?_, transcript_append a b st⟩
  rw [transcript_append]
  simp [transcript]

/-- **the answer of a read is a function of the writes before it**: whatever reads - of either
    `use_convention` value, in whatever order, from whatever contexts - came before -/
theorem last_read_depends_on_writes (st : HSt) (a : List HOp) (q : Query) :
    transcript st (a ++ [.read q]) =
      transcript st a ++ [answer (hrun st (a.filter fun o => !o.isRead)) q] := by
  rw [transcript_append, ← hrun_erase_reads]
  simp [transcript]

/-- two histories with the same writes (the reads may differ at will) end in the same state and
    answer every later read alike -/
theorem same_writes_same_answers (st : HSt) (a a' : List HOp) (q : Query)
    (h : (a.filter fun o => !o.isRead) = (a'.filter fun o => !o.isRead)) :
    hrun st a = hrun st a' ∧ answer (hrun st a) q = answer (hrun st a') q := by
  have : hrun st a = hrun st a' := by rw [hrun_erase_reads a, hrun_erase_reads a', h]
  exact ⟨this, by rw [this]⟩

/-! ## non-vacuity and the contrasting design -/

namespace Ex
open Yaql.Registry (toCamel)

def fooBar_ : Name := "foo_bar".toList
def fooBar : Name := "fooBar".toList

/-- a root with the CamelCase convention, a child of it, one overload under each spelling in the
    root, the camel one registered exclusively in the child -/
def setup : List HOp :=
  [.plain none (some toCamel), .child 0,
   .reg 0 fooBar 1 false, .reg 0 fooBar_ 2 false, .reg 1 fooBar 3 true]

def st : HSt := hrun {} setup

/-- literal and convention lookups of `foo_bar` answer from DIFFERENT tables, each layer under its
    own (here inherited) convention; the exclusive `fooBar` of the child stops the convention walk -/
example : answer st (.collect 1 fooBar_ false) = .layers [[2]] ∧
    answer st (.collect 1 fooBar_ true) = .layers [[3]] ∧
    answer st (.collect 0 fooBar_ true) = .layers [[1]] ∧
    answer st (.collect 0 ("foo_bar__".toList) true) = .layers [[1]] ∧
    answer st (.getFunctions 1 fooBar_ true) = .funcs [3] true ∧
    answer st (.getFunctions 1 fooBar_ false) = .funcs [] false := by decide +kernel

/-- a context without convention below a context with one: each layer converts for itself -/
example :
    let st := hrun {} [.plain none (some toCamel), .plain none none, .linked (some 0) 1 none,
                       .reg 0 fooBar 1 false, .reg 1 fooBar_ 2 false, .reg 1 fooBar 3 false]
    answer st (.collect 2 fooBar_ true) = .layers [[2], [1]] ∧
    answer st (.collect 2 fooBar_ false) = .layers [[2]] := by decide +kernel

def lookBoth : List HOp := [.read (.getFunctions 0 fooBar_ true), .read (.getFunctions 0 fooBar_ false)]

/-- the pure model: each read answers for itself, in both orders -/
example : transcript st lookBoth = [.funcs [1] false, .funcs [2] false] ∧
    transcript st lookBoth.reverse = [.funcs [2] false, .funcs [1] false] := by decide +kernel

/-- **the memoising design is not pure**: the first lookup of a name in a layer decides what every
    later lookup of that name returns there, so the same read gives different answers depending on
    the reads made before it - `read_insertion_invisible` fails for it -/
theorem memo_reads_not_pure :
    Memo.transcript { st := st } lookBoth = [.funcs [1] false, .funcs [1] false] ∧
    Memo.transcript { st := st } lookBoth.reverse = [.funcs [2] false, .funcs [2] false] ∧
    Memo.transcript { st := st } [.read (.getFunctions 0 fooBar_ false)] = [.funcs [2] false] := by
  decide +kernel

end Ex

end Yaql.Props.C17Conv
