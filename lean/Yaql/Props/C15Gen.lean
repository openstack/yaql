import Yaql.Gen.ScalarOps
/-!
C15 over the generated operator table: the overloads the live registry holds under the function
names of the scalar operators are, as far as scalar operands can reach them, exactly the rows of
`Yaql.Scalar.overloads` (same function name, same payload, same accepted kinds per parameter), and
the engine's operator list is the one the model covers.  Re-proved by the kernel on every run
against the regenerated table: an overload that is re-typed, added, removed or registered twice
breaks `operator_overloads`.
-/
namespace Yaql.Props.C15Gen
open Yaql.Scalar Yaql.Gen.ScalarOps

/-- the generated rows under the names the model covers that scalar operands can match -/
def liveRows : List GRow := rows.filter fun r => modelNames.contains r.name && r.reachable

/-- the registered overload set of every scalar operator is the one the model dispatches over -/
theorem operator_overloads : liveRows.map GRow.sig = overloads.map Overload.sig := by
  decide +kernel

/-- none of them has defaults, keyword-only parameters or a parameter type that treats values of
    one kind differently; all live in one context layer (so no layer shadows another) -/
theorem overloads_plain : liveRows.all (fun r => r.plain && r.layer == 1) = true := by
  -- a row that passes needs no look at its name: comparing the names is what is slow to check
  have h : rows.all (fun r => (r.plain && r.layer == 1) || !(modelNames.contains r.name && r.reachable)) = true := by
    decide +kernel
  rw [List.all_eq_true] at h ⊢
  intro r hr
  obtain ⟨hr, hl⟩ := List.mem_filter.mp hr
  simpa only [hl, Bool.not_true, Bool.or_false] using h r hr

/-- every operator of the engine's table either calls a function the model covers or is one of the
    listed non-scalar operators; and every covered name is called by some operator -/
theorem operators_covered :
    operators.all (fun o => modelNames.contains o.fname != excludedSymbols.contains o.symbol) = true ∧
    modelNames.all (fun n => operators.any fun o => o.fname == n) = true ∧
    operators.all (fun o => !modelNames.contains o.fname ||
      (o.unary == ([UnOp.pos, .neg, .not].map UnOp.fname).contains o.fname)) = true := by
  decide +kernel

/-- the table is not trivial -/
theorem table_nontrivial :
    liveRows.length = 36 ∧ rows.length > 60 ∧
    rows.any (fun r => r.star.isSome) = true ∧
    rows.any (fun r => !r.reachable) = true := by
  refine ⟨?_, by decide +kernel⟩
  have := congrArg List.length operator_overloads
  rwa [List.length_map, List.length_map] at this

end Yaql.Props.C15Gen
