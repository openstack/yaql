import Yaql.Props.C16
import Yaql.Props.C12Gen
import Yaql.Gen.OpTables
import Yaql.Gen.RegistryConv
/-!
C12, "by keyword (using the convention-translated parameter names)": a keyword argument is WRITTEN as
`name => value` in expression text, so the name every registered parameter has under every naming
convention must come out of the lexer as a KEYWORD_STRING token carrying that name.  The lexer takes
words away from KEYWORD_STRING: the operator words of the engine's table (`and or not in mod ..`, and
whatever `insert_operator` added), `true` / `false` / `null`, words that start with `__`; words that
are not identifier-shaped never get there.

* `kwarg_name_token` (all configurations, all words, all continuations): an identifier-shaped word
  that does not start with `__`, followed by anything that is neither a word character nor `(`, is ONE
  token, classified by `classifyKeyword`;
* `classify_keyword_iff`: that token is the keyword token of the word iff the word is no operator word
  of the table and none of `true` / `false` / `null`;
* `spellable_sound`, `spellable_complete`: the decidable `spellable` = the first token of `w => ..` is
  the keyword token of `w`; `unspellable_dunder`: KEYWORD_STRING does not fire on `__..`;
* `keyword_names_spellable` (generated tables): every keyword-passable parameter name of every
  registered definition, under each of the three conventions, is spellable under the operator tables
  of the default and of the legacy factory as `/repo` builds them now; `seen_aliases_spellable` is
  the evaluation (`decide +kernel`), `C12Gen.alias_convention_each` says these are the names.
-/
namespace Yaql.Props.C12Spell
open Yaql.Lexer Yaql.Syntax Yaql.Props.C16 Yaql.Naming Yaql.Gen.RegistryConv

/-- what may follow the name of a keyword argument: the end of the text, or a character that is neither
    a word character (the word would go on) nor `(` (then FUNC fires first) -/
def TailOk (cc : CharCfg) : List Char → Prop
  | [] => True
  | x :: _ => cc.isWord x = false ∧ x ≠ '('

theorem ruleAt_word_tail (cfg : LexCfg) {c : Char} {r : List Char} (h : IdentShaped cfg.chars c r)
    (hdu : startsDunder (c :: r) = false) (tail : List Char) (ht : TailOk cfg.chars tail) :
    ruleAt cfg false (c :: (r ++ tail)) 0 = .tok (classifyKeyword cfg (c :: r) 0) (r.length + 1) := by
  have hw : ∀ x ∈ tail.head?, cfg.chars.isWord x = false := by
    cases tail with
    | nil => simp
    | cons x t => simpa using ht.1
  have hp : tail.head? ≠ some '(' := by
    cases tail with
    | nil => simp
    | cons x t => simpa using ht.2
  have hdu' : startsDunder (c :: (r ++ tail)) = false := by
    match r, tail, ht with
    | _ :: _, _, _ => simpa [startsDunder] using hdu
    | [], [], _ => rfl
    | [], x :: _, ht =>
      -- `x` is no word character, `_` is one: not two underscores
      have : x ≠ '_' := fun e => by simpa [e, cfg.chars.underscore_word] using ht.1
      simp [startsDunder, this]
  rw [ruleAt_ident cfg h hw 0, if_neg hp, hdu']
  rfl

/-- an identifier-shaped word that does not start with `__`, in front of `=> value` (or of anything that
    does not continue the word): one token, `classifyKeyword` of the word, ending right behind it -/
theorem kwarg_name_token (cfg : LexCfg) {c : Char} {r : List Char} (h : IdentShaped cfg.chars c r)
    (hdu : startsDunder (c :: r) = false) (tail : List Char) (ht : TailOk cfg.chars tail) :
    nextTok cfg (c :: (r ++ tail)) 0 = .tok (classifyKeyword cfg (c :: r) 0) (r.length + 1) := by
  have hi : isIgnored c = false := (ident_prelude cfg h tail).2.1
  have hr := ruleAt_word_tail cfg h hdu tail ht
  simp only [nextTok, prevWord, List.drop_zero, scanTok, hi, Bool.false_eq_true, if_false, hr]
  simp

/-- the words that `t_KEYWORD_STRING` leaves keywords -/
def wordFree (cfg : LexCfg) (w : List Char) : Bool :=
  !cfg.opWords.contains w && w != kwTrue && w != kwFalse && w != kwNull

theorem classify_keyword_iff (cfg : LexCfg) (w : List Char) (pos : Nat) :
    classifyKeyword cfg w pos = ⟨.keyword, .text w, pos⟩ ↔ wordFree cfg w = true := by
  simp only [classifyKeyword, wordFree, List.contains_iff_mem, Bool.and_eq_true, Bool.not_eq_true', decide_eq_false_iff_not,
    bne_iff_ne, ne_eq]
  by_cases ho : w ∈ cfg.opWords
  · simp [ho]
  · have n1 : kwFalse ≠ kwTrue := by decide
    have n2 : kwNull ≠ kwTrue := by decide
    have n3 : kwNull ≠ kwFalse := by decide
    by_cases h1 : w = kwTrue
    · subst h1; simp [ho]
    · by_cases h2 : w = kwFalse
      · subst h2; simp [ho, n1]
      · by_cases h3 : w = kwNull
        · subst h3; simp [ho, n2, n3]
        · simp [ho, h1, h2, h3]

/-- decidable: identifier-shaped under the character classes `cc` -/
def identShapedB (cc : CharCfg) : List Char → Bool
  | [] => false
  | c :: r => cc.isWord c && !cc.isDigit c && r.all cc.isWord

theorem identShapedB_spec (cc : CharCfg) (c : Char) (r : List Char) :
    identShapedB cc (c :: r) = true ↔ IdentShaped cc c r := by
  simp only [identShapedB, IdentShaped, Bool.and_eq_true, Bool.not_eq_true', List.all_eq_true]
  constructor
  · rintro ⟨⟨a, b⟩, d⟩; exact ⟨a, b, d⟩
  · rintro ⟨a, b, d⟩; exact ⟨⟨a, b⟩, d⟩

/-- **the name `w` can be written as the name of a keyword argument** under the lexer configuration `cfg` -/
def spellable (cfg : LexCfg) (w : List Char) : Bool :=
  identShapedB cfg.chars w && !startsDunder w && wordFree cfg w

/-- a spellable name in front of `=> value` IS the keyword token carrying that name -/
theorem spellable_sound (cfg : LexCfg) (w tail : List Char) (hs : spellable cfg w = true)
    (ht : TailOk cfg.chars tail) :
    nextTok cfg (w ++ tail) 0 = .tok ⟨.keyword, .text w, 0⟩ w.length := by
  cases w with
  | nil => simp [spellable, identShapedB] at hs
  | cons c r =>
    simp only [spellable, Bool.and_eq_true, Bool.not_eq_true'] at hs
    obtain ⟨⟨hid, hdu⟩, hfree⟩ := hs
    have h := (identShapedB_spec cfg.chars c r).mp hid
    have := kwarg_name_token cfg h hdu tail ht
    rw [(classify_keyword_iff cfg (c :: r) 0).mpr hfree] at this
    simpa using this

/-- for identifier-shaped words the test is exact: a word that is an operator word of the table, or
    `true` / `false` / `null`, in front of `=> value` is NOT the keyword token of that word (it is the operator /
    the constant), so `w => v` cannot be a keyword argument -/
theorem spellable_complete (cfg : LexCfg) {c : Char} {r : List Char} (h : IdentShaped cfg.chars c r)
    (hdu : startsDunder (c :: r) = false) (tail : List Char) (ht : TailOk cfg.chars tail) :
    nextTok cfg (c :: (r ++ tail)) 0 = .tok ⟨.keyword, .text (c :: r), 0⟩ (r.length + 1) ↔
      spellable cfg (c :: r) = true := by
  rw [kwarg_name_token cfg h hdu tail ht]
  have hid := (identShapedB_spec cfg.chars c r).mpr h
  simp only [spellable, hid, hdu, Bool.not_false, Bool.true_and, TokStep.tok.injEq, and_true]
  exact classify_keyword_iff cfg (c :: r) 0

/-- a word that starts with `__`: the KEYWORD_STRING rule does not fire at all (`(?!__)`) -/
theorem unspellable_dunder (cfg : LexCfg) (pw : Bool) (w tail : List Char) (hdu : startsDunder w = true) :
    matchKeyword cfg.chars pw (w ++ tail) = none ∧ spellable cfg w = false := by
  have : startsDunder (w ++ tail) = true := by
    match w, hdu with
    | a :: b :: _, hdu => simpa [startsDunder] using hdu
  constructor
  · simp [matchKeyword, this]
  · simp [spellable, hdu]

/-! ### the lexer configuration of an operator table (`Lexer(yaql_operators)`) -/

def sqBr : List Char := ['[', ']']
def cuBr : List Char := ['{', '}']

/-- the lexer configuration for the symbols `keys` of an operator table; `4300` is CPython's default
    `sys.get_int_max_str_digits()` (as in `Lexer.asciiCfg`) and concerns NUMBER tokens only -/
def keysCfg (keys : List (List Char)) (nameValue : Option (List Char)) : LexCfg :=
  LexCfg.ofTable asciiChars (keys.filter fun s => s != sqBr && s != cuBr) (keys.contains sqBr) (keys.contains cuBr)
    nameValue (fun _ => none) 4300

/-- `YaqlFactory.create()`: the lexer gets the keys of the operator table -/
def tableCfg (t : Yaql.OpTable.Table) : LexCfg := keysCfg (t.ops.map (·.1)) t.nameValue

theorem mem_ite_singleton {α} (p : Prop) [Decidable p] (a b : α) : a ∈ (if p then [b] else []) ↔ p ∧ a = b := by
  by_cases p <;> simp [*]

/-- `t.value in self._operators_table`: exactly the keys of the table -/
theorem keysCfg_opWords (keys : List (List Char)) (nv : Option (List Char)) (w : List Char) :
    w ∈ (keysCfg keys nv).opWords ↔ w ∈ keys := by
  simp only [keysCfg, LexCfg.ofTable, List.mem_append, List.mem_filter, mem_ite_singleton, List.contains_iff_mem,
    Bool.and_eq_true, bne_iff_ne, ne_eq, show ['[', ']'] = sqBr from rfl, show ['{', '}'] = cuBr from rfl]
  -- `[]` and `{}` are taken out of the keys and put back when they were there
  have : sqBr ≠ cuBr := by decide
  by_cases h1 : w = sqBr
  · simp [h1, this]
  · by_cases h2 : w = cuBr
    · simp [h2, this.symm]
    · simp [h1, h2]

theorem tableCfg_opWords (t : Yaql.OpTable.Table) (w : List Char) :
    w ∈ (tableCfg t).opWords ↔ w ∈ t.ops.map (·.1) := keysCfg_opWords _ _ w

/-- spellable under the tables of BOTH factories yaql ships (default: `=>` is the name/value operator;
    legacy: `=>` is a binary operator) -/
def spellableEverywhere (w : List Char) : Bool :=
  spellable (tableCfg Yaql.Gen.OpTables.defaultTable) w && spellable (tableCfg Yaql.Gen.OpTables.legacyTable) w

def opNames (t : Yaql.OpTable.Table) : List (List Char) := (t.ops.map (·.1)).filter (identShapedB asciiChars)

/-- an identifier-shaped word can only be one of the identifier-shaped symbols, so the table's symbols are
    filtered once -/
theorem spellable_tableCfg (t : Yaql.OpTable.Table) (w : List Char) :
    spellable (tableCfg t) w =
      (identShapedB asciiChars w && !startsDunder w &&
        (!(opNames t).contains w && w != kwTrue && w != kwFalse && w != kwNull)) := by
  cases hid : identShapedB asciiChars w with
  | false => simp only [spellable, show (tableCfg t).chars = asciiChars from rfl, hid, Bool.false_and]
  | true =>
    have : (tableCfg t).opWords.contains w = (opNames t).contains w := by
      rw [Bool.eq_iff_iff, List.contains_iff_mem, List.contains_iff_mem, tableCfg_opWords, opNames, List.mem_filter, hid]
      simp
    simp only [spellable, wordFree, show (tableCfg t).chars = asciiChars from rfl, hid, this]

/-- the alias actually found in the definition (what `get_delegate` looks keywords up under) can be
    written as `name => value` -/
theorem seen_aliases_spellable :
    convRows.all (fun r => r.params.all fun p =>
      p.hidden || p.star || spellableEverywhere (p.seenAlias.getD p.name)) = true := by
  -- comparing each name with all the symbols of both tables is slow to check
  simp only [spellableEverywhere, spellable_tableCfg]
  decide +kernel

/-- **every keyword-passable parameter of every registered definition, under each naming convention
    (contexts created in several orders), has a name that can be written as `name => value`**: by
    `C12Gen.alias_convention_each` that name is the alias found in the definition -/
theorem keyword_names_spellable :
    convRows.all (fun r => r.params.all fun p =>
      p.hidden || p.star || spellableEverywhere (keywordName r.conv p.declAlias p.name)) = true := by
  have h := seen_aliases_spellable
  simp only [List.all_eq_true] at h ⊢
  intro r hr p hp
  rw [Yaql.Props.C12Gen.keywordName_seen hr hp, Yaql.Props.C12Gen.seenName]
  have := h r hr p hp
  -- `some []` is the one alias `normAlias` changes, and `[]` is not spellable
  match hs : p.seenAlias with
  | some [] =>
    rw [hs, Option.getD_some, show spellableEverywhere [] = false from rfl, Bool.or_false] at this
    rw [this, Bool.true_or]
  | some (_ :: _) | none => rw [hs] at this; exact this

/-- non-vacuity: the tables do take words away (`mod`, `in`, `not`, `and`, `or` are operator words of both
    tables; `true`, `__x`, `1a` are not spellable either), ordinary names are spellable, and the rows do have
    keyword-passable parameters whose names the conventions rewrite -/
theorem spellable_kinds :
    spellableEverywhere ['m', 'o', 'd'] = false ∧ spellableEverywhere ['i', 'n'] = false ∧
    spellableEverywhere ['n', 'o', 't'] = false ∧ spellableEverywhere ['a', 'n', 'd'] = false ∧
    spellableEverywhere ['o', 'r'] = false ∧ spellableEverywhere ['t', 'r', 'u', 'e'] = false ∧
    spellableEverywhere ['n', 'u', 'l', 'l'] = false ∧ spellableEverywhere ['_', '_', 'x'] = false ∧
    spellableEverywhere ['1', 'a'] = false ∧ spellableEverywhere [] = false ∧
    spellableEverywhere ['m', 'o', 'd', 'u', 'l', 'o'] = true ∧ spellableEverywhere ['_', 'x'] = true ∧
    spellableEverywhere ['k', 'e', 'y', 'S', 'e', 'l', 'e', 'c', 't', 'o', 'r'] = true ∧
    convRows.any (fun r => r.params.any fun p => !p.hidden && !p.star &&
      keywordName r.conv p.declAlias p.name != p.name) = true ∧
    (convRows.map fun r => (r.params.filter fun p => !p.hidden && !p.star).length).sum > 1000 := by
  decide +kernel

-- `mod => 7`: the operator, not a keyword argument; `modulo => 7`: a keyword argument
example : nextTok (tableCfg Yaql.Gen.OpTables.defaultTable) ['m', 'o', 'd', ' ', '=', '>', ' ', '7'] 0 =
    .tok ⟨.op ['m', 'o', 'd'], .text ['m', 'o', 'd'], 0⟩ 3 := by decide +kernel
example : nextTok (tableCfg Yaql.Gen.OpTables.defaultTable) ['m', 'o', 'd', 'u', 'l', 'o', ' ', '=', '>', ' ', '7'] 0 =
    .tok ⟨.keyword, .text ['m', 'o', 'd', 'u', 'l', 'o'], 0⟩ 6 := by decide +kernel
example : TailOk asciiChars [' ', '=', '>', ' ', '7'] := ⟨by decide, by decide⟩

end Yaql.Props.C12Spell
