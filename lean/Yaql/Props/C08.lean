import Yaql.Model.Limits
import Yaql.Props.C10
/-!
C08 - iterator limit and memory quota bound every evaluation.

`limit_iterable` is the counting generator `Limits.limNext`; a consumer's view of it is `Limits.run` (so many `next()`
calls); one call has four outcomes (`step_cases`), and what one call keeps all keep (`run_keeps`).  `Inv` is what
every step keeps: at most `N` items handed out, at most `N + 1` pulled from the source, and while
the generator is alive the source position is the number of items handed out; the `limit_*` theorems follow from it.
The `limit_memory_usage` part rests on `repeat_estimate` (the estimate of `x * k` is safe).
-/
namespace Yaql.Props.C08
open Yaql.Convert Yaql.Limits

/-! ## `limit_iterable`: the counting generator -/

theorem run_succ {α : Type} (lim : Limit) (src : Source α) : ∀ (k : Nat) (r : Run α),
    run lim src (k + 1) r = (run lim src k r).step lim src
  | 0, _ => rfl
  | k + 1, r => run_succ lim src k (r.step lim src)

theorem run_add {α : Type} (lim : Limit) (src : Source α) : ∀ (a b : Nat) (r : Run α),
    run lim src (a + b) r = run lim src b (run lim src a r)
  | 0, b, r => by rw [Nat.zero_add]; rfl
  | a + 1, b, r => by rw [Nat.add_right_comm]; exact run_add lim src a b (r.step lim src)

theorem run_keeps {α : Type} (lim : Limit) (src : Source α) (P : Nat → Run α → Prop)
    (hstep : ∀ j r, P j r → P (j + 1) (r.step lim src)) : ∀ (k j : Nat) (r : Run α), P j r → P (j + k) (run lim src k r)
  | 0, _, _, h => h
  | k + 1, j, r, h => Nat.add_right_comm j 1 k ▸ run_keeps lim src P hstep k (j + 1) _ (hstep j r h)

theorem step_cases {α : Type} (lim : Limit) (src : Source α) (P : Run α → Prop) (r : Run α)
    (dead : r.st.dead = true → P r)
    (ended : r.st.dead = false → src r.st.idx = none → P { r with st := { r.st with dead := true } })
    (refused : r.st.dead = false → ∀ a, src r.st.idx = some a → blocks lim r.st.idx = true →
      P { r with st := { idx := r.st.idx + 1, dead := true }, raised := true })
    (item : r.st.dead = false → ∀ a, src r.st.idx = some a → blocks lim r.st.idx = false →
      P { st := { idx := r.st.idx + 1, dead := false }, items := r.items ++ [a], raised := r.raised }) :
    P (r.step lim src) := by
  have hdead := dead
  unfold Run.step limNext
  cases hd : r.st.dead
  · cases hs : src r.st.idx with
    | none => exact ended hd hs
    | some a =>
        cases hb : blocks lim r.st.idx
        · exact item hd a hs hb
        · exact refused hd a hs hb
  · exact hdead hd

/-- invariant of a consumer's view of `limit_iterable N src` -/
def Inv {α : Type} (N : Nat) (r : Run α) : Prop :=
  r.items.length ≤ N ∧ r.st.idx ≤ N + 1 ∧ (r.st.dead = false → r.st.idx = r.items.length)

theorem inv_step {α : Type} (N : Nat) (src : Source α) (r : Run α) (h : Inv N r) :
    Inv N (r.step (some N) src) := by
  obtain ⟨h1, h2, h3⟩ := h
  refine step_cases (some N) src (Inv N) r (fun _ => ⟨h1, h2, h3⟩) (fun _ _ => ⟨h1, h2, nofun⟩)
    (fun hd _ _ _ => ⟨h1, Nat.succ_le_succ (h3 hd ▸ h1), nofun⟩) fun hd a _ hb => ?_
  have hlt : r.st.idx < N := Nat.lt_of_not_le (of_decide_eq_false hb)
  exact ⟨by rw [List.length_append, ← h3 hd]; exact hlt, Nat.le_succ_of_le hlt,
    fun _ => by rw [List.length_append, ← h3 hd]; rfl⟩

/-- **C08.limit_pulls**: for every source - finite or endless - every limit `N >= 0` and every number
    `k` of `next()` calls a consumer makes on `limit_iterable(src, N)`: it obtains at most `N` items and
    at most `N + 1` items are pulled from the source. -/
theorem limit_pulls {α : Type} (src : Source α) (N k : Nat) :
    (run (some N) src k {}).items.length ≤ N ∧ (run (some N) src k {}).st.idx ≤ N + 1 := by
  have := run_keeps (some N) src (fun _ => Inv N) (fun _ => inv_step N src) k 0 {} ⟨Nat.zero_le _, Nat.zero_le _, fun _ => rfl⟩
  exact ⟨this.1, this.2.1⟩

/-- the items obtained are the first items of the source, in order (the wrapper is faithful) -/
theorem limit_prefix {α : Type} (lim : Limit) (src : Source α) : ∀ (k : Nat),
    let r := run lim src k {}
    r.items.map some = (List.range r.items.length).map src ∧ (r.st.dead = false → r.st.idx = r.items.length) := by
  intro k
  let P (r : Run α) := r.items.map some = (List.range r.items.length).map src ∧ (r.st.dead = false → r.st.idx = r.items.length)
  refine run_keeps lim src (fun _ => P) (fun _ r ⟨h1, h2⟩ => ?_) k 0 {} ⟨rfl, fun _ => rfl⟩
  refine step_cases lim src P r (fun _ => ⟨h1, h2⟩) (fun _ _ => ⟨h1, nofun⟩) (fun _ _ _ _ => ⟨h1, nofun⟩)
    fun hd a hs _ => ?_
  have h3 := h2 hd
  refine ⟨?_, fun _ => by rw [List.length_append, ← h3]; rfl⟩
  rw [List.length_append, List.length_singleton, List.map_append, h1, List.range_succ, List.map_append, ← h3]
  show _ ++ [some a] = _ ++ [src r.st.idx]
  rw [hs]

/-- a source that never ends -/
def Endless {α : Type} (src : Source α) : Prop := ∀ i, (src i).isSome = true

theorem raised_mono {α : Type} (lim : Limit) (src : Source α) (r : Run α) (h : r.raised = true) :
    (r.step lim src).raised = true :=
  step_cases lim src (·.raised = true) r (fun _ => h) (fun _ _ => h) (fun _ _ _ _ => rfl) (fun _ _ _ _ => h)

/-- **C08.limit_endless_raises** (the termination clause of C08): a consumer that keeps pulling from `limit_iterable(src, N)`
    over an endless source gets `CollectionTooLargeException` at its `N + 1`-th `next()`; so evaluations over
    endless generators end. -/
theorem limit_endless_raises {α : Type} (src : Source α) (he : Endless src) (N k : Nat) (hk : N + 1 ≤ k) :
    (run (some N) src k {}).raised = true := by
  let P (j : Nat) (r : Run α) := r.raised = true ∨ (r.st = { idx := j, dead := false } ∧ j ≤ N)
  have h : P (0 + k) (run (some N) src k {}) := by
    refine run_keeps (some N) src P (fun j r h => ?_) k 0 {} (.inr ⟨rfl, Nat.zero_le N⟩)
    rcases h with h | ⟨h1, _⟩
    · exact .inl (raised_mono _ _ r h)
    refine step_cases (some N) src (P (j + 1)) r (fun hd => ?_) (fun _ hs => ?_) (fun _ _ _ _ => .inl rfl)
      (fun _ _ _ hb => .inr ⟨by rw [h1], ?_⟩)
    · rw [h1] at hd; cases hd
    · have := he r.st.idx
      rw [hs] at this; cases this
    · rw [h1] at hb
      exact Nat.lt_of_not_le (of_decide_eq_false hb)
  rcases h with h | ⟨_, h⟩
  · exact h
  · omega

/-- without a limit nothing is ever refused -/
theorem unlimited_never_raises {α : Type} (src : Source α) : ∀ (k : Nat) (r : Run α), r.raised = false →
    (run none src k r).raised = false := fun k =>
  run_keeps none src (fun _ => (·.raised = false)) (fun _ r h =>
    step_cases none src (·.raised = false) r (fun _ => h) (fun _ _ => h) (fun _ _ _ hb => nomatch hb) (fun _ _ _ _ => h)) k 0

example : (run (some 2) (fun i => some i) 10 {}).items = [0, 1] ∧ (run (some 2) (fun i => some i) 10 {}).st.idx = 3
    ∧ (run (some 2) (fun i => some i) 10 {}).raised = true := by decide
example : (run (some 0) (fun i => some i) 1 {}).st.idx = 1 ∧ (run (some 0) (fun i => some i) 1 {}).raised = true := by decide
example : (run (some 5) (fun i => if i < 3 then some i else none) 10 {}).items = [0, 1, 2] ∧
    (run (some 5) (fun i => if i < 3 then some i else none) 10 {}).raised = false := by decide

/-- **C08.limit_sized**: a sized collection longer than `N` is rejected on its length alone (`limitSized`
    does not even receive the elements); one within the limit is handed on as it is. -/
theorem limit_sized (N len : Nat) :
    (N < len → limitSized (some N) len = .error .tooLarge) ∧ (len ≤ N → limitSized (some N) len = .ok ()) :=
  ⟨fun h => if_neg (by rw [Limit.admits, decide_eq_false (Nat.not_le.mpr h)]; nofun),
   fun h => if_pos (decide_eq_true h)⟩

/-! ## the finaliser -/

theorem length_renameL (o : Opts) : ∀ l, (C10.renameL o l).length = l.length
  | [] => rfl
  | _ :: xs => congrArg (· + 1) (length_renameL o xs)
theorem length_renameP (o : Opts) : ∀ l, (C10.renameP o l).length = l.length
  | [] => rfl
  | (_, _) :: r => congrArg (· + 1) (length_renameP o r)

mutual
theorem bounded_rename (o : Opts) (lim : Limit) : ∀ v, C10.bounded lim (C10.rename o v) = C10.bounded lim v
  | .sc _ => rfl
  | .seq k l => by simp only [C10.rename, C10.bounded, length_renameL, boundedL_rename o lim l]
  | .map _ kvs => by simp only [C10.rename, C10.bounded, length_renameP, boundedP_rename o lim kvs]
theorem boundedL_rename (o : Opts) (lim : Limit) : ∀ l, C10.boundedL lim (C10.renameL o l) = C10.boundedL lim l
  | [] => rfl
  | x :: xs => by simp only [C10.renameL, C10.boundedL, bounded_rename o lim x, boundedL_rename o lim xs]
theorem boundedP_rename (o : Opts) (lim : Limit) : ∀ l, C10.boundedP lim (C10.renameP o l) = C10.boundedP lim l
  | [] => rfl
  | (k, v) :: r => by
      simp only [C10.renameP, C10.boundedP, bounded_rename o lim k, bounded_rename o lim v, boundedP_rename o lim r]
end

/-- **C08.finalize_bounded**: if `convert_output_data` with the `#iter` limiter `N` succeeds, no collection
    at any depth of the result has more than `N` elements (`C10.bounded (some N)`), whatever the options. -/
theorem finalize_bounded (o : Opts) (N : Nat) (v r : Py) (h : convOut o (some N) v = .ok r) :
    C10.bounded (some N) r = true := by
  obtain ⟨_, hb, rfl⟩ := (C10.convOut_spec o (some N) v r).mp h
  rw [bounded_rename]; exact hb

/-- ... and conversely an oversized collection anywhere in the value makes finalisation fail -/
theorem finalize_refuses (o : Opts) (N : Nat) (v : Py) (h : C10.bounded (some N) v = false) :
    ∀ r, convOut o (some N) v ≠ .ok r := by
  intro r hr
  have := ((C10.convOut_spec o (some N) v r).mp hr).2.1
  simp [h] at this

example : convOut {} (some 2) (.seq .list [.seq .iter [.sc .null, .sc .null, .sc .null]]) = .error .tooLarge := by rfl
example : C10.bounded (some 2) (.seq .list [.seq .iter [.sc .null, .sc .null, .sc .null]]) = false := by rfl

/-! ## `limit_memory_usage` and the repetition estimates -/

theorem limitMemoryGo_cons (Q t c : Int) (s : Nat) (r : List (Int × Nat)) :
    limitMemoryGo Q t ((c, s) :: r) = true ↔ t + c * s ≤ Q ∧ limitMemoryGo Q (t + c * s) r = true := by
  show (if t + c * (s : Int) > Q then false else limitMemoryGo Q (t + c * s) r) = true ↔ _
  by_cases h : t + c * (s : Int) > Q
  · rw [if_pos h]
    exact ⟨nofun, fun ⟨h', _⟩ => absurd h' (Int.not_le.mpr h)⟩
  · rw [if_neg h]
    exact ⟨fun h' => ⟨Int.not_lt.mp h, h'⟩, fun h' => h'.2⟩

theorem limitMemory_pos (Q : Int) (hq : 0 < Q) (args : List (Int × Nat)) :
    limitMemory Q args = limitMemoryGo Q 0 args := by
  unfold limitMemory
  rw [if_neg (by omega)]

theorem limitMemory_one (Q : Int) (s : Nat) : limitMemory Q [(1, s)] = true ↔ (Q ≤ 0 ∨ (s : Int) ≤ Q) := by
  by_cases hq : Q ≤ 0
  · simp [limitMemory, hq]
  · rw [limitMemory_pos Q (by omega), limitMemoryGo_cons]
    simp only [limitMemoryGo, and_true, hq, false_or]
    omega

theorem limitMemory_one_pos (Q : Int) (hq : 0 < Q) (s : Nat) (h : limitMemory Q [(1, s)] = true) : (s : Int) ≤ Q := by
  rcases (limitMemory_one Q s).mp h with h0 | h1
  · omega
  · exact h1

/-- the estimate `(-k + 1) * h0 + k * (H + w * n)` of `left * k` (`k >= 1`) is at least the size `H + w * (n * k)`
    of the result as soon as the header `h0` that is subtracted is not larger than the real one -/
theorem repeat_estimate (Q : Int) (hq : 0 < Q) (h0 H w n : Nat) (hH : h0 ≤ H) (k : Int) (hk : 1 ≤ k)
    (h : limitMemory Q [(-k + 1, h0), (k, H + w * n)] = true) : ((H + w * repLen n k : Nat) : Int) ≤ Q := by
  rw [limitMemory_pos Q hq, limitMemoryGo_cons, limitMemoryGo_cons, Int.zero_add] at h
  have h2 := h.2.1
  -- estimate - size = `(k - 1) * (H - h0)`
  have hm : (k - 1) * (h0 : Int) ≤ (k - 1) * H := Int.mul_le_mul_of_nonneg_left (Int.ofNat_le.mpr hH) (by omega)
  have hr : ((repLen n k : Nat) : Int) = k * n := by
    unfold repLen
    rw [if_neg (by omega), Int.natCast_mul, Int.toNat_of_nonneg (by omega), Int.mul_comm]
  rw [Int.natCast_add, Int.natCast_mul, hr, Int.mul_left_comm]
  simp only [Int.natCast_add, Int.natCast_mul, Int.add_mul, Int.mul_add, Int.sub_mul, Int.neg_mul, Int.one_mul] at h2 hm
  omega

/-- **C08.repeat_estimate_safe** (sequences): whenever `list_by_int`'s check lets `left * k` through
    (`k >= 1`, quota in force), the modelled size of the result is within the quota - so a refusal always
    precedes the allocation.  Needs only that the tuple header is not larger than the list header
    (`C08Gen.sizes_ok` re-proves that for the running CPython). -/
theorem repeat_estimate_safe (c : SizeCfg) (hc : c.tupleHdr ≤ c.listHdr) (Q : Int) (hq : 0 < Q)
    (kind : SeqK) (n : Nat) (k : Int) (hk : 1 ≤ k) (h : listByIntCheck c Q kind n k = true) :
    ((c.seqSize kind (repLen n k) : Nat) : Int) ≤ Q := by
  have hH : c.tupleHdr ≤ c.seqHdr kind := by cases kind <;> simp [SizeCfg.seqHdr, hc]
  exact repeat_estimate Q hq _ _ c.ptr n hH k hk h

/-- for a count `<= 0` the result is the empty sequence: nothing is allocated -/
theorem repeat_nonpositive (c : SizeCfg) (kind : SeqK) (n : Nat) (k : Int) (hk : k ≤ 0) :
    c.seqSize kind (repLen n k) = c.seqHdr kind := by
  simp [repLen, hk, SizeCfg.seqSize]

/-- **C08.repeat_estimate_safe** (strings): the same for `string_by_int`; needs that `''` has the smallest
    string header. -/
theorem repeat_estimate_safe_str (c : SizeCfg)
    (hc : c.strAscii ≤ c.strLatin1 ∧ c.strAscii ≤ c.strUcs2 ∧ c.strAscii ≤ c.strUcs4) (Q : Int) (hq : 0 < Q)
    (cls : StrClass) (n : Nat) (k : Int) (hk : 1 ≤ k) (h : stringByIntCheck c Q cls n k = true) :
    ((c.strSize cls (repLen n k) : Nat) : Int) ≤ Q := by
  cases n with
  | zero =>
    have := repeat_estimate Q hq c.strAscii c.strAscii 0 0 (Nat.le_refl _) k hk h
    simpa [SizeCfg.strSize, repLen] using this
  | succ n' =>
    have hH : c.strAscii ≤ c.strHdr cls := by cases cls <;> simp [SizeCfg.strHdr] <;> omega
    have hne : repLen (n' + 1) k ≠ 0 := by
      unfold repLen
      rw [if_neg (by omega)]
      exact Nat.mul_ne_zero (by omega) (by omega)
    unfold SizeCfg.strSize
    rw [if_neg hne]
    exact repeat_estimate Q hq _ _ cls.width (n' + 1) hH k hk h

/-- a frozen dict that passes an argument / result check (`limit_memory_usage(engine, (1, d))`) has a table
    within the quota: `FrozenDict.__sizeof__` counts the dict it owns (whatever the wrapper overhead is) -/
theorem frozen_dict_measured (c : SizeCfg) (Q : Int) (hq : 0 < Q) (dictSize : Nat)
    (h : limitMemory Q [(1, c.fdictSize dictSize)] = true) : (dictSize : Int) ≤ Q := by
  have h1 := limitMemory_one_pos Q hq _ h
  unfold SizeCfg.fdictSize at h1
  omega

/-- `dict.set(key, value)` refuses before building when the dict, the key and the value together exceed the quota -/
theorem dict_set_checked (c : SizeCfg) (Q : Int) (hq : 0 < Q) (ds ks vs : Nat)
    (h : dictSetCheck c Q ds ks vs = true) : (ds : Int) + ks + vs ≤ Q := by
  unfold dictSetCheck SizeCfg.fdictSize at h
  rw [limitMemory_pos Q hq] at h
  simp only [limitMemoryGo_cons] at h
  omega

/-! ## `memorize` and the argument / result checks -/

/-- `utils.memorize` never holds a remembered list above the quota: a pull that would make it larger raises -/
theorem memorize_bounded (Q : Int) (hq : 0 < Q) (listSize : Nat → Nat) (len m : Nat)
    (h : memorizeStep Q listSize len = some m) : m = len + 1 ∧ (listSize m : Int) ≤ Q := by
  unfold memorizeStep at h
  split at h
  · rename_i hl
    cases h
    exact ⟨rfl, limitMemory_one_pos Q hq _ hl⟩
  · cases h

theorem evalQ_call_ok {V : Type} {Q : Int} {size : V → Nat} {payload : Nat → List V → Except QErr V} {f : Nat}
    {args : List (Expr V)} {v : V} {log : List V} (h : evalQ Q size payload (.call f args) = .ok (v, log)) :
    ∃ vs l0, evalArgs Q size payload args = .ok (vs, l0) ∧ limitMemory Q [(1, size v)] = true ∧ log = l0 ++ vs ++ [v] := by
  simp only [evalQ] at h
  split at h
  · cases h
  · rename_i vs l0 ha
    split at h
    · cases h
    · split at h
      · rename_i hl
        cases h
        exact ⟨vs, l0, ha, hl, rfl⟩
      · cases h

mutual
/-- **C08.quota_flow** (first-order call trees, payloads abstract): when an evaluation under a memory quota
    `Q > 0` completes, every value that was bound to a parameter or returned from a call has
    `sizeof <= Q`; otherwise the evaluation ends in an error (`quota` as soon as such a value appears). -/
theorem quota_flow {V : Type} (Q : Int) (hq : 0 < Q) (size : V → Nat) (payload : Nat → List V → Except QErr V) :
    ∀ (e : Expr V) (v : V) (log : List V), evalQ Q size payload e = .ok (v, log) → ∀ x ∈ log, (size x : Int) ≤ Q
  | .lit _, v, log, h => by
      simp only [evalQ] at h
      cases h
      intro x hx; cases hx
  | .call f args, v, log, h => by
      obtain ⟨vs, l0, ha, hl, rfl⟩ := evalQ_call_ok h
      have ih := quota_flow_args Q hq size payload args vs l0 ha
      intro x hx
      simp only [List.mem_append, List.mem_singleton] at hx
      rcases hx with (hx | hx) | rfl
      · exact ih.1 x hx
      · exact ih.2 x hx
      · exact limitMemory_one_pos Q hq _ hl
theorem quota_flow_args {V : Type} (Q : Int) (hq : 0 < Q) (size : V → Nat) (payload : Nat → List V → Except QErr V) :
    ∀ (as : List (Expr V)) (vs log : List V), evalArgs Q size payload as = .ok (vs, log) →
      (∀ x ∈ log, (size x : Int) ≤ Q) ∧ (∀ x ∈ vs, (size x : Int) ≤ Q)
  | [], vs, log, h => by
      simp only [evalArgs] at h
      cases h
      refine ⟨?_, ?_⟩ <;> intro x hx <;> cases hx
  | a :: as, vs, log, h => by
      simp only [evalArgs] at h
      split at h
      · cases h
      · rename_i v l1 ha
        have ih1 := quota_flow Q hq size payload a v l1 ha
        split at h
        · rename_i hl
          split at h
          · cases h
          · rename_i vs' l2 hr
            have ih2 := quota_flow_args Q hq size payload as vs' l2 hr
            cases h
            refine ⟨fun x hx => ?_, fun x hx => ?_⟩
            · rcases List.mem_append.mp hx with hx | hx
              · exact ih1 x hx
              · exact ih2.1 x hx
            · rcases List.mem_cons.mp hx with rfl | hx
              · exact limitMemory_one_pos Q hq _ hl
              · exact ih2.2 x hx
        · cases h
end

/-- the value an evaluation returns is itself within the quota when it comes from a call -/
theorem quota_result {V : Type} (Q : Int) (hq : 0 < Q) (size : V → Nat) (payload : Nat → List V → Except QErr V)
    (f : Nat) (args : List (Expr V)) (v : V) (log : List V)
    (h : evalQ Q size payload (.call f args) = .ok (v, log)) : (size v : Int) ≤ Q := by
  obtain ⟨_, _, _, hl, _⟩ := evalQ_call_ok h
  exact limitMemory_one_pos Q hq _ hl

example : evalQ (V := Nat) 10 id (fun _ vs => .ok (vs.foldl (· + ·) 0)) (.call 0 [.lit 4, .call 0 [.lit 3, .lit 3]])
    = .ok (10, [3, 3, 6, 4, 6, 10]) := by rfl
example : evalQ (V := Nat) 10 id (fun _ vs => .ok (vs.foldl (· + ·) 0)) (.call 0 [.lit 5, .call 0 [.lit 3, .lit 3]])
    = .error .quota := by rfl

end Yaql.Props.C08
