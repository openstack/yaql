import Yaql.Props.EvalStore
import Yaql.Props.C04
/-!
# The store-passing evaluator refines C04's reference interpreter

Erasing the store gives `Model/Eval.lean`: a context ID `c` of a store denotes the chain of frames read off the
cells along the parent pointers (`abs`), up to frames that bind nothing (the call contexts of pure builtins, which
`Model/Eval.lean` does not push - `C04.empty_frame_invisible`): `CtxRel s c C`.  `refines_eval_full` states that on
related contexts `evalS` and `Eval.eval` return the same value / the same error, and related context objects.
-/
namespace Yaql.Props.EvalStore
open Yaql Yaql.Value Yaql.Eval Yaql.EvalStore
open Yaql.Context (alookup aset normName)

/-! ## abstraction of a store context to a frame chain -/

def frameOfCell (cell : Cell) : Frame :=
  { vars := cell.data, funs := cell.funs.map fun p => (p.1, p.2.1) }

def absF (cs : List Cell) : Nat → Nat → Ctx
  | 0, _ => []
  | fuel + 1, c =>
    match cs[c]? with
    | none => []
    | some cell => frameOfCell cell :: (match cell.parent with | none => [] | some p => absF cs fuel p)

def abs (cs : List Cell) (c : Nat) : Ctx := absF cs (c + 1) c

def emptyFrame (F : Frame) : Bool := F.vars.isEmpty && F.funs.isEmpty

/-- frames that bind nothing removed -/
def strip (C : Ctx) : Ctx := C.filter fun F => !emptyFrame F

/-- well-formed store: a parent is older than its child; a registered closure captured the context it is in -/
def WF (cs : List Cell) : Prop :=
  ∀ (i : Nat) (cell : Cell), cs[i]? = some cell →
    (∀ p, cell.parent = some p → p < i) ∧ (∀ f b d, (f, (b, d)) ∈ cell.funs → d = i)

def Ext (s s' : St) : Prop := ∃ own, s'.cells = s.cells ++ own

theorem Ext.refl (s : St) : Ext s s := ⟨[], by simp⟩
theorem Ext.trans {a b c : St} (h1 : Ext a b) (h2 : Ext b c) : Ext a c := by
  obtain ⟨o1, h1⟩ := h1; obtain ⟨o2, h2⟩ := h2
  exact ⟨o1 ++ o2, by rw [h2, h1, List.append_assoc]⟩

theorem WF.prefix {cs own : List Cell} (h : WF (cs ++ own)) : WF cs := by
  intro i cell hi
  exact h i cell (by rw [List.getElem?_append_left (List.getElem?_eq_some_iff.mp hi).1]; exact hi)

theorem absF_congr {cs cs' : List Cell} (hwf : WF cs) : ∀ (c f f' : Nat), c < f → c < f' →
    (∀ i ≤ c, cs'[i]? = cs[i]?) → absF cs' f' c = absF cs f c := by
  intro c
  induction c using Nat.strongRecOn with
  | _ c ih =>
    intro f f' hf hf' h
    obtain ⟨f, rfl⟩ := Nat.exists_eq_add_one.mpr (Nat.zero_lt_of_lt hf)
    obtain ⟨f', rfl⟩ := Nat.exists_eq_add_one.mpr (Nat.zero_lt_of_lt hf')
    simp only [absF, h c (Nat.le_refl c)]
    cases hcell : cs[c]? with
    | none => rfl
    | some cell =>
      simp only
      cases hp : cell.parent with
      | none => rfl
      | some p =>
        have hpc : p < c := (hwf c cell hcell).1 p hp
        simp only
        rw [ih p hpc f f' (by omega) (by omega) fun i hi => h i (by omega)]

theorem abs_congr {cs cs' : List Cell} (hwf : WF cs) (c : Nat) (h : ∀ i ≤ c, cs'[i]? = cs[i]?) : abs cs' c = abs cs c :=
  absF_congr hwf c _ _ (Nat.lt_succ_self c) (Nat.lt_succ_self c) h

theorem abs_cons {cs : List Cell} (hwf : WF cs) (c : Nat) (cell : Cell) (h : cs[c]? = some cell) :
    abs cs c = frameOfCell cell :: (match cell.parent with | none => [] | some p => abs cs p) := by
  show absF cs (c + 1) c = _
  simp only [absF, h]
  cases hp : cell.parent with
  | none => rfl
  | some p =>
    have hpc : p < c := (hwf c cell h).1 p hp
    simp only
    rw [absF_congr hwf p (p + 1) c (Nat.lt_succ_self p) hpc fun _ _ => rfl]
    rfl

theorem abs_append {cs own : List Cell} (hwf : WF (cs ++ own)) (c : Nat) (hc : c < cs.length) :
    abs (cs ++ own) c = abs cs c :=
  (abs_congr hwf c fun i hi => (List.getElem?_append_left (by omega)).symm).symm

/-- the context relation: a valid ID whose chain is `C` up to frames that bind nothing -/
def CtxRel (s : St) (c : Nat) (C : Ctx) : Prop := c < s.cells.length ∧ strip (abs s.cells c) = strip C

/-- what an ID denotes stays what it was (`CtxRel.mono`), so a fact about `s0` is a fact about every later store -/
def Later (s0 s : St) : Prop := WF s.cells ∧ Ext s0 s

theorem Later.refl {s : St} (h : WF s.cells) : Later s s := ⟨h, .refl s⟩
theorem Later.trans {a b c : St} (h1 : Later a b) (h2 : Later b c) : Later a c := ⟨h2.1, h1.2.trans h2.2⟩

theorem CtxRel.mono {s0 s : St} {c : Nat} {C : Ctx} (h : CtxRel s0 c C) (hl : Later s0 s) : CtxRel s c C := by
  obtain ⟨hwf, own, ho⟩ := hl
  refine ⟨by rw [ho, List.length_append]; have := h.1; omega, ?_⟩
  rw [ho] at hwf ⊢
  rw [abs_append hwf c h.1]; exact h.2

theorem strip_empty_cons (F : Frame) (C : Ctx) (h : emptyFrame F = true) : strip (F :: C) = strip C := by
  simp [strip, List.filter, h]

theorem strip_nonempty_cons (F : Frame) (C : Ctx) (h : emptyFrame F = false) : strip (F :: C) = F :: strip C := by
  simp [strip, List.filter, h]

theorem strip_cons_congr (F : Frame) {A B : Ctx} (h : strip A = strip B) : strip (F :: A) = strip (F :: B) := by
  simp only [strip, List.filter] at h ⊢
  cases emptyFrame F <;> simp [h]

theorem get_strip (x : Name) : ∀ C : Ctx, Ctx.get (strip C) x = Ctx.get C x
  | [] => rfl
  | F :: C => by
    cases he : emptyFrame F with
    | true =>
      have hv : F.vars = [] := by
        simp only [emptyFrame, Bool.and_eq_true, List.isEmpty_iff] at he; exact he.1
      rw [strip_empty_cons F C he, get_strip x C]
      simp [Ctx.get, hv, alookup]
    | false => rw [strip_nonempty_cons F C he]; simp only [Ctx.get, get_strip x C]

theorem getDataF_abs (cs : List Cell) (n : Name) : ∀ (f c : Nat),
    getDataF cs (normName n) f c = Ctx.get (absF cs f c) n := by
  intro f
  induction f with
  | zero => intro c; rfl
  | succ f ih =>
    intro c
    simp only [getDataF, absF]
    cases hcell : cs[c]? with
    | none => rfl
    | some cell =>
      simp only [Ctx.get, frameOfCell]
      cases alookup (normName n) cell.data with
      | some v => rfl
      | none =>
        simp only
        cases cell.parent with
        | none => rfl
        | some p => simp only; exact ih p

theorem getData_rel {s : St} {c : Nat} {C : Ctx} (h : CtxRel s c C) (x : Name) :
    getData s.cells c x = Ctx.get C x := by
  unfold getData
  rw [getDataF_abs]
  show Ctx.get (abs s.cells c) x = _
  rw [← get_strip x (abs s.cells c), h.2, get_strip]

/-- related run-time objects: data is the same data; a context ID denotes the context object's chain -/
def ObjRel (s : St) : ObjS → Obj → Prop
  | .data o, o' => o = o' ∧ ∀ C, o ≠ .ctx C
  | .ctx c, .ctx C => CtxRel s c C
  | .ctx _, _ => False

def ResRel (Q : St → α → β → Prop) (s : St) : Except Err α → R β → Prop
  | .ok a, .ok b => Q s a b
  | .error e, .error e' => e = e'
  | _, _ => False

def QEq {α : Type} : St → α → α → Prop := fun _ a b => a = b

theorem ResRel.byCases {Q : St → α → β → Prop} {s : St} {motive : ∀ x r, ResRel Q s x r → Prop}
    (ok : ∀ a b (h : Q s a b), motive (.ok a) (.ok b) h) (error : ∀ e, motive (.error e) (.error e) rfl) :
    ∀ x r (h : ResRel Q s x r), motive x r h
  | .ok _, .ok _, h => ok _ _ h
  | .error _, .error _, rfl => error _
  | .ok _, .error _, h | .error _, .ok _, h => False.elim h

theorem ResRel.refl {s : St} (x : R α) : ResRel QEq s x x := by cases x <;> rfl

theorem ResRel.eq {s : St} {x r : R α} (h : ResRel QEq s x r) : x = r := by
  induction x, r, h using ResRel.byCases with
  | ok a b h => exact congrArg _ h
  | error e => rfl

/-- after the store-passing computation: the store is well-formed, has only grown, and the outcome is the
    reference's outcome up to `Q` -/
def Post (Q : St → α → β → Prop) (s : St) (x : Except Err α × St) (r : R β) : Prop :=
  WF x.2.cells ∧ Ext s x.2 ∧ ResRel Q x.2 x.1 r

theorem Post.weaken {Q Q' : St → α → β → Prop} {s : St} {x : Except Err α × St} {r : R β}
    (h : Post Q s x r) (hq : ∀ s a b, Q s a b → Q' s a b) : Post Q' s x r := by
  obtain ⟨y, s1⟩ := x
  obtain ⟨h1, h2, h3⟩ := h
  refine ⟨h1, h2, ?_⟩
  induction y, r, h3 using ResRel.byCases with
  | ok a b h => exact hq _ a b h
  | error e => rfl

theorem Post.rebase {Q : St → α → β → Prop} {s s1 : St} {x : Except Err α × St} {r : R β}
    (hle : Ext s s1) (h : Post Q s1 x r) : Post Q s x r := ⟨h.1, hle.trans h.2.1, h.2.2⟩

/-! ## the simulation judgement

Everything below is stated from a store `s0` ON: the computation `m` is run in any later store.  The judgement is
closed under `>>=` without a word about the stores in between; a rule names a new store only where it hands out a
new fact about it (a related object, a new context). -/

def Sim (Q : St → α → β → Prop) (s0 : St) (m : M α) (r : R β) : Prop := ∀ s, Later s0 s → Post Q s (m s) r

section
variable {Q : St → α → β → Prop} {Q2 : St → γ → δ → Prop} {s0 : St}

theorem Sim.mono {s1 : St} {m : M α} {r : R β} (h : Sim Q s0 m r) (hl : Later s0 s1) : Sim Q s1 m r :=
  fun s hs => h s (hl.trans hs)

theorem Sim.ret {a : α} {b : β} (h : ∀ s, Later s0 s → Q s a b) : Sim Q s0 (pure a) (.ok b) :=
  fun s hs => ⟨hs.1, .refl s, h s hs⟩

theorem Sim.refl {a : α} : Sim QEq s0 (pure a) (.ok a) := .ret fun _ _ => rfl

theorem Sim.err (e : Err) : Sim Q s0 (fail e) (.error e) := fun s hs => ⟨hs.1, .refl s, rfl⟩

theorem Sim.lift (x : R α) : Sim QEq s0 (liftR x) x := fun s hs => ⟨hs.1, .refl s, .refl x⟩

theorem Sim.bind {m : M α} {f : α → M γ} {r : R β} {g : β → R δ} (h1 : Sim Q s0 m r)
    (h2 : ∀ s1 a b, Later s0 s1 → Q s1 a b → Sim Q2 s1 (f a) (g b)) : Sim Q2 s0 (m >>= f) (r >>= g) := by
  intro s hs
  rw [bind_run]
  obtain ⟨hwf, hle, hr⟩ := h1 s hs
  rcases hm : m s with ⟨x, s1⟩
  rw [hm] at hwf hle hr
  induction x, r, hr using ResRel.byCases with
  | error e => exact ⟨hwf, hle, rfl⟩
  | ok a b hq => exact (h2 s1 a b (hs.trans ⟨hwf, hle⟩) hq s1 (.refl hwf)).rebase hle

theorem Sim.bind_eq {m : M α} {f : α → M γ} {r : R α} {g : α → R δ} (h1 : Sim QEq s0 m r)
    (h2 : ∀ a, Sim Q2 s0 (f a) (g a)) : Sim Q2 s0 (m >>= f) (r >>= g) :=
  h1.bind fun _ a _ hl hq => hq ▸ (h2 a).mono hl

theorem Sim.step {m : M α} {b : β} {f : α → M γ} {r : R δ} (h1 : Sim Q s0 m (.ok b))
    (h2 : ∀ s1 a, Later s0 s1 → Q s1 a b → Sim Q2 s1 (f a) r) : Sim Q2 s0 (m >>= f) r := by
  intro s hs
  rw [bind_run]
  obtain ⟨hwf, hle, hr⟩ := h1 s hs
  rcases hm : m s with ⟨x, s1⟩
  rw [hm] at hwf hle hr
  cases x with
  | error e => exact hr.elim
  | ok a => exact (h2 s1 a (hs.trans ⟨hwf, hle⟩) hr s1 (.refl hwf)).rebase hle

theorem Sim.seq {m : M α} {a : α} {f : α → M γ} {r : R δ} (h1 : Sim QEq s0 m (.ok a)) (h2 : Sim Q2 s0 (f a) r) :
    Sim Q2 s0 (m >>= f) r :=
  h1.step fun _ _ hl hq => hq ▸ h2.mono hl

theorem Sim.ite {c : Prop} [Decidable c] {a b : M α} {a' b' : R β}
    (h1 : c → Sim Q s0 a a') (h2 : ¬c → Sim Q s0 b b') : Sim Q s0 (if c then a else b) (if c then a' else b') := by
  by_cases h : c
  · rw [if_pos h, if_pos h]; exact h1 h
  · rw [if_neg h, if_neg h]; exact h2 h

theorem captureS_run (m : M α) (s : St) : captureS m s = (capture (m s).1, (m s).2) := by
  unfold EvalStore.captureS Eval.capture
  rcases m s with ⟨e | a, s1⟩
  · cases e <;> rfl
  · rfl

theorem Sim.captured {m : M α} {r : R α} (h : Sim QEq s0 m r) : Sim QEq s0 (captureS m) (capture r) := by
  intro s hs
  obtain ⟨hwf, hle, hr⟩ := h s hs
  rw [captureS_run, hr.eq]
  exact ⟨hwf, hle, .refl _⟩

end

theorem WF.snoc {cs : List Cell} (h : WF cs) (cell : Cell) (hp : ∀ q, cell.parent = some q → q < cs.length)
    (hf : ∀ f b d, (f, (b, d)) ∈ cell.funs → d = cs.length) : WF (cs ++ [cell]) := by
  intro i c hi
  rcases Nat.lt_or_ge i cs.length with hl | hl
  · rw [List.getElem?_append_left hl] at hi; exact h i c hi
  · rw [List.getElem?_append_right hl] at hi
    cases hk : i - cs.length with
    | zero =>
      simp only [hk, List.getElem?_cons_zero, Option.some.injEq] at hi
      subst hi
      exact ⟨fun q hq => by have := hp q hq; omega, fun f b d hm => by have := hf f b d hm; omega⟩
    | succ k => simp [hk] at hi

theorem snoc_rel {s s2 : St} {p : Nat} {C : Ctx} (hwf : WF s.cells) (h : CtxRel s p C) (cell : Cell)
    (hp : cell.parent = some p) (hf : ∀ f b d, (f, (b, d)) ∈ cell.funs → d = s.cells.length)
    (hs : s2.cells = s.cells ++ [cell]) :
    Later s s2 ∧ CtxRel s2 s.cells.length (frameOfCell cell :: C) := by
  have hwf2 : WF (s.cells ++ [cell]) := hwf.snoc cell (fun q hq => by rw [hp] at hq; cases hq; exact h.1) hf
  refine ⟨⟨hs ▸ hwf2, _, hs⟩, by rw [hs]; simp, ?_⟩
  rw [hs, abs_cons hwf2 _ cell (by simp), hp]
  simp only
  rw [abs_append hwf2 p h.1]
  exact strip_cons_congr _ h.2

section
variable {Q : St → γ → δ → Prop} {s0 : St} {p : Nat} {C : Ctx} {k : Nat → M γ} {r : R δ} (hC : CtxRel s0 p C)
include hC

/-- `create_child_context()` on a related context: the new context denotes the same chain (its own frame binds
    nothing yet), so a call context allocated for a payload that writes nothing changes nothing for the reference -/
theorem Sim.child (h : ∀ s1 X, Later s0 s1 → CtxRel s1 X C → Sim Q s1 (k X) r) : Sim Q s0 (childCtx p >>= k) r := by
  intro s hs
  obtain ⟨hl, hX⟩ := snoc_rel (s2 := (childCtx p s).2) hs.1 (hC.mono hs) { parent := some p } rfl nofun rfl
  exact (h _ _ (hs.trans hl) ⟨hX.1, hX.2.trans (strip_empty_cons _ _ rfl)⟩ _ (.refl hl.1)).rebase hl.2

def DataWrite (W : Nat → M γ → M γ) (g : List (Name × Value) → List (Name × Value)) : Prop :=
  ∀ (X : Nat) (s : St) (cell : Cell) (k : M γ), s.cells[X]? = some cell →
    ∃ s', s'.cells = s.cells.set X { cell with data := g cell.data } ∧ W X k s = k s'

omit hC in
theorem DataWrite.comp {W1 W2 : Nat → M γ → M γ} {g1 g2 : List (Name × Value) → List (Name × Value)}
    (h1 : DataWrite W1 g1) (h2 : DataWrite W2 g2) : DataWrite (fun X k => W1 X (W2 X k)) (fun d => g2 (g1 d)) := by
  intro X s cell k h
  obtain ⟨s1, c1, r1⟩ := h1 X s cell (W2 X k) h
  obtain ⟨s2, c2, r2⟩ := h2 X s1 { cell with data := g1 cell.data } k
    (by rw [c1, List.getElem?_set_self (List.getElem?_eq_some_iff.mp h).1])
  exact ⟨s2, by rw [c2, c1, List.set_set], r1.trans r2⟩

theorem Sim.child_data {W : Nat → M γ → M γ} {g : List (Name × Value) → List (Name × Value)} (hW : DataWrite W g)
    (h : ∀ s1 X, Later s0 s1 → CtxRel s1 X ({ vars := g [] } :: C) → Sim Q s1 (k X) r) :
    Sim Q s0 (childCtx p >>= fun X => W X (k X)) r := by
  intro s hs
  obtain ⟨s2, hcells, hrun⟩ := hW s.cells.length (childCtx p s).2 { parent := some p } (k s.cells.length)
    (by simp [childCtx])
  obtain ⟨hl, hX⟩ := snoc_rel (s2 := s2) hs.1 (hC.mono hs) { parent := some p, data := g [] } rfl nofun
    (by rw [hcells]; simp [childCtx])
  show Post Q s (W _ (k _) (childCtx p s).2) r
  rw [hrun]
  exact (h _ _ (hs.trans hl) hX _ (.refl hl.1)).rebase hl.2

/-- `def`: the closure is registered in the child context it captured -/
theorem Sim.child_reg {fname : Name} {body : Expr}
    (h : ∀ s1 X, Later s0 s1 → CtxRel s1 X ({ funs := [(fname, body)] } :: C) → Sim Q s1 (k X) r) :
    Sim Q s0 (childCtx p >>= fun X => regFun X fname body X >>= fun _ => k X) r := by
  intro s hs
  obtain ⟨hl, hX⟩ := snoc_rel (s2 := (regFun s.cells.length fname body s.cells.length (childCtx p s).2).2) hs.1
    (hC.mono hs) { parent := some p, funs := [(fname, (body, s.cells.length))] } rfl (by simp)
    (by simp [regFun, modifyCell, childCtx, aset])
  exact (h _ _ (hs.trans hl) hX _ (.refl hl.1)).rebase hl.2

end

theorem setVar_cells (X : Nat) (k : Name) (v : Value) (s : St) (cell : Cell) (h : s.cells[X]? = some cell) :
    (setVar X k v s).2.cells = s.cells.set X { cell with data := aset (normName k) v cell.data } := by
  simp [setVar, modifyCell, h]

theorem DataWrite.publishNamed {γ : Type} : ∀ (kvs : List (Name × Value)),
    DataWrite (γ := γ) (fun X k => publishNamed X kvs >>= fun _ => k) (fun d => bindNamed d kvs)
  | [], X, s, cell, k, h => by
      obtain ⟨hl, rfl⟩ := List.getElem?_eq_some_iff.mp h
      exact ⟨s, (List.set_getElem_self hl).symm, rfl⟩
  | (n, v) :: r, X, s, cell, k, h => by
      have hs := setVar_cells X n v s cell h
      obtain ⟨s', hc, hrun⟩ := DataWrite.publishNamed r X (setVar X n v s).2
        { cell with data := aset (normName n) v cell.data } k
        (by rw [hs, List.getElem?_set_self (List.getElem?_eq_some_iff.mp h).1])
      exact ⟨s', by rw [hc, hs, List.set_set]; rfl, hrun⟩

theorem publishPos_eq (X : Nat) : ∀ (vs : VL) (i : Nat), publishPos X i vs = publishNamed X (bindPos i vs)
  | [], _ => rfl
  | v :: vs, i => by
      have e1 : EvalStore.publishPos X i (v :: vs) =
          (setVar X ('$' :: Nat.toDigits 10 i) v >>= fun _ => EvalStore.publishPos X (i + 1) vs) := rfl
      have e2 : EvalStore.publishNamed X (bindPos i (v :: vs)) =
          (setVar X ('$' :: Nat.toDigits 10 i) v >>= fun _ => EvalStore.publishNamed X (bindPos (i + 1) vs)) := rfl
      rw [e1, e2, publishPos_eq X vs (i + 1)]

theorem DataWrite.publishPos {γ : Type} (i : Nat) (vs : VL) :
    DataWrite (γ := γ) (fun X k => publishPos X i vs >>= fun _ => k) (fun d => bindNamed d (bindPos i vs)) := by
  simp only [publishPos_eq]
  exact DataWrite.publishNamed _

theorem WF.set_data {cs : List Cell} (h : WF cs) (X : Nat) (cell : Cell) (hc : cs[X]? = some cell)
    (d : List (Name × Value)) : WF (cs.set X { cell with data := d }) := by
  intro i c hi
  by_cases hx : i = X
  · subst hx
    rw [List.getElem?_set_self (List.getElem?_eq_some_iff.mp hc).1] at hi
    cases hi
    exact h i cell hc
  · rw [List.getElem?_set_ne (Ne.symm hx)] at hi
    exact h i c hi

/-! ## the pure helpers of C04 do not look into a context object -/

/-- `f` does not depend on the chain of a context object -/
def Obliv (f : Obj → β) : Prop := ∀ C C', f (.ctx C) = f (.ctx C')

theorem ObjRel.byCases {s : St} {motive : ∀ o o', ObjRel s o o' → Prop}
    (ctx : ∀ c C (h : CtxRel s c C), motive (.ctx c) (.ctx C) h)
    (val : ∀ v, motive (.data (.val v)) (.val v) ⟨rfl, nofun⟩)
    (lazy : ∀ a b, motive (.data (.lazy a b)) (.lazy a b) ⟨rfl, nofun⟩)
    (ordered : ∀ a b, motive (.data (.ordered a b)) (.ordered a b) ⟨rfl, nofun⟩) :
    ∀ o o' (h : ObjRel s o o'), motive o o' h
  | .ctx _, .ctx _, h => ctx _ _ h
  | .ctx _, .val _, h | .ctx _, .lazy _ _, h | .ctx _, .ordered _ _, h => False.elim h
  | .data (.ctx C), _, h => absurd rfl (h.2 C)
  | .data (.val _), _, ⟨rfl, _⟩ => val _
  | .data (.lazy _ _), _, ⟨rfl, _⟩ => lazy _ _
  | .data (.ordered _ _), _, ⟨rfl, _⟩ => ordered _ _

theorem erase_rel {s : St} {o : ObjS} {o' : Obj} (h : ObjRel s o o') {f : Obj → β} (hf : Obliv f) : f o.erase = f o' := by
  induction o, o', h using ObjRel.byCases with
  | ctx c C _ => exact hf _ _
  | _ => rfl

theorem obliv_toV : Obliv toV := fun _ _ => rfl
theorem obliv_toIter : Obliv toIter := fun _ _ => rfl
theorem obliv_truthy : Obliv truthyObj := fun _ _ => rfl
theorem obliv_isLazy : Obliv isLazy := fun _ _ => rfl
theorem obliv_listArg : Obliv listArg := fun _ _ => rfl
theorem obliv_unop (op : UnOp) : Obliv (unop op) := fun _ _ => by cases op <;> rfl
theorem obliv_indexer (vs : VL) : Obliv (fun o => indexer o vs) := fun _ _ => by
  cases vs with
  | nil => rfl
  | cons a r => cases r with
    | nil => rfl
    | cons b r2 => cases r2 <;> rfl

theorem toVS_rel {s : St} {o : ObjS} {o' : Obj} (h : ObjRel s o o') : toVS o = toV o' := erase_rel h obliv_toV
theorem toIterS_rel {s : St} {o : ObjS} {o' : Obj} (h : ObjRel s o o') : toIterS o = toIter o' := erase_rel h obliv_toIter
theorem truthyS_rel {s : St} {o : ObjS} {o' : Obj} (h : ObjRel s o o') : truthyS o = truthyObj o' := erase_rel h obliv_truthy
theorem isLazyS_rel {s : St} {o : ObjS} {o' : Obj} (h : ObjRel s o o') : isLazyS o = isLazy o' := erase_rel h obliv_isLazy

theorem ObjRel.mono {s0 s : St} {o : ObjS} {o' : Obj} (h : ObjRel s0 o o') (hl : Later s0 s) : ObjRel s o o' := by
  induction o, o', h using ObjRel.byCases with
  | ctx c C h => exact h.mono hl
  | _ => exact ⟨rfl, nofun⟩

theorem ObjRel.data {s : St} {o : Obj} (h : ∀ C, o ≠ .ctx C) : ObjRel s (.data o) o := ⟨rfl, h⟩

theorem Sim.obj {s0 : St} {o : ObjS} {o' : Obj} (h : ObjRel s0 o o') : Sim ObjRel s0 (pure o) (.ok o') :=
  .ret fun _ hs => h.mono hs

/-- the store-passing knot simulates the reference knot on related contexts -/
def SimEv (evS : EvS) (ev : Ev) : Prop :=
  ∀ {s0 : St} {c : Nat} {C : Ctx}, CtxRel s0 c C → ∀ e : Expr, Sim ObjRel s0 (evS c e) (ev C e)

section
variable {evS : EvS} {ev : Ev} (hev : SimEv evS ev) {s0 : St} {c : Nat} {C : Ctx} (hC : CtxRel s0 c C)
include hev hC

theorem sim_evalList : ∀ es : List Expr, Sim QEq s0 (evalListS evS c es) (evalList ev C es)
  | [] => .refl
  | e :: es => by
    unfold EvalStore.evalListS Eval.evalList
    refine (hev hC e).bind fun s1 o o' h1 ho => ?_
    rw [toVS_rel ho]
    exact (Sim.lift _).bind_eq fun v => ((sim_evalList es).mono h1).bind_eq fun vs => .refl

theorem sim_evalPairs : ∀ ps : List (Expr × Expr), Sim QEq s0 (evalPairsS evS c ps) (evalPairs ev C ps)
  | [] => .refl
  | (k, v) :: r => by
    unfold EvalStore.evalPairsS Eval.evalPairs
    refine (hev hC k).bind fun s1 o o' h1 ho => ?_
    rw [toVS_rel ho]
    refine (Sim.lift _).bind_eq fun kv => (hev (hC.mono h1) v).bind fun s2 o2 o2' h2 ho2 => ?_
    rw [toVS_rel ho2]
    exact (Sim.lift _).bind_eq fun vv => ((sim_evalPairs r).mono (h1.trans h2)).bind_eq fun rest => .refl

end

def ObjsRel (s : St) : List ObjS → List Obj → Prop
  | [], [] => True
  | a :: r, b :: r' => ObjRel s a b ∧ ObjsRel s r r'
  | _, _ => False

theorem ObjsRel.mono {s0 s : St} (hle : Ext s0 s) (hwf : WF s.cells) : ∀ {a : List ObjS} {b : List Obj},
    ObjsRel s0 a b → ObjsRel s a b
  | [], [], _ => trivial
  | _ :: _, _ :: _, h => ⟨h.1.mono ⟨hwf, hle⟩, ObjsRel.mono hle hwf h.2⟩
  | [], _ :: _, h => h.elim
  | _ :: _, [], h => h.elim

theorem sim_evalObjs {evS : EvS} {ev : Ev} (hev : SimEv evS ev) {s0 : St} {c : Nat} {C : Ctx} (hC : CtxRel s0 c C) :
    ∀ es : List Expr, Sim ObjsRel s0 (evalObjsS evS c es) (evalObjs ev C es)
  | [] => .ret fun _ _ => trivial
  | e :: es => by
    unfold EvalStore.evalObjsS Eval.evalObjs
    refine (hev hC e).bind fun s1 o o' h1 ho => ((sim_evalObjs hev hC es).mono h1).bind fun s2 os os' h2 hos => ?_
    exact .ret fun s3 h3 => ⟨ho.mono (h2.trans h3), hos.mono h3.2 h3.1⟩

/-! ## `_publish_params` builds the frame of a lambda application -/

theorem aset_fresh {α : Type} (k : Name) (v : α) : ∀ (l : List (Name × α)), (∀ p ∈ l, p.1 ≠ k) → aset k v l = l ++ [(k, v)]
  | [], _ => rfl
  | (k', v') :: r, h => by
    have hk : k' ≠ k := h (k', v') (by simp)
    simp only [aset, beq_iff_eq, hk, if_false, List.cons_append]
    rw [aset_fresh k v r (fun p hp => h p (by simp [hp]))]

theorem bindNamed_bindPos : ∀ (vs : VL) (i : Nat) (acc : List (Name × Value)),
    (∀ p ∈ acc, ∀ j, i ≤ j → p.1 ≠ Yaql.Props.C04.argName j) → bindNamed acc (bindPos i vs) = acc ++ bindPos i vs
  | [], _, acc, _ => by simp [bindPos, bindNamed]
  | v :: vs, i, acc, h => by
    simp only [bindPos, bindNamed]
    have hn : normName ('$' :: Nat.toDigits 10 i) = '$' :: Nat.toDigits 10 i :=
      Yaql.Props.C04.normName_argName i
    rw [hn, aset_fresh ('$' :: Nat.toDigits 10 i) v acc (fun p hp => h p hp i (Nat.le_refl _))]
    rw [bindNamed_bindPos vs (i + 1) _ (by
      intro p hp j hj
      rcases List.mem_append.mp hp with hp | hp
      · exact h p hp j (by omega)
      · simp only [List.mem_singleton] at hp
        subst hp
        intro heq
        have := Yaql.Props.C04.argName_inj (a := i) (b := j) heq
        omega)]
    simp

theorem argFrame_eq (vs : VL) (kw : List (Name × Value)) :
    argFrame vs kw = { vars := bindNamed (bindNamed [] (bindPos 1 vs)) kw } := by
  rw [argFrame, show bindNamed [] (bindPos 1 vs) = bindPos 1 vs by
    simpa using bindNamed_bindPos vs 1 [] (fun p hp => by cases hp)]

section
variable {evS : EvS} {ev : Ev} (hev : SimEv evS ev) {s0 : St} {D : Nat} {D' : Ctx} (hD : CtxRel s0 D D') (body : Expr)
include hev hD

theorem sim_applyLam (args : VL) : Sim ObjRel s0 (applyLamS evS D body args) (applyLam ev D' body args) := by
  unfold EvalStore.applyLamS Eval.applyLam
  refine .child_data hD (DataWrite.publishPos 1 args) fun s1 X _ hX => ?_
  rw [argFrame_eq]
  exact hev hX body

theorem sim_lamV (args : VL) : Sim QEq s0 (lamVS evS D body args) (lamV ev D' body args) := by
  unfold EvalStore.lamVS Eval.lamV
  refine (sim_applyLam hev hD body args).bind fun s1 o o' _ ho => ?_
  rw [toVS_rel ho]
  exact .lift _

theorem sim_lamB (args : VL) : Sim QEq s0 (lamBS evS D body args) (lamB ev D' body args) := by
  unfold EvalStore.lamBS Eval.lamB
  refine (sim_applyLam hev hD body args).bind fun s1 o o' _ ho => ?_
  rw [truthyS_rel ho]
  exact .refl

theorem sim_lamMany (x : Value) : Sim QEq s0 (lamManyS evS D body x) (lamMany ev D' body x) := by
  unfold EvalStore.lamManyS Eval.lamMany
  refine (sim_applyLam hev hD body [x]).bind fun s1 o o' _ ho => ?_
  induction o, o', ho using ObjRel.byCases with
  | ctx c C _ => exact .err _
  | _ =>
    dsimp only
    generalize toIter _ = it
    cases it with
    | some it => exact .refl
    | none => exact (Sim.lift _).bind_eq fun v => .refl

end

def SimFn (s0 : St) (f : α → M β) (g : α → R β) : Prop := ∀ x, Sim QEq s0 (f x) (g x)

section
variable {s0 : St}

theorem sim_mapL {f : Value → M Value} {g : Value → R Value} (hf : SimFn s0 f g) :
    ∀ (xs : VL) (e : Option Err), Sim QEq s0 (mapLS f xs e) (mapL g xs e)
  | [], e => .refl
  | x :: xs, e => by
    unfold EvalStore.mapLS Eval.mapL
    refine (hf x).captured.bind_eq fun r => ?_
    cases r with
    | error er => exact .refl
    | ok v => exact (sim_mapL hf xs e).bind_eq fun r => .refl

theorem sim_filterL {f : Value → M Bool} {g : Value → R Bool} (hf : SimFn s0 f g) :
    ∀ (xs : VL) (e : Option Err), Sim QEq s0 (filterLS f xs e) (filterL g xs e)
  | [], e => .refl
  | x :: xs, e => by
    unfold EvalStore.filterLS Eval.filterL
    refine (hf x).captured.bind_eq fun r => ?_
    cases r with
    | error er => exact .refl
    | ok v => exact (sim_filterL hf xs e).bind_eq fun r => .refl

theorem sim_flatMapL {f : Value → M (VL × Option Err)} {g : Value → R (VL × Option Err)} (hf : SimFn s0 f g) :
    ∀ (xs : VL) (e : Option Err), Sim QEq s0 (flatMapLS f xs e) (flatMapL g xs e)
  | [], e => .refl
  | x :: xs, e => by
    unfold EvalStore.flatMapLS Eval.flatMapL
    refine (hf x).captured.bind_eq fun r => ?_
    rcases r with er | ⟨vs, _ | er⟩
    · exact .refl
    · exact (sim_flatMapL hf xs e).bind_eq fun r => .refl
    · exact .refl

theorem sim_takeWhileL {f : Value → M Bool} {g : Value → R Bool} (hf : SimFn s0 f g) :
    ∀ (xs : VL) (e : Option Err), Sim QEq s0 (takeWhileLS f xs e) (takeWhileL g xs e)
  | [], e => .refl
  | x :: xs, e => by
    unfold EvalStore.takeWhileLS Eval.takeWhileL
    refine (hf x).captured.bind_eq fun r => ?_
    rcases r with er | _ | _
    · exact .refl
    · exact .refl
    · exact (sim_takeWhileL hf xs e).bind_eq fun r => .refl

theorem sim_dropWhileL {f : Value → M Bool} {g : Value → R Bool} (hf : SimFn s0 f g) :
    ∀ (xs : VL) (e : Option Err), Sim QEq s0 (dropWhileLS f xs e) (dropWhileL g xs e)
  | [], e => .refl
  | x :: xs, e => by
    unfold EvalStore.dropWhileLS Eval.dropWhileL
    refine (hf x).captured.bind_eq fun r => ?_
    rcases r with er | _ | _
    · exact .refl
    · exact .refl
    · exact sim_dropWhileL hf xs e

theorem sim_findL {f : Value → M Bool} {g : Value → R Bool} (hf : SimFn s0 f g) :
    ∀ (xs : VL) (e : Option Err) (i : Nat), Sim QEq s0 (findLS f i xs e) (findL g i xs e)
  | [], none, _ => .refl
  | [], some e, _ => .err e
  | x :: xs, e, i => by
    unfold EvalStore.findLS Eval.findL
    refine (hf x).bind_eq fun b => ?_
    cases b with
    | true => exact .refl
    | false => exact sim_findL hf xs e (i + 1)

theorem sim_foldL {f : Value → Value → M Value} {g : Value → Value → R Value} (hf : ∀ a, SimFn s0 (f a) (g a)) :
    ∀ (xs : VL) (e : Option Err) (acc : Value), Sim QEq s0 (foldLS f acc xs e) (foldL g acc xs e)
  | [], none, _ => .refl
  | [], some e, _ => .err e
  | x :: xs, e, acc => by
    unfold EvalStore.foldLS Eval.foldL
    exact (hf acc x).bind_eq fun a => sim_foldL hf xs e a

theorem sim_toDictL {kf vf : Value → M Value} {kg vg : Value → R Value} (hk : SimFn s0 kf kg) (hv : SimFn s0 vf vg) :
    ∀ (xs : VL) (e : Option Err) (acc : KV), Sim QEq s0 (toDictLS kf vf acc xs e) (toDictL kg vg acc xs e)
  | [], none, _ => .refl
  | [], some e, _ => .err e
  | x :: xs, e, acc => by
    unfold EvalStore.toDictLS Eval.toDictL
    exact (hk x).bind_eq fun k => (hv x).bind_eq fun v => .ite (fun _ => sim_toDictL hk hv xs e _) fun _ => .err _

theorem sim_keysL {f : Value → M Value} {g : Value → R Value} (hf : SimFn s0 f g) :
    ∀ xs : VL, Sim QEq s0 (keysLS f xs) (keysL g xs)
  | [] => .refl
  | x :: xs => by
    unfold EvalStore.keysLS Eval.keysL
    exact (hf x).captured.bind_eq fun k => (sim_keysL hf xs).bind_eq fun r => .refl

end
end Yaql.Props.EvalStore
