import Yaql.Model.EvalLimits
import Yaql.Props.C08
/-!
# Raising the limits (C08 over the evaluator, part 1: the simulation)

`evalL c lo` and `evalL c hi` with `lo ≤ hi` (a larger iterator limit / a larger quota / a disabled one) are
related by `RelR RelO`: unless the run under `hi` makes no prediction, the run under `lo`
* ended in one of the two limit exceptions (or makes no prediction itself), or
* raised the very exception the run under `hi` raises, or
* returned a related object: the same data, or a lazy sequence that is a *prefix* of the other one ending in
  a limit exception (a generator that would hit the limit if it were consumed that far).
-/
namespace Yaql.Props.C08Eval
open Yaql Yaql.Value Yaql.EvalLimits
open Yaql.Eval (Ctx Expr Fn BinOp UnOp Name VL KV Frame Final)

/-! ## the order on limits -/

/-- `b` is at least as permissive as `a` -/
def Lim.le (a b : Lim) : Prop :=
  (b.N = none ∨ ∃ n m, a.N = some n ∧ b.N = some m ∧ n ≤ m) ∧ (b.Q ≤ 0 ∨ (0 < a.Q ∧ a.Q ≤ b.Q))

theorem Lim.le_refl (a : Lim) : Lim.le a a := by
  refine ⟨?_, ?_⟩
  · cases h : a.N with
    | none => exact Or.inl rfl
    | some n => exact Or.inr ⟨n, n, rfl, rfl, Nat.le_refl _⟩
  · by_cases h : a.Q ≤ 0
    · exact Or.inl h
    · exact Or.inr ⟨by omega, Int.le_refl _⟩

theorem Lim.le_off (a : Lim) : Lim.le a Lim.off := ⟨Or.inl rfl, Or.inl (Int.le_refl _)⟩

/-! ## the relation on outcomes -/

@[simp] theorem ok_bind (a : α) (f : α → RL β) : (Except.ok a >>= f) = f a := rfl
@[simp] theorem error_bind (e : LErr) (f : α → RL β) : ((Except.error e : RL α) >>= f) = .error e := rfl
@[simp] theorem pure_eq (a : α) : (pure a : RL α) = .ok a := rfl

/-- `lo` (the run under the smaller limits) against `hi` -/
def RelR (ra : α → β → Prop) (lo : RL α) (hi : RL β) : Prop :=
  (∃ eh, hi = .error eh ∧ noPred eh = true)
  ∨ (∃ el, lo = .error el ∧ (isLim el = true ∨ noPred el = true))
  ∨ (∃ e, lo = .error e ∧ hi = .error e)
  ∨ (∃ a b, lo = .ok a ∧ hi = .ok b ∧ ra a b)

section
variable {ra : α → β → Prop}

theorem RelR.nopHi {e : LErr} (h : noPred e = true) (x : RL α) : RelR ra x (.error e) := Or.inl ⟨e, rfl, h⟩

theorem RelR.lo {e : LErr} (h : isLim e = true ∨ noPred e = true) (y : RL β) : RelR ra (.error e) y :=
  Or.inr (Or.inl ⟨e, rfl, h⟩)

theorem RelR.err (e : LErr) : RelR ra (.error e) (.error e) := Or.inr (Or.inr (Or.inl ⟨e, rfl, rfl⟩))

theorem RelR.ok {a : α} {b : β} (h : ra a b) : RelR ra (.ok a) (.ok b) := Or.inr (Or.inr (Or.inr ⟨a, b, rfl, rfl, h⟩))

theorem RelR.lim {e : LErr} (h : isLim e = true) (y : RL β) : RelR ra (.error e) y := RelR.lo (Or.inl h) y
theorem RelR.nopLo {e : LErr} (h : noPred e = true) (y : RL β) : RelR ra (.error e) y := RelR.lo (Or.inr h) y
theorem RelR.ood (y : RL β) : RelR ra (.error (.base .outOfDomain)) y := RelR.nopLo rfl y
theorem RelR.quota (y : RL β) : RelR ra (.error .quota) y := RelR.lim rfl y
theorem RelR.tooLarge (y : RL β) : RelR ra (.error .tooLarge) y := RelR.lim rfl y

theorem RelR.bind {rb : γ → δ → Prop} {x : RL α} {y : RL β} {f : α → RL γ} {g : β → RL δ}
    (h : RelR ra x y) (hf : ∀ a b, ra a b → RelR rb (f a) (g b)) : RelR rb (x >>= f) (y >>= g) := by
  rcases h with ⟨eh, rfl, hn⟩ | ⟨el, rfl, hl⟩ | ⟨e, rfl, rfl⟩ | ⟨a, b, rfl, rfl, hab⟩
  · exact RelR.nopHi hn _
  · exact RelR.lo hl _
  · exact RelR.err e
  · exact hf a b hab

theorem RelR.mono {rb : α → β → Prop} {x : RL α} {y : RL β} (h : RelR ra x y) (hab : ∀ a b, ra a b → rb a b) :
    RelR rb x y := by
  have := h.bind (f := pure) (g := pure) (fun a b h => RelR.ok (hab a b h))
  rwa [bind_pure, bind_pure] at this

end

theorem RelR.refl {ra : α → α → Prop} (hr : ∀ a, ra a a) (x : RL α) : RelR ra x x := by
  cases x with
  | error e => exact RelR.err e
  | ok a => exact RelR.ok (hr a)

theorem RelR.bindEq {rb : γ → δ → Prop} {x y : RL α} {f : α → RL γ} {g : α → RL δ}
    (h : RelR Eq x y) (hf : ∀ a, RelR rb (f a) (g a)) : RelR rb (x >>= f) (y >>= g) :=
  h.bind (fun a _ hab => hab ▸ hf a)

theorem RelR.unit {x y : RL Unit} (h : RelR (fun _ _ => True) x y) : RelR Eq x y :=
  h.mono (fun _ _ _ => rfl)

theorem isLim_not_noPred {e : LErr} (h : isLim e = true) : noPred e = false := by
  cases e with
  | base b => cases h
  | quota => rfl
  | tooLarge => rfl

/-- captured outcomes (the tail of a generator) -/
def RelC (ra : α → β → Prop) (lo : Except LErr α) (hi : Except LErr β) : Prop :=
  (∃ e, lo = .error e ∧ isLim e = true) ∨ (∃ e, lo = .error e ∧ hi = .error e) ∨ (∃ a b, lo = .ok a ∧ hi = .ok b ∧ ra a b)

theorem capture_ok (a : α) : capture (.ok a : RL α) = .ok (.ok a) := rfl
theorem capture_err_nop {e : LErr} (h : noPred e = true) : capture (.error e : RL α) = .error e := by
  simp [capture, h]
theorem capture_err {e : LErr} (h : noPred e = false) : capture (.error e : RL α) = .ok (.error e) := by
  simp [capture, h]

theorem RelR.capture {ra : α → β → Prop} {x : RL α} {y : RL β} (h : RelR ra x y) :
    RelR (RelC ra) (capture x) (capture y) := by
  rcases h with ⟨eh, rfl, hn⟩ | ⟨el, rfl, hl | hl⟩ | ⟨e, rfl, rfl⟩ | ⟨a, b, rfl, rfl, hab⟩
  · rw [capture_err_nop hn]; exact RelR.nopHi hn _
  · rw [capture_err (isLim_not_noPred hl)]
    cases y with
    | ok b => exact RelR.ok (Or.inl ⟨el, rfl, hl⟩)
    | error e =>
      cases hn : noPred e with
      | true => rw [capture_err_nop hn]; exact RelR.nopHi hn _
      | false => rw [capture_err hn]; exact RelR.ok (Or.inl ⟨el, rfl, hl⟩)
  · rw [capture_err_nop hl]; exact RelR.nopLo hl _
  · cases hn : noPred e with
    | true => rw [capture_err_nop hn, capture_err_nop hn]; exact RelR.nopHi hn _
    | false => rw [capture_err hn, capture_err hn]; exact RelR.ok (Or.inr (Or.inl ⟨e, rfl, rfl⟩))
  · exact RelR.ok (Or.inr (Or.inr ⟨a, b, rfl, rfl, hab⟩))

inductive RelL (r : α → β → Prop) : List α → List β → Prop where
  | nil : RelL r [] []
  | cons {a : α} {b : β} {as : List α} {bs : List β} : r a b → RelL r as bs → RelL r (a :: as) (b :: bs)

def LimOrNop (x : RL α) : Prop := ∀ e, x = .error e → isLim e = true ∨ noPred e = true

theorem LimOrNop.ok (a : α) : LimOrNop (.ok a : RL α) := by intro e h; cases h
theorem LimOrNop.lim {e : LErr} (h : isLim e = true) : LimOrNop (.error e : RL α) := by
  intro e' h'; cases h'; exact Or.inl h
theorem LimOrNop.bind {x : RL α} {f : α → RL β} (hx : LimOrNop x) (hf : ∀ a, LimOrNop (f a)) : LimOrNop (x >>= f) := by
  cases x with
  | error e => intro e' h'; cases h'; exact hx e rfl
  | ok a => exact hf a

theorem RelR.ofCheck {x y : RL Unit} (hx : LimOrNop x) (h : x = .ok () → y = .ok ()) : RelR Eq x y := by
  cases x with
  | error e => exact RelR.lo (hx e rfl) _
  | ok u => rw [h rfl]; exact RelR.ok rfl

/-! ## lazy sequences: equal, or a prefix that ends in a limit exception -/

def RelS (a b : VL × Option LErr) : Prop :=
  a = b ∨ (∃ e, a.2 = some e ∧ isLim e = true ∧ a.1 <+: b.1)

theorem RelS.refl (a : VL × Option LErr) : RelS a a := Or.inl rfl

theorem RelS.cut {xs ys : VL} {e : LErr} (he : isLim e = true) (h : xs <+: ys) (t : Option LErr) :
    RelS (xs, some e) (ys, t) := Or.inr ⟨e, rfl, he, h⟩

/-- the two constructors, as an elimination on pairs that need not be spelt by components -/
theorem RelS.cases {s s' : VL × Option LErr} (h : RelS s s') :
    s = s' ∨ ∃ xs e ys t, s = (xs, some e) ∧ s' = (ys, t) ∧ isLim e = true ∧ xs <+: ys := by
  rcases h with h | ⟨e, he, hl, hp⟩
  · exact Or.inl h
  · obtain ⟨xs, o⟩ := s
    obtain ⟨ys, t⟩ := s'
    dsimp only at he hp
    subst he
    exact Or.inr ⟨xs, e, ys, t, rfl, rfl, hl, hp⟩

theorem RelS.trans {a b c : VL × Option LErr} (h1 : RelS a b) (h2 : RelS b c) : RelS a c := by
  rcases h1 with rfl | ⟨e, he, hl, hp⟩
  · exact h2
  · refine Or.inr ⟨e, he, hl, hp.trans ?_⟩
    rcases h2 with rfl | ⟨_, _, _, hp'⟩
    · exact List.prefix_refl _
    · exact hp'

theorem RelS.append (vs : VL) {a b : VL × Option LErr} (h : RelS a b) : RelS (vs ++ a.1, a.2) (vs ++ b.1, b.2) := by
  rcases h with rfl | ⟨e, h1, h2, h3⟩
  · exact Or.inl rfl
  · exact Or.inr ⟨e, h1, h2, by simpa using h3⟩

theorem RelS.cons (v : Value) {a b : VL × Option LErr} (h : RelS a b) : RelS (v :: a.1, a.2) (v :: b.1, b.2) :=
  RelS.append [v] h

theorem RelS.uncons {x : Value} {xs : VL} {e : Option LErr} {ys : VL} {e' : Option LErr}
    (h : RelS (x :: xs, e) (ys, e')) : ∃ ys', ys = x :: ys' ∧ RelS (xs, e) (ys', e') := by
  rcases h with h | ⟨e0, h1, h2, h3⟩
  · cases h; exact ⟨xs, rfl, RelS.refl _⟩
  · obtain ⟨t, rfl⟩ := h3
    exact ⟨xs ++ t, rfl, Or.inr ⟨e0, h1, h2, List.prefix_append _ _⟩⟩

theorem RelS.nil {e : Option LErr} {ys : VL} {e' : Option LErr} (h : RelS ([], e) (ys, e')) :
    (ys = [] ∧ e' = e) ∨ (∃ e0, e = some e0 ∧ isLim e0 = true) := by
  rcases h with h | ⟨e0, h1, h2, _⟩
  · cases h; exact Or.inl ⟨rfl, rfl⟩
  · exact Or.inr ⟨e0, h1, h2⟩

inductive RelO : ObjL → ObjL → Prop where
  | refl (o : ObjL) : RelO o o
  | lazy {xs : VL} {e : Option LErr} {ys : VL} {e' : Option LErr} : RelS (xs, e) (ys, e') → RelO (.lazy xs e) (.lazy ys e')
  | ordered {xs : VL} {e : Option LErr} {ys : VL} {e' : Option LErr} :
      RelS (xs, e) (ys, e') → RelO (.ordered xs e) (.ordered ys e')

/-- the recursive calls of the two runs (what `stepL` is closed over) are related -/
def LeEv (ev ev' : EvL) : Prop := ∀ C e, RelR RelO (ev C e) (ev' C e)

/-! ## the primitives that depend on the limits -/

theorem limitMemoryGo_mono {q q' : Int} (h : q ≤ q') : ∀ (l : List (Int × Nat)) (t : Int),
    Limits.limitMemoryGo q t l = true → Limits.limitMemoryGo q' t l = true
  | [], _, _ => rfl
  | (c, s) :: r, t, hl => by
    simp only [Limits.limitMemoryGo] at hl ⊢
    split at hl
    · cases hl
    · rename_i hq
      have : ¬ (t + c * (s : Int) > q') := by omega
      simp only [this, if_false]
      exact limitMemoryGo_mono h r _ hl

theorem limitMemory_mono {q q' : Int} (hq0 : ¬ q ≤ 0) (h : q ≤ q') (l : List (Int × Nat))
    (hl : Limits.limitMemory q l = true) : Limits.limitMemory q' l = true := by
  unfold Limits.limitMemory at hl ⊢
  rw [if_neg hq0] at hl
  rw [if_neg (by omega)]
  exact limitMemoryGo_mono h _ _ hl

theorem measureAll_cases (L : Lim) (ss : List (Option Sz)) :
    measureAll L ss = .ok () ∨ measureAll L ss = .error .quota ∨ measureAll L ss = .error (.base .outOfDomain) := by
  unfold measureAll
  split
  · exact Or.inl rfl
  · split
    · exact Or.inr (Or.inr rfl)
    · split
      · exact Or.inl rfl
      · split
        · exact Or.inr (Or.inr rfl)
        · exact Or.inr (Or.inl rfl)

theorem measure_cases (L : Lim) (s : Option Sz) :
    EvalLimits.measure L s = .ok () ∨ EvalLimits.measure L s = .error .quota
      ∨ EvalLimits.measure L s = .error (.base .outOfDomain) := measureAll_cases L [s]

theorem measureAll_err {L : Lim} {ss : List (Option Sz)} {e : LErr} (h : measureAll L ss = .error e) :
    isLim e = true ∨ e = .base .outOfDomain := by
  rcases measureAll_cases L ss with hm | hm | hm <;> rw [hm] at h <;> cases h
  · exact Or.inl rfl
  · exact Or.inr rfl

theorem measureAll_lon (L : Lim) (ss : List (Option Sz)) : LimOrNop (measureAll L ss) :=
  fun _ he => (measureAll_err he).imp_right fun h => by rw [h]; rfl

theorem measureAll_ok_mono {lo hi : Lim} (h : Lim.le lo hi) {ss : List (Option Sz)} (hm : measureAll lo ss = .ok ()) :
    measureAll hi ss = .ok () := by
  unfold measureAll at hm ⊢
  by_cases hhi : hi.Q ≤ 0
  · rw [if_pos hhi]
  · -- the quota is in force under `hi`, hence under `lo`, where the check passed on the upper bounds of the sizes
    obtain ⟨hlo, hq⟩ : 0 < lo.Q ∧ lo.Q ≤ hi.Q := h.2.resolve_left hhi
    rw [if_neg hhi]
    rw [if_neg (by omega)] at hm
    cases hs : allSome ss with
    | none => rw [hs] at hm; cases hm
    | some ns =>
      rw [hs] at hm
      dsimp only at hm ⊢
      cases h3 : Limits.limitMemory lo.Q (ns.map fun n => ((1 : Int), n.hi)) with
      | true => rw [limitMemory_mono (by omega) hq _ h3, if_pos rfl]
      | false =>
        rw [h3] at hm
        simp only [Bool.false_eq_true, if_false] at hm
        split at hm <;> cases hm

theorem measure_ok_mono {lo hi : Lim} (h : Lim.le lo hi) {s : Option Sz} (hm : EvalLimits.measure lo s = .ok ()) :
    EvalLimits.measure hi s = .ok () := measureAll_ok_mono h hm

theorem measureAll_rel {lo hi : Lim} (h : Lim.le lo hi) (ss : List (Option Sz)) :
    RelR Eq (measureAll lo ss) (measureAll hi ss) := RelR.ofCheck (measureAll_lon lo ss) (measureAll_ok_mono h)

theorem measure_rel {lo hi : Lim} (h : Lim.le lo hi) (s : Option Sz) :
    RelR Eq (measure lo s) (measure hi s) := measureAll_rel h _

theorem measureEach_rel {lo hi : Lim} (h : Lim.le lo hi) : ∀ ss : List (Option Sz),
    RelR Eq (measureEach lo ss) (measureEach hi ss)
  | [] => RelR.ok rfl
  | s :: r => by
    unfold measureEach
    exact (measure_rel h s).bindEq fun _ => measureEach_rel h r

theorem limitLen_lon (L : Lim) (n : Nat) : LimOrNop (limitLen L n) := by
  unfold limitLen
  split
  · exact LimOrNop.ok _
  · exact LimOrNop.lim rfl

theorem limitLen_rel {lo hi : Lim} (h : Lim.le lo hi) (n : Nat) : RelR Eq (limitLen lo n) (limitLen hi n) := by
  refine RelR.ofCheck (limitLen_lon lo n) fun hm => ?_
  unfold limitLen Limits.limitSized at hm ⊢
  rcases h.1 with hn | ⟨a, b, ha, hb, hab⟩
  · rw [hn]; rfl
  · rw [ha] at hm
    rw [hb]
    by_cases h1 : n ≤ a
    · have h2 : n ≤ b := by omega
      simp only [Convert.Limit.admits, h2, decide_true, if_true]
    · simp only [Convert.Limit.admits, h1, decide_false] at hm
      cases hm

theorem limitLazy_le (L : Lim) (s : VL × Option LErr) : RelS (limitLazy L s) s := by
  unfold limitLazy
  split
  · exact RelS.refl _
  · split
    · exact RelS.cut rfl (List.take_prefix _ _) _
    · exact RelS.refl _

theorem limitLazy_length_le {L : Lim} {a : Nat} (ha : L.N = some a) (s : VL × Option LErr) :
    (limitLazy L s).1.length ≤ a := by
  unfold limitLazy
  rw [ha]
  dsimp only
  split
  · rw [List.length_take]; exact Nat.min_le_left _ _
  · omega

theorem limitLazy_rel {lo hi : Lim} (h : Lim.le lo hi) {s s' : VL × Option LErr} (hs : RelS s s') :
    RelS (limitLazy lo s) (limitLazy hi s') := by
  have hlo : RelS (limitLazy lo s) s' := (limitLazy_le lo s).trans hs
  have hlen : ∀ a, lo.N = some a → (limitLazy lo s).1.length ≤ a := fun a ha => limitLazy_length_le ha s
  generalize limitLazy lo s = t at hlo hlen
  unfold limitLazy
  rcases h.1 with hn | ⟨a, b, ha, hb, hab⟩
  · rw [hn]; exact hlo
  · rw [hb]
    dsimp only
    split
    · -- `hi` cuts at `b`: what `lo` let through is no longer than `a ≤ b`, so it was cut as well
      rename_i hcut
      have hlen := hlen a ha
      rcases hlo with heq | ⟨e, he, hl, hp⟩
      · rw [heq] at hlen; omega
      · exact Or.inr ⟨e, he, hl, List.prefix_take_iff.2 ⟨hp, by omega⟩⟩
    · exact hlo

/-! ## computations that never raise a definite exception (generators capture them) -/

def Tot (x : RL α) : Prop := ∀ e, x = .error e → noPred e = true

theorem Tot.ok (a : α) : Tot (.ok a : RL α) := by intro e h; cases h
theorem Tot.pure (a : α) : Tot (pure a : RL α) := Tot.ok a
theorem Tot.nop {e : LErr} (h : noPred e = true) : Tot (.error e : RL α) := by intro e' h'; cases h'; exact h

theorem Tot.bind {x : RL α} {f : α → RL β} (hx : Tot x) (hf : ∀ a, Tot (f a)) : Tot (x >>= f) := by
  cases x with
  | error e => intro e' h'; cases h'; exact hx e rfl
  | ok a => exact hf a

theorem Tot.capture (x : RL α) : Tot (capture x) := by
  cases x with
  | ok a => exact Tot.ok _
  | error e =>
    cases hn : noPred e with
    | true => rw [capture_err_nop hn]; exact Tot.nop hn
    | false => rw [capture_err hn]; exact Tot.ok _

/-- a generator that is cut by a limit exception before it yields anything is related to whatever the other
    run's generator turns out to be -/
theorem RelR.cutTot {e : LErr} (he : isLim e = true) {y : RL (VL × Option LErr)} (hy : Tot y) :
    RelR RelS (.ok ([], some e)) y := by
  cases y with
  | error e' => exact RelR.nopHi (hy e' rfl) _
  | ok s => exact RelR.ok (RelS.cut he List.nil_prefix _)

theorem mapL_tot (f : Value → RL Value) : ∀ xs e, Tot (mapL f xs e)
  | [], e => Tot.ok _
  | x :: xs, e => by
    unfold mapL
    apply Tot.bind (Tot.capture _); intro r
    cases r with
    | error er => exact Tot.pure _
    | ok v => exact Tot.bind (mapL_tot f xs e) (fun _ => Tot.pure _)

theorem filterL_tot (f : Value → RL Bool) : ∀ xs e, Tot (filterL f xs e)
  | [], e => Tot.ok _
  | x :: xs, e => by
    unfold filterL
    apply Tot.bind (Tot.capture _); intro r
    cases r with
    | error er => exact Tot.pure _
    | ok v => exact Tot.bind (filterL_tot f xs e) (fun _ => Tot.pure _)

theorem flatMapL_tot (f : Value → RL (VL × Option LErr)) : ∀ xs e, Tot (flatMapL f xs e)
  | [], e => Tot.ok _
  | x :: xs, e => by
    unfold flatMapL
    apply Tot.bind (Tot.capture _); intro r
    match r with
    | .error er => exact Tot.pure _
    | .ok (vs, some er) => exact Tot.pure _
    | .ok (vs, none) => exact Tot.bind (flatMapL_tot f xs e) (fun _ => Tot.pure _)

theorem takeWhileL_tot (f : Value → RL Bool) : ∀ xs e, Tot (takeWhileL f xs e)
  | [], e => Tot.ok _
  | x :: xs, e => by
    unfold takeWhileL
    apply Tot.bind (Tot.capture _); intro r
    match r with
    | .error er => exact Tot.pure _
    | .ok true => exact Tot.bind (takeWhileL_tot f xs e) (fun _ => Tot.pure _)
    | .ok false => exact Tot.pure _

theorem dropWhileL_tot (f : Value → RL Bool) : ∀ xs e, Tot (dropWhileL f xs e)
  | [], e => Tot.ok _
  | x :: xs, e => by
    unfold dropWhileL
    apply Tot.bind (Tot.capture _); intro r
    match r with
    | .error er => exact Tot.pure _
    | .ok true => exact dropWhileL_tot f xs e
    | .ok false => exact Tot.pure _

theorem keysL_tot (f : Value → RL Value) : ∀ xs, Tot (keysL f xs)
  | [] => Tot.ok _
  | x :: xs => by
    unfold keysL
    apply Tot.bind (Tot.capture _); intro k
    exact Tot.bind (keysL_tot f xs) (fun _ => Tot.pure _)

/-! ## generators under related inputs -/

theorem RelR.genNil {e : Option LErr} {ys : VL} {e' : Option LErr} (hs : RelS ([], e) (ys, e'))
    {y : VL → Option LErr → RL (VL × Option LErr)} (hy : ∀ ys e', Tot (y ys e')) (h0 : ∀ e, y [] e = .ok ([], e)) :
    RelR RelS (.ok ([], e)) (y ys e') := by
  rcases hs.nil with ⟨rfl, rfl⟩ | ⟨e0, rfl, hl⟩
  · rw [h0]; exact RelR.ok (RelS.refl _)
  · exact RelR.cutTot hl (hy _ _)

/-- one round of a generator: the call on the head is captured, an exception ends the stream (`hk`, `hk'`), and
    the `hi` side as a whole raises nothing definite -/
theorem RelR.round {ra : α → β → Prop} {x : RL α} {y : RL β} (h : RelR ra x y)
    {k : Except LErr α → RL (VL × Option LErr)} {k' : Except LErr β → RL (VL × Option LErr)}
    (hk : ∀ e, k (.error e) = .ok ([], some e)) (hk' : ∀ e, k' (.error e) = .ok ([], some e))
    (htot : Tot (EvalLimits.capture y >>= k')) (hok : ∀ a b, ra a b → RelR RelS (k (.ok a)) (k' (.ok b))) :
    RelR RelS (EvalLimits.capture x >>= k) (EvalLimits.capture y >>= k') := by
  rcases h with ⟨eh, rfl, hn⟩ | ⟨el, rfl, hl | hl⟩ | ⟨e, rfl, rfl⟩ | ⟨a, b, rfl, rfl, hab⟩
  · rw [capture_err_nop hn]; exact RelR.nopHi hn _
  · rw [capture_err (isLim_not_noPred hl), ok_bind, hk]; exact RelR.cutTot hl htot
  · rw [capture_err_nop hl]; exact RelR.nopLo hl _
  · cases hn : noPred e with
    | true => rw [capture_err_nop hn, capture_err_nop hn]; exact RelR.nopHi hn _
    | false => rw [capture_err hn, capture_err hn, ok_bind, ok_bind, hk, hk']; exact RelR.ok (RelS.refl _)
  · exact hok a b hab

theorem mapL_rel {f g : Value → RL Value} (hf : ∀ x, RelR Eq (f x) (g x)) :
    ∀ (xs : VL) (e : Option LErr) (ys : VL) (e' : Option LErr), RelS (xs, e) (ys, e') →
      RelR RelS (mapL f xs e) (mapL g ys e')
  | [], e, ys, e', hs => RelR.genNil hs (mapL_tot g) (fun _ => rfl)
  | x :: xs, e, ys, e', hs => by
    obtain ⟨ys', rfl, hs'⟩ := hs.uncons
    unfold mapL
    refine (hf x).round (fun _ => rfl) (fun _ => rfl) (mapL_tot g (x :: ys') e') ?_
    rintro a _ rfl
    exact (mapL_rel hf xs e ys' e' hs').bind fun r r' hr => RelR.ok (RelS.cons a hr)

theorem filterL_rel {f g : Value → RL Bool} (hf : ∀ x, RelR Eq (f x) (g x)) :
    ∀ (xs : VL) (e : Option LErr) (ys : VL) (e' : Option LErr), RelS (xs, e) (ys, e') →
      RelR RelS (filterL f xs e) (filterL g ys e')
  | [], e, ys, e', hs => RelR.genNil hs (filterL_tot g) (fun _ => rfl)
  | x :: xs, e, ys, e', hs => by
    obtain ⟨ys', rfl, hs'⟩ := hs.uncons
    unfold filterL
    refine (hf x).round (fun _ => rfl) (fun _ => rfl) (filterL_tot g (x :: ys') e') ?_
    rintro b _ rfl
    refine (filterL_rel hf xs e ys' e' hs').bind fun r r' hr => RelR.ok ?_
    cases b
    · exact hr
    · exact RelS.cons x hr

theorem takeWhileL_rel {f g : Value → RL Bool} (hf : ∀ x, RelR Eq (f x) (g x)) :
    ∀ (xs : VL) (e : Option LErr) (ys : VL) (e' : Option LErr), RelS (xs, e) (ys, e') →
      RelR RelS (takeWhileL f xs e) (takeWhileL g ys e')
  | [], e, ys, e', hs => RelR.genNil hs (takeWhileL_tot g) (fun _ => rfl)
  | x :: xs, e, ys, e', hs => by
    obtain ⟨ys', rfl, hs'⟩ := hs.uncons
    unfold takeWhileL
    refine (hf x).round (fun _ => rfl) (fun _ => rfl) (takeWhileL_tot g (x :: ys') e') ?_
    rintro b _ rfl
    cases b
    · exact RelR.ok (RelS.refl _)
    · exact (takeWhileL_rel hf xs e ys' e' hs').bind fun r r' hr => RelR.ok (RelS.cons x hr)

theorem dropWhileL_rel {f g : Value → RL Bool} (hf : ∀ x, RelR Eq (f x) (g x)) :
    ∀ (xs : VL) (e : Option LErr) (ys : VL) (e' : Option LErr), RelS (xs, e) (ys, e') →
      RelR RelS (dropWhileL f xs e) (dropWhileL g ys e')
  | [], e, ys, e', hs => RelR.genNil hs (dropWhileL_tot g) (fun _ => rfl)
  | x :: xs, e, ys, e', hs => by
    obtain ⟨ys', rfl, hs'⟩ := hs.uncons
    unfold dropWhileL
    refine (hf x).round (fun _ => rfl) (fun _ => rfl) (dropWhileL_tot g (x :: ys') e') ?_
    rintro b _ rfl
    cases b
    · exact RelR.ok (RelS.cons x hs')
    · exact dropWhileL_rel hf xs e ys' e' hs'

theorem flatMapL_rel {f g : Value → RL (VL × Option LErr)} (hf : ∀ x, RelR RelS (f x) (g x)) :
    ∀ (xs : VL) (e : Option LErr) (ys : VL) (e' : Option LErr), RelS (xs, e) (ys, e') →
      RelR RelS (flatMapL f xs e) (flatMapL g ys e')
  | [], e, ys, e', hs => RelR.genNil hs (flatMapL_tot g) (fun _ => rfl)
  | x :: xs, e, ys, e', hs => by
    obtain ⟨ys', rfl, hs'⟩ := hs.uncons
    unfold flatMapL
    refine (hf x).round (fun _ => rfl) (fun _ => rfl) (flatMapL_tot g (x :: ys') e') ?_
    intro s s' hvw
    rcases hvw.cases with rfl | ⟨vs, e0, ws, t', rfl, rfl, hl, hp⟩
    · obtain ⟨vs, t⟩ := s
      cases t with
      | some er => exact RelR.ok (RelS.refl _)
      | none => exact (flatMapL_rel hf xs e ys' e' hs').bind fun r r' hr => RelR.ok (RelS.append vs hr)
    · -- the inner sequence of the `lo` side is cut: whatever the other side goes on to yield extends it
      show RelR RelS (.ok (vs, some e0)) _
      cases t' with
      | some er => exact RelR.ok (RelS.cut hl hp _)
      | none =>
        cases hy : flatMapL g ys' e' with
        | error e2 => exact RelR.nopHi (flatMapL_tot g ys' e' e2 hy) _
        | ok r => exact RelR.ok (RelS.cut hl (hp.trans (List.prefix_append _ _)) _)

/-! ## consumers -/

theorem findL_rel {p q : Value → RL Bool} (hp : ∀ x, RelR Eq (p x) (q x)) :
    ∀ (xs : VL) (i : Nat) (e : Option LErr) (ys : VL) (e' : Option LErr), RelS (xs, e) (ys, e') →
      RelR Eq (findL p i xs e) (findL q i ys e')
  | [], i, e, ys, e', hs => by
    rcases hs.nil with ⟨rfl, rfl⟩ | ⟨e0, rfl, hl⟩
    · cases e' <;> exact RelR.refl (fun _ => rfl) _
    · exact RelR.lim hl _
  | x :: xs, i, e, ys, e', hs => by
    obtain ⟨ys', rfl, hs'⟩ := hs.uncons
    unfold findL
    refine (hp x).bindEq fun b => ?_
    cases b
    · exact findL_rel hp xs (i + 1) e ys' e' hs'
    · exact RelR.ok rfl

theorem foldL_rel {f g : Value → Value → RL Value} (hf : ∀ a x, RelR Eq (f a x) (g a x)) :
    ∀ (xs : VL) (acc : Value) (e : Option LErr) (ys : VL) (e' : Option LErr), RelS (xs, e) (ys, e') →
      RelR Eq (foldL f acc xs e) (foldL g acc ys e')
  | [], acc, e, ys, e', hs => by
    rcases hs.nil with ⟨rfl, rfl⟩ | ⟨e0, rfl, hl⟩
    · cases e' <;> exact RelR.refl (fun _ => rfl) _
    · exact RelR.lim hl _
  | x :: xs, acc, e, ys, e', hs => by
    obtain ⟨ys', rfl, hs'⟩ := hs.uncons
    unfold foldL
    exact (hf acc x).bindEq fun a => foldL_rel hf xs a e ys' e' hs'

theorem toDictL_rel {lo hi : Lim} (h : Lim.le lo hi) (c : ECfg) {kf kg vf vg : Value → RL Value}
    (hk : ∀ x, RelR Eq (kf x) (kg x)) (hv : ∀ x, RelR Eq (vf x) (vg x)) :
    ∀ (xs : VL) (acc : KV) (e : Option LErr) (ys : VL) (e' : Option LErr), RelS (xs, e) (ys, e') →
      RelR Eq (toDictL c lo kf vf acc xs e) (toDictL c hi kg vg acc ys e')
  | [], acc, e, ys, e', hs => by
    rcases hs.nil with ⟨rfl, rfl⟩ | ⟨e0, rfl, hl⟩
    · cases e' <;> exact RelR.refl (fun _ => rfl) _
    · exact RelR.lim hl _
  | x :: xs, acc, e, ys, e', hs => by
    obtain ⟨ys', rfl, hs'⟩ := hs.uncons
    unfold toDictL
    refine (hk x).bindEq fun k => (hv x).bindEq fun v => ?_
    split
    · exact (measure_rel h _).bindEq fun _ => toDictL_rel h c hk hv xs _ e ys' e' hs'
    · exact RelR.err _

theorem drain_rel {s s' : VL × Option LErr} (hs : RelS s s') : RelR Eq (drain s) (drain s') := by
  rcases hs with rfl | ⟨e0, h1, h2, _⟩
  · exact RelR.refl (fun _ => rfl) _
  · unfold drain
    rw [h1]
    exact RelR.lim h2 _

/-! ## sorting -/

theorem sortErr_cons (e : LErr) (rest : List LErr) :
    sortErr (e :: rest) = if (e == LErr.base .outOfDomain || rest.any (· != e)) = true
      then .error (.base .outOfDomain) else .ok (some e) := rfl

theorem sortErr_tot : ∀ es, Tot (sortErr es)
  | [] => Tot.ok _
  | e :: rest => by
    rw [sortErr_cons]
    split
    · exact Tot.nop (e := .base .outOfDomain) rfl
    · exact Tot.ok _

theorem sortErr_mem {es : List LErr} {x : LErr} (hx : x ∈ es) :
    sortErr es = .error (.base .outOfDomain) ∨ (sortErr es = .ok (some x) ∧ x ≠ .base .outOfDomain) := by
  cases es with
  | nil => cases hx
  | cons e rest =>
    rw [sortErr_cons]
    split
    · exact Or.inl rfl
    · rename_i hc
      simp only [Bool.or_eq_true, beq_iff_eq, List.any_eq_true, bne_iff_ne, not_or, not_exists, not_and,
        Decidable.not_not] at hc
      rcases List.mem_cons.mp hx with rfl | hx
      · exact Or.inr ⟨rfl, hc.1⟩
      · rw [hc.2 x hx]; exact Or.inr ⟨rfl, hc.1⟩

theorem keyQuota_cons (c : ECfg) (L : Lim) (k : Value) (r : VL) :
    keyQuota c L (k :: r) = match EvalLimits.measure L (sizeofV c k) with
      | .ok _ => keyQuota c L r
      | .error e => e :: keyQuota c L r := rfl

theorem keyQuota_mem (c : ECfg) (L : Lim) : ∀ (ks : VL) (x : LErr), x ∈ keyQuota c L ks →
    isLim x = true ∨ x = .base .outOfDomain
  | [], x, h => by cases h
  | k :: r, x, h => by
    rw [keyQuota_cons] at h
    split at h
    · exact keyQuota_mem c L r x h
    · rcases List.mem_cons.mp h with rfl | h
      · exact measureAll_err ‹_›
      · exact keyQuota_mem c L r x h

theorem keyQuota_nil_mono {lo hi : Lim} (h : Lim.le lo hi) (c : ECfg) : ∀ ks : VL,
    keyQuota c lo ks = [] → keyQuota c hi ks = []
  | [], _ => rfl
  | k :: r, hk => by
    rw [keyQuota_cons] at hk ⊢
    cases hm : EvalLimits.measure lo (sizeofV c k) with
    | error e => rw [hm] at hk; cases hk
    | ok u =>
      cases u
      rw [hm] at hk
      rw [measure_ok_mono h hm]
      exact keyQuota_nil_mono h c r hk

/-- keys of the two runs: pairwise equal, or a limit exception on the `lo` side -/
abbrev RelK := RelL (RelC (Eq (α := Value)))

theorem relK_cases {ks ks' : List (Except LErr Value)} (h : RelK ks ks') :
    (∃ x ∈ errsOfL ks, isLim x = true) ∨ ks = ks' := by
  induction h with
  | nil => exact Or.inr rfl
  | cons hk _ ih =>
    rcases hk with ⟨e, rfl, hl⟩ | ⟨e, rfl, rfl⟩ | ⟨a, b, rfl, rfl, rfl⟩
    · exact Or.inl ⟨e, by simp [errsOfL], hl⟩
    · rcases ih with ⟨x, hx, hl⟩ | rfl
      · exact Or.inl ⟨x, by simp [errsOfL, hx], hl⟩
      · exact Or.inr rfl
    · rcases ih with ⟨x, hx, hl⟩ | rfl
      · exact Or.inl ⟨x, by simp [errsOfL, hx], hl⟩
      · exact Or.inr rfl

theorem sortKeyedL_tot (c : ECfg) (L : Lim) (asc : Bool) (items : VL) (ks : List (Except LErr Value)) :
    Tot (sortKeyedL c L asc items ks) := by
  unfold sortKeyedL
  split
  · exact Tot.ok _
  · apply Tot.bind (sortErr_tot _); intro r
    cases r <;> exact Tot.pure _

/-- a sort during which some comparison would raise a limit exception (or is not predicted) yields nothing -/
theorem sortErr_cut {es : List LErr} {x : LErr} (hx : x ∈ es) (hl : isLim x = true ∨ x = .base .outOfDomain)
    {k : Option LErr → RL (VL × Option LErr)} (hk : ∀ e, k (some e) = .ok ([], some e))
    {y : RL (VL × Option LErr)} (hy : Tot y) : RelR RelS (sortErr es >>= k) y := by
  rcases sortErr_mem hx with hr | ⟨hr, hne⟩
  · rw [hr]; exact RelR.ood _
  · rw [hr, ok_bind, hk]; exact RelR.cutTot (hl.resolve_right hne) hy

theorem sortKeyedL_cut (c : ECfg) (L : Lim) (asc : Bool) (items : VL) (ks : List (Except LErr Value))
    (hlen : ¬ items.length ≤ 1) {x : LErr} (hx : x ∈ errsOfL ks ∨ x ∈ keyQuota c L (oksOfL ks))
    (hl : isLim x = true ∨ x = .base .outOfDomain) {y : RL (VL × Option LErr)} (hy : Tot y) :
    RelR RelS (sortKeyedL c L asc items ks) y := by
  unfold sortKeyedL
  rw [if_neg hlen]
  refine sortErr_cut ?_ hl (fun _ => rfl) hy
  rcases hx with hx | hx <;> simp [hx]

theorem sortKeyedL_rel {lo hi : Lim} (h : Lim.le lo hi) (c : ECfg) (asc : Bool) (items : VL)
    {ks ks' : List (Except LErr Value)} (hk : RelK ks ks') :
    RelR RelS (sortKeyedL c lo asc items ks) (sortKeyedL c hi asc items ks') := by
  by_cases hlen : items.length ≤ 1
  · unfold sortKeyedL
    rw [if_pos hlen, if_pos hlen]
    exact RelR.ok (RelS.refl _)
  · rcases relK_cases hk with ⟨x, hx, hl⟩ | rfl
    · exact sortKeyedL_cut c lo asc items ks hlen (Or.inl hx) (Or.inl hl) (sortKeyedL_tot _ _ _ _ _)
    · cases hq : keyQuota c lo (oksOfL ks) with
      | nil =>
        unfold sortKeyedL
        rw [hq, keyQuota_nil_mono h c _ hq]
        exact RelR.refl RelS.refl _
      | cons q rest =>
        have hm := keyQuota_mem c lo (oksOfL ks) q (hq ▸ List.mem_cons_self)
        exact sortKeyedL_cut c lo asc items ks hlen (Or.inr (hq ▸ List.mem_cons_self)) hm (sortKeyedL_tot _ _ _ _ _)

theorem keysL_rel {f g : Value → RL Value} (hf : ∀ x, RelR Eq (f x) (g x)) : ∀ xs : VL,
    RelR RelK (keysL f xs) (keysL g xs)
  | [] => RelR.ok .nil
  | x :: xs => by
    unfold keysL
    exact (hf x).capture.bind fun k k' hk => (keysL_rel hf xs).bind fun r r' hr => RelR.ok (.cons hk hr)

/-! ## objects -/

theorem objSz_rel (c : ECfg) {r r' : ObjL} (h : RelO r r') : objSz c r = objSz c r' := by
  cases h <;> rfl

theorem truthyObjL_rel {r r' : ObjL} (h : RelO r r') : truthyObjL r = truthyObjL r' := by
  cases h <;> rfl

theorem isLazyL_rel {r r' : ObjL} (h : RelO r r') : isLazyL r = isLazyL r' := by
  cases h <;> rfl

theorem toVL_rel {r r' : ObjL} (h : RelO r r') : RelR Eq (toVL r) (toVL r') := by
  cases h with
  | refl o => exact RelR.refl (fun _ => rfl) _
  | lazy hs =>
    rcases hs.cases with heq | ⟨_, _, _, _, heq, _, _, _⟩
    · cases heq; exact RelR.refl (fun _ => rfl) _
    · cases heq; exact RelR.ood _
  | ordered hs => exact RelR.ood _

theorem toIterL_rel {r r' : ObjL} (h : RelO r r') :
    (toIterL r = none ∧ toIterL r' = none) ∨ (∃ s s', toIterL r = some s ∧ toIterL r' = some s' ∧ RelS s s') := by
  cases h with
  | refl =>
    cases ho : toIterL r with
    | none => exact Or.inl ⟨rfl, rfl⟩
    | some s => exact Or.inr ⟨s, s, rfl, rfl, RelS.refl _⟩
  | lazy hs => exact Or.inr ⟨_, _, rfl, rfl, hs⟩
  | ordered hs => exact Or.inr ⟨_, _, rfl, rfl, hs⟩

theorem bindIter_rel {lo hi : Lim} (h : Lim.le lo hi) (c : ECfg) {r r' : ObjL} (hr : RelO r r') :
    RelR RelS (bindIter c lo r) (bindIter c hi r') := by
  unfold bindIter
  rw [objSz_rel c hr]
  refine (measure_rel h _).bindEq fun _ => ?_
  cases hr with
  | refl o =>
    split
    · exact (limitLen_rel h _).bindEq fun _ => RelR.ok (RelS.refl _)
    · exact (limitLen_rel h _).bindEq fun _ => RelR.ok (RelS.refl _)
    · exact RelR.ok (limitLazy_rel h (RelS.refl _))
    · exact RelR.ok (limitLazy_rel h (RelS.refl _))
    · exact RelR.ok (limitLazy_rel h (RelS.refl _))
    · exact RelR.err _
  | lazy hs => exact RelR.ok (limitLazy_rel h hs)
  | ordered hs => exact RelR.ok (limitLazy_rel h hs)

/-! ## the evaluator's plumbing -/

theorem toVpre_rel {ev ev' : EvL} (hev : LeEv ev ev') (C : Ctx) (e : Expr) :
    RelR Eq (do let o ← ev C e; toVL o) (do let o ← ev' C e; toVL o) :=
  (hev C e).bind fun _ _ ho => toVL_rel ho

theorem LeEv.bindV {rb : γ → δ → Prop} {ev ev' : EvL} (h : LeEv ev ev') (C : Ctx) (e : Expr) {f : Value → RL γ}
    {g : Value → RL δ} (hf : ∀ v, RelR rb (f v) (g v)) :
    RelR rb (do let o ← ev C e; let v ← toVL o; f v) (do let o ← ev' C e; let v ← toVL o; g v) :=
  (h C e).bind fun _ _ ho => (toVL_rel ho).bindEq hf

theorem evalListL_rel {ev ev' : EvL} (h : LeEv ev ev') (C : Ctx) :
    ∀ es, RelR Eq (evalListL ev C es) (evalListL ev' C es)
  | [] => RelR.ok rfl
  | e :: es => by
    unfold evalListL
    exact h.bindV C e fun v => (evalListL_rel h C es).bindEq fun vs => RelR.ok rfl

theorem evalObjsL_rel {ev ev' : EvL} (h : LeEv ev ev') (C : Ctx) :
    ∀ es, RelR (RelL RelO) (evalObjsL ev C es) (evalObjsL ev' C es)
  | [] => RelR.ok .nil
  | e :: es => by
    unfold evalObjsL
    exact (h C e).bind fun o o' ho => (evalObjsL_rel h C es).bind fun r r' hr => RelR.ok (.cons ho hr)

theorem evalPairsL_rel {ev ev' : EvL} (h : LeEv ev ev') (C : Ctx) :
    ∀ ps, RelR Eq (evalPairsL ev C ps) (evalPairsL ev' C ps)
  | [] => RelR.ok rfl
  | (k, v) :: r => by
    unfold evalPairsL
    exact h.bindV C k fun kv => h.bindV C v fun vv => (evalPairsL_rel h C r).bindEq fun rest => RelR.ok rfl

theorem lamVL_rel {ev ev' : EvL} (h : LeEv ev ev') (D : Ctx) (b : Expr) (args : VL) :
    RelR Eq (lamVL ev D b args) (lamVL ev' D b args) :=
  (h _ _).bind fun _ _ ho => toVL_rel ho

theorem lamBL_rel {ev ev' : EvL} (h : LeEv ev ev') (D : Ctx) (b : Expr) (args : VL) :
    RelR Eq (lamBL ev D b args) (lamBL ev' D b args) :=
  (h _ _).bind fun _ _ ho => by rw [truthyObjL_rel ho]; exact RelR.ok rfl

theorem lamManyL_rel {ev ev' : EvL} (h : LeEv ev ev') (D : Ctx) (b : Expr) (x : Value) :
    RelR RelS (lamManyL ev D b x) (lamManyL ev' D b x) := by
  unfold lamManyL
  refine (h _ _).bind fun o o' ho => ?_
  cases ho with
  | refl o => exact RelR.refl RelS.refl _
  | lazy hs => exact RelR.ok hs
  | ordered hs => exact RelR.ok hs

theorem withIter_rel {β β' : Type} {rp : β → β' → Prop} {lo hi : Lim} (h : Lim.le lo hi) (c : ECfg) (bad : Eval.Err)
    {r r' : ObjL} (hr : RelO r r') {pre : RL β} {pre' : RL β'} (hpre : RelR rp pre pre')
    {k : β → VL × Option LErr → RL ObjL} {k' : β' → VL × Option LErr → RL ObjL}
    (hk : ∀ a a' s s', rp a a' → RelS s s' → RelR RelO (k a s) (k' a' s')) :
    RelR RelO (withIter c lo bad r pre k) (withIter c hi bad r' pre' k') := by
  unfold withIter
  rcases toIterL_rel hr with ⟨h1, h2⟩ | ⟨s, s', h1, h2, _⟩
  · rw [h1, h2]; exact RelR.err _
  · rw [h1, h2]
    exact hpre.bind fun a a' ha => (bindIter_rel h c hr).bind fun t t' ht => hk a a' t t' ha ht

theorem withIter_rel_unit {lo hi : Lim} (h : Lim.le lo hi) (c : ECfg) (bad : Eval.Err) {r r' : ObjL} (hr : RelO r r')
    {k k' : Unit → VL × Option LErr → RL ObjL} (hk : ∀ s s', RelS s s' → RelR RelO (k () s) (k' () s')) :
    RelR RelO (withIter c lo bad r (pure ()) k) (withIter c hi bad r' (pure ()) k') :=
  withIter_rel h c bad hr (rp := Eq) (RelR.ok rfl) fun _ _ s s' _ hs => hk s s' hs

/-! ## operators -/

theorem withConv_rel {res : Eval.R α} {conv conv' : RL Unit} (hc : RelR Eq conv conv') :
    RelR Eq (withConv res conv) (withConv res conv') := by
  unfold withConv
  cases res with
  | ok a => exact hc.bindEq fun _ => RelR.ok rfl
  | error e =>
    dsimp only
    split
    · exact RelR.err _
    · exact hc.bindEq fun _ => RelR.err _

theorem convBin_rel {lo hi : Lim} (h : Lim.le lo hi) (c : ECfg) (op : BinOp) (a b : Value) :
    RelR Eq (convBin c lo op a b) (convBin c hi op a b) := by
  unfold convBin
  split
  · refine (measure_rel h _).bindEq fun _ => (limitLen_rel h _).bindEq fun _ => ?_
    refine (measure_rel h _).bindEq fun _ => (limitLen_rel h _).bindEq fun _ => ?_
    exact measureAll_rel h _
  · exact (measure_rel h _).bindEq fun _ => (measure_rel h _).bindEq fun _ => measureAll_rel h _
  · exact (measure_rel h _).bindEq fun _ => measure_rel h _

theorem binCall_rel {lo hi : Lim} (h : Lim.le lo hi) (c : ECfg) (op : BinOp) (a b : Value) :
    RelR Eq (binCall c lo op a b) (binCall c hi op a b) := by
  unfold binCall
  refine (withConv_rel (convBin_rel h c op a b)).bindEq fun r => ?_
  exact (measure_rel h _).bindEq fun _ => RelR.ok rfl

theorem binopL_lazy (c : ECfg) (L : Lim) (op : BinOp) {x y : ObjL} (hx : ∀ C, x ≠ .ctx C) (hy : ∀ C, y ≠ .ctx C)
    (hl : (isLazyL x || isLazyL y) = true) : binopL c L op x y = .error (.base .outOfDomain) := by
  unfold binopL
  split
  · exact absurd rfl (hx _)
  · exact absurd rfl (hy _)
  · rw [if_pos hl]

/-- what a strict operator sees of an operand: a generator / an ordering without its content -/
def shapeO : ObjL → ObjL
  | .lazy _ _ => .lazy [] none
  | .ordered _ _ => .ordered [] none
  | o => o

theorem shapeO_rel {x x' : ObjL} (h : RelO x x') : shapeO x = shapeO x' := by
  cases h <;> rfl

theorem binopL_shape (c : ECfg) (L : Lim) (op : BinOp) (x y : ObjL) :
    binopL c L op x y = binopL c L op (shapeO x) (shapeO y) := by
  unfold binopL
  cases x <;> cases y <;> simp only [shapeO, isLazyL, Bool.or_true, Bool.true_or, if_true]

theorem binopL_rel {lo hi : Lim} (h : Lim.le lo hi) (c : ECfg) (op : BinOp) {x x' y y' : ObjL}
    (hx : RelO x x') (hy : RelO y y') : RelR RelO (binopL c lo op x y) (binopL c hi op x' y') := by
  rw [binopL_shape c lo, binopL_shape c hi, shapeO_rel hx, shapeO_rel hy]
  generalize shapeO x' = x, shapeO y' = y
  unfold binopL
  split
  · exact RelR.refl RelO.refl _
  · exact RelR.refl RelO.refl _
  · split
    · exact RelR.err _
    · refine (RelR.refl (fun _ => rfl) (toVL x)).bindEq fun a => (RelR.refl (fun _ => rfl) (toVL y)).bindEq fun b => ?_
      exact (binCall_rel h c op a b).bindEq fun r => RelR.ok (RelO.refl _)

theorem unopL_rel {lo hi : Lim} (h : Lim.le lo hi) (c : ECfg) (op : UnOp) {x x' : ObjL} (hx : RelO x x') :
    RelR RelO (unopL c lo op x) (unopL c hi op x') := by
  cases hx with
  | refl =>
    unfold unopL
    split
    · split
      · exact RelR.err _
      · exact (measure_rel h _).bindEq fun _ => RelR.ok (RelO.refl _)
    · exact RelR.err _
    · exact (measure_rel h _).bindEq fun _ => RelR.ok (RelO.refl _)
    · exact RelR.err _
    · split <;> exact RelR.err _
    · exact RelR.err _
    · exact RelR.err _
  | lazy hs => cases op <;> exact RelR.ood _
  | ordered hs => cases op <;> exact RelR.ood _

theorem indexerL_rel {lo hi : Lim} (h : Lim.le lo hi) (c : ECfg) {r r' : ObjL} (hr : RelO r r') (vs : VL) :
    RelR RelO (indexerL c lo r vs) (indexerL c hi r' vs) := by
  cases hr with
  | refl =>
    unfold indexerL
    refine (withConv_rel ((measure_rel h _).bindEq fun _ => measureEach_rel h _)).bindEq fun v => ?_
    exact RelR.ok (RelO.refl _)
  | lazy hs => exact RelR.err (.base .noFunction)
  | ordered hs => exact RelR.err (.base .noFunction)

theorem memberFlatL_rel {lo hi : Lim} (h : Lim.le lo hi) (c : ECfg) (name : Name) (x : Value) :
    RelR Eq (memberFlatL c lo name x) (memberFlatL c hi name x) := by
  unfold memberFlatL
  have h1 : RelR Eq
      (match Eval.memberV name x with
        | .error .unknownFunction => (do EvalLimits.measure lo (sizeofV c x); .error (.base .unknownFunction) : RL Value)
        | res => withConv res (EvalLimits.measure lo (sizeofV c x)))
      (match Eval.memberV name x with
        | .error .unknownFunction => (do EvalLimits.measure hi (sizeofV c x); .error (.base .unknownFunction) : RL Value)
        | res => withConv res (EvalLimits.measure hi (sizeofV c x))) := by
    split
    · exact (measure_rel h _).bindEq fun _ => RelR.err _
    · exact withConv_rel (measure_rel h _)
  exact h1.bindEq fun v => (measure_rel h _).bindEq fun _ => RelR.ok rfl

/-- the tail of a nested projection: stored as data, measured as the result of the call -/
theorem memberV_store_rel {lo hi : Lim} (h : Lim.le lo hi) (c : ECfg) {s s' : VL × Option LErr} (hs : RelS s s') :
    RelR Eq
      (do let v ← toVL (ObjL.lazy s.1 s.2); EvalLimits.measure lo (sizeofV c v); pure v)
      (do let v ← toVL (ObjL.lazy s'.1 s'.2); EvalLimits.measure hi (sizeofV c v); pure v) :=
  (toVL_rel (RelO.lazy (xs := s.1) (e := s.2) (ys := s'.1) (e' := s'.2) hs)).bindEq fun _ =>
    (measure_rel h _).bindEq fun _ => RelR.ok rfl

theorem memberVLs_tot (c : ECfg) (L : Lim) (name : Name) (l : VL) : Tot (memberVLs c L name l) := by
  rw [memberVLs_eq]; exact mapL_tot _ _ _

mutual
theorem memberVL_rel {lo hi : Lim} (h : Lim.le lo hi) (c : ECfg) (name : Name) :
    ∀ x : Value, RelR Eq (memberVL c lo name x) (memberVL c hi name x)
  | .tuple l => by
    rw [memberVL, memberVL]
    refine (measure_rel h _).bindEq fun _ => (limitLen_rel h _).bindEq fun _ => ?_
    exact (memberVLs_rel h c name l).bind fun s s' hs => memberV_store_rel h c hs
  | .list l => by
    rw [memberVL, memberVL]
    refine (measure_rel h _).bindEq fun _ => (limitLen_rel h _).bindEq fun _ => ?_
    exact (memberVLs_rel h c name l).bind fun s s' hs => memberV_store_rel h c hs
  | .iter l => by
    rw [memberVL, memberVL]
    refine (measure_rel h _).bindEq fun _ => ?_
    exact (memberVLs_rel h c name l).bind fun s s' hs => memberV_store_rel h c (limitLazy_rel h hs)
  | .null => by rw [memberVL, memberVL]; exact memberFlatL_rel h c name _
  | .bool _ => by rw [memberVL, memberVL]; exact memberFlatL_rel h c name _
  | .int _ => by rw [memberVL, memberVL]; exact memberFlatL_rel h c name _
  | .flt _ => by rw [memberVL, memberVL]; exact memberFlatL_rel h c name _
  | .str _ => by rw [memberVL, memberVL]; exact memberFlatL_rel h c name _
  | .dict _ => by rw [memberVL, memberVL]; exact memberFlatL_rel h c name _
  | .set _ => by rw [memberVL, memberVL]; exact memberFlatL_rel h c name _
  | .host _ => by rw [memberVL, memberVL]; exact memberFlatL_rel h c name _
theorem memberVLs_rel {lo hi : Lim} (h : Lim.le lo hi) (c : ECfg) (name : Name) :
    ∀ l : VL, RelR RelS (memberVLs c lo name l) (memberVLs c hi name l)
  | [] => by rw [memberVLs, memberVLs]; exact RelR.ok (RelS.refl _)
  | x :: xs => by
    rw [memberVLs, memberVLs]
    refine (memberVL_rel h c name x).round (fun _ => rfl) (fun _ => rfl) ?_ ?_
    · have := memberVLs_tot c hi name (x :: xs); rwa [memberVLs] at this
    · rintro a _ rfl
      exact (memberVLs_rel h c name xs).bind fun r r' hr => RelR.ok (RelS.cons a hr)
end

theorem memberOfL_iter {lo hi : Lim} (h : Lim.le lo hi) (c : ECfg) (name : Name) {r r' : ObjL} (hr : RelO r r') :
    RelR RelO
      (do let (items, err) ← bindIter c lo r
          let s ← mapL (memberVL c lo name) items err
          pure (ObjL.lazy s.1 s.2))
      (do let (items, err) ← bindIter c hi r'
          let s ← mapL (memberVL c hi name) items err
          pure (ObjL.lazy s.1 s.2)) := by
  refine (bindIter_rel h c hr).bind fun t t' ht => ?_
  exact (mapL_rel (memberVL_rel h c name) t.1 t.2 t'.1 t'.2 ht).bind fun s s' hs => RelR.ok (RelO.lazy hs)

theorem memberOfL_rel {lo hi : Lim} (h : Lim.le lo hi) (c : ECfg) (name : Name) {r r' : ObjL} (hr : RelO r r') :
    RelR RelO (memberOfL c lo r name) (memberOfL c hi r' name) := by
  cases hr with
  | refl =>
    unfold memberOfL
    split
    · exact (measure_rel h _).bindEq fun _ => RelR.refl RelO.refl _
    · exact RelR.ood _
    · split
      · exact memberOfL_iter h c name (RelO.refl _)
      · exact (measure_rel h _).bindEq fun _ => RelR.err _
  | lazy hs => exact memberOfL_iter h c name (RelO.lazy hs)
  | ordered hs => exact memberOfL_iter h c name (RelO.ordered hs)

/-! ## `list(...)`: streams -/

theorem catS_fst_prefix (a b : VL × Option LErr) : a.1 <+: (catS a b).1 := by
  unfold catS
  cases a.2 with
  | some e => exact List.prefix_refl _
  | none => exact List.prefix_append _ _

theorem catS_rel {a a' b b' : VL × Option LErr} (ha : RelS a a') (hb : RelS b b') : RelS (catS a b) (catS a' b') := by
  rcases ha.cases with rfl | ⟨xs, e, ys, t, rfl, rfl, hl, hp⟩
  · unfold catS
    cases a.2 with
    | some e => exact RelS.refl _
    | none => exact RelS.append a.1 hb
  · exact RelS.cut hl (hp.trans (catS_fst_prefix (ys, t) b')) _

def RelP (a b : VL × Option LErr) : Prop := a.1 <+: b.1 ∧ (a.2 = none ∨ ∃ e, a.2 = some e ∧ isLim e = true)

theorem catS_relP {a a' b b' : VL × Option LErr} (ha : RelS a a')
    (hat : a.2 = none ∨ ∃ e, a.2 = some e ∧ isLim e = true) (hb : RelP b b') : RelP (catS a b) (catS a' b') := by
  rcases ha.cases with rfl | ⟨xs, e, ys, t, rfl, rfl, hl, hp⟩
  · obtain ⟨a1, a2⟩ := a
    unfold catS
    rcases hat with hat | ⟨e, he, hl⟩
    · cases hat; exact ⟨by simpa using hb.1, hb.2⟩
    · cases he; exact ⟨List.prefix_refl _, Or.inr ⟨e, rfl, hl⟩⟩
  · exact ⟨hp.trans (catS_fst_prefix (ys, t) b'), Or.inr ⟨e, rfl, hl⟩⟩

theorem catS_cut {a a' : VL × Option LErr} (h : RelP a a') {e : LErr} (hl : isLim e = true) (b' : VL × Option LErr) :
    RelS (catS a ([], some e)) (catS a' b') := by
  obtain ⟨a1, a2⟩ := a
  have hp := h.1.trans (catS_fst_prefix a' b')
  rcases h.2 with ht | ⟨e1, ht, hl1⟩
  · cases ht; exact RelS.cut hl (by rw [List.append_nil]; exact hp) _
  · cases ht; exact RelS.cut hl1 hp _

/-- the order on budgets of `recItems` / `walkL` (`none` = unlimited is the largest) -/
def BLe (b b' : Option Nat) : Prop := b' = none ∨ ∃ n m, b = some n ∧ b' = some m ∧ n ≤ m

theorem BLe.ne_zero {b b' : Option Nat} (h : BLe b b') (h0 : b ≠ some 0) : b' ≠ some 0 := by
  rcases h with rfl | ⟨n, m, rfl, rfl, hnm⟩
  · intro hc; cases hc
  · intro hc; cases hc; apply h0; congr; omega

theorem BLe.pred {b b' : Option Nat} (h : BLe b b') : BLe (b.map (· - 1)) (b'.map (· - 1)) := by
  rcases h with rfl | ⟨n, m, rfl, rfl, hnm⟩
  · exact Or.inl rfl
  · exact Or.inr ⟨n - 1, m - 1, rfl, rfl, by omega⟩

theorem recItems_nil (L : Lim) (b : Option Nat) : recItems L b [] = ([], none) := by
  cases b with
  | none => rfl
  | some n => cases n <;> rfl

theorem recItems_zero (L : Lim) (x : Value) (xs : VL) : recItems L (some 0) (x :: xs) = ([], some .tooLarge) := rfl

theorem recItems_cons (L : Lim) (b : Option Nat) (hb : b ≠ some 0) (x : Value) (xs : VL) :
    recItems L b (x :: xs) = catS (recV L x) (recItems L (b.map (· - 1)) xs) := by
  cases b with
  | none => rfl
  | some n =>
    cases n with
    | zero => exact absurd rfl hb
    | succ k => rfl

mutual
theorem recV_tail (L : Lim) : ∀ v : Value, (recV L v).2 = none ∨ ∃ e, (recV L v).2 = some e ∧ isLim e = true
  | .iter l => by unfold recV; exact recItems_tail L L.N l
  | .null => Or.inl rfl
  | .bool _ => Or.inl rfl
  | .int _ => Or.inl rfl
  | .flt _ => Or.inl rfl
  | .str _ => Or.inl rfl
  | .tuple _ => Or.inl rfl
  | .list _ => Or.inl rfl
  | .dict _ => Or.inl rfl
  | .set _ => Or.inl rfl
  | .host _ => Or.inl rfl
theorem recItems_tail (L : Lim) : ∀ (b : Option Nat) (xs : VL),
    (recItems L b xs).2 = none ∨ ∃ e, (recItems L b xs).2 = some e ∧ isLim e = true
  | b, [] => by rw [recItems_nil]; exact Or.inl rfl
  | b, x :: xs => by
    by_cases hb : b = some 0
    · subst hb; exact Or.inr ⟨.tooLarge, rfl, rfl⟩
    · rw [recItems_cons L b hb]
      have h1 := recV_tail L x
      have h2 := recItems_tail L (b.map (· - 1)) xs
      unfold catS
      rcases h1 with h1 | ⟨e, h1, hl⟩
      · rw [h1]; exact h2
      · rw [h1]; exact Or.inr ⟨e, rfl, hl⟩
end

mutual
theorem recV_rel {lo hi : Lim} (h : Lim.le lo hi) : ∀ v : Value, RelS (recV lo v) (recV hi v)
  | .iter l => by unfold recV; exact recItems_rel h l lo.N hi.N h.1
  | .null => RelS.refl _
  | .bool _ => RelS.refl _
  | .int _ => RelS.refl _
  | .flt _ => RelS.refl _
  | .str _ => RelS.refl _
  | .tuple _ => RelS.refl _
  | .list _ => RelS.refl _
  | .dict _ => RelS.refl _
  | .set _ => RelS.refl _
  | .host _ => RelS.refl _
theorem recItems_rel {lo hi : Lim} (h : Lim.le lo hi) : ∀ (xs : VL) (b b' : Option Nat), BLe b b' →
    RelS (recItems lo b xs) (recItems hi b' xs)
  | [], b, b', _ => by rw [recItems_nil, recItems_nil]; exact RelS.refl _
  | x :: xs, b, b', hb => by
    by_cases h0 : b = some 0
    · subst h0; exact RelS.cut rfl List.nil_prefix _
    · have h0' := hb.ne_zero h0
      rw [recItems_cons lo b h0, recItems_cons hi b' h0']
      exact catS_rel (recV_rel h x) (recItems_rel h xs _ _ hb.pred)
end

theorem recItems_prefix {lo hi : Lim} (h : Lim.le lo hi) : ∀ (xs ys : VL) (b b' : Option Nat), xs <+: ys → BLe b b' →
    RelP (recItems lo b xs) (recItems hi b' ys)
  | [], ys, b, b', _, _ => by rw [recItems_nil]; exact ⟨List.nil_prefix, Or.inl rfl⟩
  | x :: xs, ys, b, b', hp, hb => by
    obtain ⟨t, rfl⟩ := hp
    by_cases h0 : b = some 0
    · subst h0; exact ⟨List.nil_prefix, Or.inr ⟨.tooLarge, rfl, rfl⟩⟩
    · have h0' := hb.ne_zero h0
      rw [recItems_cons lo b h0, List.cons_append, recItems_cons hi b' h0']
      exact catS_relP (recV_rel h x) (recV_tail lo x) (recItems_prefix h xs (xs ++ t) _ _ (List.prefix_append _ _) hb.pred)

theorem listArgL_rel {lo hi : Lim} (h : Lim.le lo hi) {o o' : ObjL} (ho : RelO o o') :
    RelS (listArgL lo o) (listArgL hi o') := by
  have lazyCase : ∀ {s s' : VL × Option LErr}, RelS s s' →
      RelS (catS (recItems lo none (limitLazy lo s).1) ([], (limitLazy lo s).2))
        (catS (recItems hi none (limitLazy hi s').1) ([], (limitLazy hi s').2)) := by
    intro s s' hs
    rcases (limitLazy_rel h hs).cases with heq | ⟨xs, e, ys, t, heq, heq', hl, hp⟩
    · rw [← heq]
      exact catS_rel (recItems_rel h _ none none (Or.inl rfl)) (RelS.refl _)
    · rw [heq, heq']
      exact catS_cut (recItems_prefix h xs ys none none hp (Or.inl rfl)) hl _
  cases ho with
  | refl =>
    unfold listArgL
    split
    · exact lazyCase (RelS.refl _)
    · exact recV_rel h _
    · exact RelS.refl _
  | lazy hs => exact lazyCase hs
  | ordered hs => exact RelS.refl _

theorem catStreams_rel {ps ps' : List (VL × Option LErr)} (h : RelL RelS ps ps') :
    RelS (catStreams ps) (catStreams ps') := by
  induction h with
  | nil => exact RelS.refl _
  | cons h1 _ ih => exact catS_rel h1 ih

theorem listArgs_rel {lo hi : Lim} (h : Lim.le lo hi) (c : ECfg) {os os' : List ObjL} (ho : RelL RelO os os') :
    os.map (objSz c) = os'.map (objSz c) ∧ RelL RelS (os.map (listArgL lo)) (os'.map (listArgL hi)) := by
  induction ho with
  | nil => exact ⟨rfl, .nil⟩
  | cons h1 _ ih => exact ⟨by simp only [List.map_cons, objSz_rel c h1, ih.1], .cons (listArgL_rel h h1) ih.2⟩

/-! ## `dict(items)` -/

theorem dictItemsL_rel {lo hi : Lim} (h : Lim.le lo hi) (c : ECfg) : ∀ (xs : VL) (acc : KV),
    RelR Eq (dictItemsL c lo acc xs) (dictItemsL c hi acc xs)
  | [], acc => RelR.ok rfl
  | it :: r, acc => by
    unfold dictItemsL
    refine (RelR.refl (fun _ => rfl) _).bindEq fun p => (measure_rel h _).bindEq fun _ => ?_
    exact (dictItemsL_rel h c r _).bindEq fun rest => RelR.ok rfl

/-- the items of a source that the limiter cut: the `lo` side never raises a definite exception -/
theorem hideBase_cut {x : RL α} {e : LErr} (he : isLim e = true) (y : RL ObjL) :
    RelR RelO (do let _ ← hideBase x; (.error e : RL ObjL)) y := by
  cases x with
  | ok a => exact RelR.lim he _
  | error e' =>
    cases e' with
    | base b => exact RelR.ood _
    | quota => exact RelR.quota _
    | tooLarge => exact RelR.tooLarge _

/-! ## methods -/

/-- the `hi` run may still stop without a prediction where the `lo` run has its answer already -/
theorem RelR.totHi {ra : α → γ → Prop} {x : RL α} {y : RL β} (hy : Tot y) {g : β → RL γ}
    (hg : ∀ b, RelR ra x (g b)) : RelR ra x (y >>= g) := by
  cases y with
  | error e => exact RelR.nopHi (hy e rfl) _
  | ok b => exact hg b

theorem RelR.cutOrdered {e : LErr} (he : isLim e = true) {y : RL (VL × Option LErr)} (hy : Tot y) :
    RelR RelO (.ok (.ordered [] (some e))) (do let t ← y; pure (ObjL.ordered t.1 t.2)) :=
  RelR.totHi hy fun _ => RelR.ok (RelO.ordered (RelS.cut he List.nil_prefix _))

theorem orderByK_rel {lo hi : Lim} (h : Lim.le lo hi) (c : ECfg) {ev ev' : EvL} (hev : LeEv ev ev') (C : Ctx)
    (l : Expr) (asc : Bool) {s s' : VL × Option LErr} (hs : RelS s s') :
    RelR RelO
      (match s.2 with
        | some er => (pure (ObjL.ordered [] (some er)) : RL ObjL)
        | none => do
          let ks ← if s.1.length ≤ 1 then pure [] else keysL (fun x => lamVL ev C l [x]) s.1
          let t ← sortKeyedL c lo asc s.1 ks
          pure (ObjL.ordered t.1 t.2))
      (match s'.2 with
        | some er => (pure (ObjL.ordered [] (some er)) : RL ObjL)
        | none => do
          let ks ← if s'.1.length ≤ 1 then pure [] else keysL (fun x => lamVL ev' C l [x]) s'.1
          let t ← sortKeyedL c hi asc s'.1 ks
          pure (ObjL.ordered t.1 t.2)) := by
  rcases hs.cases with rfl | ⟨xs, e0, ys, e', rfl, rfl, hl, _⟩
  · obtain ⟨xs, e⟩ := s
    cases e with
    | some er => exact RelR.ok (RelO.refl _)
    | none =>
      dsimp only
      split
      · exact (sortKeyedL_rel h c asc xs .nil).bind fun t t' ht => RelR.ok (RelO.ordered ht)
      · exact (keysL_rel (fun x => lamVL_rel hev _ _ _) xs).bind fun ks ks' hk =>
          (sortKeyedL_rel h c asc xs hk).bind fun t t' ht => RelR.ok (RelO.ordered ht)
  · cases e' with
    | some er => exact RelR.ok (RelO.ordered (RelS.cut hl List.nil_prefix _))
    | none =>
      dsimp only
      split
      · exact RelR.cutOrdered hl (sortKeyedL_tot _ _ _ _ _)
      · exact RelR.totHi (keysL_tot _ _) fun ks => RelR.cutOrdered hl (sortKeyedL_tot _ _ _ _ _)

theorem foldHead_rel {f g : Value → Value → RL Value} (hf : ∀ a x, RelR Eq (f a x) (g a x))
    {s s' : VL × Option LErr} (hs : RelS s s') :
    RelR RelO
      (match s.1, s.2 with
        | [], none => (.error (.base .type) : RL ObjL)
        | [], some er => .error er
        | x :: xs, e => do let v ← foldL f x xs e; pure (.val v))
      (match s'.1, s'.2 with
        | [], none => (.error (.base .type) : RL ObjL)
        | [], some er => .error er
        | x :: xs, e => do let v ← foldL g x xs e; pure (.val v)) := by
  obtain ⟨xs, e⟩ := s
  obtain ⟨ys, e'⟩ := s'
  cases xs with
  | nil =>
    rcases hs.nil with ⟨rfl, rfl⟩ | ⟨e0, rfl, hl⟩
    · cases e' <;> exact RelR.err _
    · exact RelR.lim hl _
  | cons x xs =>
    obtain ⟨ys', rfl, hs'⟩ := hs.uncons
    exact (foldL_rel hf xs x e ys' e' hs').bindEq fun v => RelR.ok (RelO.refl _)

/-- `first()` / `first(default)`: `z` is what an exhausted source gives -/
theorem firstK_rel {s s' : VL × Option LErr} (hs : RelS s s') {z z' : RL ObjL} (hz : RelR RelO z z') :
    RelR RelO
      (match s.1, s.2 with
        | x :: _, _ => (pure (.val x) : RL ObjL)
        | [], some er => .error er
        | [], none => z)
      (match s'.1, s'.2 with
        | x :: _, _ => (pure (.val x) : RL ObjL)
        | [], some er => .error er
        | [], none => z') := by
  obtain ⟨xs, e⟩ := s
  obtain ⟨ys, e'⟩ := s'
  cases xs with
  | nil =>
    rcases hs.nil with ⟨rfl, rfl⟩ | ⟨e0, rfl, hl⟩
    · cases e' with
      | none => exact hz
      | some er => exact RelR.err _
    · exact RelR.lim hl _
  | cons x xs =>
    obtain ⟨ys', rfl, _⟩ := hs.uncons
    exact RelR.ok (RelO.refl _)

theorem take_relS {s s' : VL × Option LErr} (hs : RelS s s') (n : Nat) :
    RelS (s.1.take n, if n ≤ s.1.length then none else s.2) (s'.1.take n, if n ≤ s'.1.length then none else s'.2) := by
  rcases hs.cases with rfl | ⟨xs, e, ys, t, rfl, rfl, hl, hp⟩
  · exact RelS.refl _
  · obtain ⟨r, rfl⟩ := hp
    dsimp only
    by_cases hn : n ≤ xs.length
    · have hn' : n ≤ (xs ++ r).length := by simp only [List.length_append]; omega
      rw [if_pos hn, if_pos hn', List.take_append_of_le_length hn]
      exact RelS.refl _
    · rw [if_neg hn, List.take_of_length_le (by omega)]
      exact RelS.cut hl (List.prefix_take_iff.2 ⟨List.prefix_append _ _, by omega⟩) _

theorem drop_relS {s s' : VL × Option LErr} (hs : RelS s s') (n : Nat) : RelS (s.1.drop n, s.2) (s'.1.drop n, s'.2) := by
  rcases hs.cases with rfl | ⟨xs, e, ys, t, rfl, rfl, hl, hp⟩
  · exact RelS.refl _
  · obtain ⟨r, rfl⟩ := hp
    refine RelS.cut hl ?_ _
    rw [List.drop_append]
    exact List.prefix_append _ _

theorem intArg_rel {ev ev' : EvL} (hev : LeEv ev ev') (C : Ctx) (bad : Eval.Err) (n : Expr) :
    RelR Eq (do let no ← ev C n; intArg bad no) (do let no ← ev' C n; intArg bad no) := by
  refine (hev C n).bind fun no no' hno => ?_
  cases hno with
  | refl => exact RelR.refl (fun _ => rfl) _
  | lazy hs => exact RelR.ood _
  | ordered hs => exact RelR.ood _

theorem unpackNames_rel {ev ev' : EvL} (hev : LeEv ev ev') (C : Ctx) (bad : Eval.Err) (names : List Expr) :
    RelR Eq (unpackNames ev C bad names) (unpackNames ev' C bad names) := by
  unfold unpackNames
  split
  · exact RelR.err _
  · exact (evalListL_rel hev C names).bindEq fun ns => RelR.refl (fun _ => rfl) _

theorem callMethodL_rel {lo hi : Lim} (h : Lim.le lo hi) (c : ECfg) {ev ev' : EvL} (hev : LeEv ev ev') (C : Ctx)
    (bad : Eval.Err) {r r' : ObjL} (hr : RelO r r') (f : Fn) (args : List Expr) :
    RelR RelO (callMethodL c lo ev C bad r f args) (callMethodL c hi ev' C bad r' f args) := by
  have lamV : ∀ l args, RelR Eq (lamVL ev C l args) (lamVL ev' C l args) := lamVL_rel hev C
  have lamB : ∀ l args, RelR Eq (lamBL ev C l args) (lamBL ev' C l args) := lamBL_rel hev C
  have gen : ∀ {x y : RL (VL × Option LErr)}, RelR RelS x y →
      RelR RelO (do let t ← x; pure (ObjL.lazy t.1 t.2)) (do let t ← y; pure (ObjL.lazy t.1 t.2)) :=
    fun hxy => hxy.bind fun t t' ht => RelR.ok (RelO.lazy ht)
  have val : ∀ {α : Type} {x y : RL α} (g : α → Value), RelR Eq x y →
      RelR RelO (do let t ← x; pure (ObjL.val (g t))) (do let t ← y; pure (ObjL.val (g t))) :=
    fun _ hxy => hxy.bindEq fun _ => RelR.ok (RelO.refl _)
  have len : ∀ {o o' : ObjL}, RelO o o' →
      RelR RelO (do let s ← bindIter c lo o; let l ← drain s; pure (ObjL.val (.int l.length)))
        (do let s ← bindIter c hi o'; let l ← drain s; pure (ObjL.val (.int l.length))) :=
    fun ho => (bindIter_rel h c ho).bind fun s s' hs => val _ (drain_rel hs)
  unfold callMethodL
  split
  · -- select
    exact withIter_rel_unit h c bad hr fun s s' hs => gen (mapL_rel (fun x => lamV _ _) _ _ _ _ hs)
  · -- where
    exact withIter_rel_unit h c bad hr fun s s' hs => gen (filterL_rel (fun x => lamB _ _) _ _ _ _ hs)
  · -- selectMany
    exact withIter_rel_unit h c bad hr fun s s' hs => gen (flatMapL_rel (fun x => lamManyL_rel hev _ _ _) _ _ _ _ hs)
  · -- takeWhile
    exact withIter_rel_unit h c bad hr fun s s' hs => gen (takeWhileL_rel (fun x => lamB _ _) _ _ _ _ hs)
  · -- skipWhile
    exact withIter_rel_unit h c bad hr fun s s' hs => gen (dropWhileL_rel (fun x => lamB _ _) _ _ _ _ hs)
  · -- orderBy
    exact withIter_rel_unit h c bad hr fun s s' hs => orderByK_rel h c hev C _ true hs
  · -- orderByDescending
    exact withIter_rel_unit h c bad hr fun s s' hs => orderByK_rel h c hev C _ false hs
  · -- any()
    exact withIter_rel_unit h c bad hr fun s s' hs => val _ (findL_rel (fun _ => RelR.ok rfl) _ 0 _ _ _ hs)
  · -- any(p)
    exact withIter_rel_unit h c bad hr fun s s' hs => val _ (findL_rel (fun x => lamB _ _) _ 0 _ _ _ hs)
  · -- all()
    exact withIter_rel_unit h c bad hr fun s s' hs => val _ (findL_rel (fun _ => RelR.ok rfl) _ 0 _ _ _ hs)
  · -- all(p)
    exact withIter_rel_unit h c bad hr fun s s' hs =>
      val _ (findL_rel (fun x => (lamB _ _).bindEq fun _ => RelR.ok rfl) _ 0 _ _ _ hs)
  · -- indexWhere
    exact withIter_rel_unit h c bad hr fun s s' hs => val _ (findL_rel (fun x => lamB _ _) _ 0 _ _ _ hs)
  · -- toDict(k)
    exact withIter_rel_unit h c bad hr fun s s' hs =>
      val _ (toDictL_rel h c (fun x => lamV _ _) (fun _ => RelR.ok rfl) _ [] _ _ _ hs)
  · -- toDict(k, v)
    exact withIter_rel_unit h c bad hr fun s s' hs =>
      val _ (toDictL_rel h c (fun x => lamV _ _) (fun x => lamV _ _) _ [] _ _ _ hs)
  · -- aggregate(f)
    exact withIter_rel_unit h c bad hr fun s s' hs => foldHead_rel (fun a b => lamV _ _) hs
  · -- aggregate(f, seed)
    refine withIter_rel h c bad hr (toVpre_rel hev C _) ?_
    rintro sd _ s s' rfl hs
    exact (measure_rel h _).bindEq fun _ => val _ (foldL_rel (fun a b => lamV _ _) _ sd _ _ _ hs)
  · -- sum()
    exact withIter_rel_unit h c bad hr fun s s' hs => foldHead_rel (fun a b => binCall_rel h c .add a b) hs
  · -- sum(init)
    refine withIter_rel h c bad hr (toVpre_rel hev C _) ?_
    rintro sd _ s s' rfl hs
    exact (measure_rel h _).bindEq fun _ => val _ (foldL_rel (fun a b => binCall_rel h c .add a b) _ sd _ _ _ hs)
  · -- first()
    exact withIter_rel_unit h c bad hr fun s s' hs => firstK_rel hs (RelR.err _)
  · -- first(default)
    refine withIter_rel h c bad hr (hev C _) fun d d' s s' hd hs => ?_
    rw [objSz_rel c hd]
    exact (measure_rel h _).bindEq fun _ => firstK_rel hs (RelR.ok hd)
  · -- toList
    exact withIter_rel_unit h c bad hr fun s s' hs => val _ (drain_rel hs)
  · -- take
    refine withIter_rel h c bad hr (intArg_rel hev C bad _) ?_
    rintro k _ s s' rfl hs
    refine (measure_rel h _).bindEq fun _ => ?_
    split
    · exact RelR.err _
    · exact RelR.ok (RelO.lazy (take_relS hs _))
  · -- skip
    refine withIter_rel h c bad hr (intArg_rel hev C bad _) ?_
    rintro k _ s s' rfl hs
    refine (measure_rel h _).bindEq fun _ => ?_
    split
    · exact RelR.err _
    · exact RelR.ok (RelO.lazy (drop_relS hs _))
  · -- len
    cases hr with
    | refl =>
      split
      · exact (measure_rel h _).bindEq fun _ => RelR.ok (RelO.refl _)
      · exact (measure_rel h _).bindEq fun _ => RelR.ok (RelO.refl _)
      · exact len (RelO.refl _)
      · exact len (RelO.refl _)
      · exact (measure_rel h _).bindEq fun _ => RelR.ok (RelO.refl _)
      · exact (measure_rel h _).bindEq fun _ => RelR.ok (RelO.refl _)
      · exact RelR.err _
      · exact RelR.err _
    | lazy hs => exact len (RelO.lazy hs)
    | ordered hs => exact RelR.err _
  · -- get(k)
    cases hr with
    | refl =>
      split
      · refine hev.bindV C _ fun kv => ?_
        exact (measure_rel h _).bindEq fun _ => (measure_rel h _).bindEq fun _ => RelR.refl RelO.refl _
      · exact RelR.err _
    | lazy hs => exact RelR.err _
    | ordered hs => exact RelR.err _
  · -- get(k, default)
    cases hr with
    | refl =>
      split
      · refine hev.bindV C _ fun kv => hev.bindV C _ fun dv => ?_
        refine (measure_rel h _).bindEq fun _ => (measure_rel h _).bindEq fun _ => ?_
        exact (measure_rel h _).bindEq fun _ => RelR.refl RelO.refl _
      · exact RelR.err _
    | lazy hs => exact RelR.err _
    | ordered hs => exact RelR.err _
  · -- unpack
    refine withIter_rel h c bad hr (unpackNames_rel hev C bad _) ?_
    rintro nm _ s s' rfl hs
    refine (measureEach_rel h _).bindEq fun _ => ?_
    rcases hs.cases with rfl | ⟨xs, e0, ys, t, rfl, rfl, hl, hp⟩
    · exact RelR.refl RelO.refl _
    · dsimp only
      by_cases hc : (decide (nm.2.length = 0) || decide (xs.length < nm.2.length + 1)) = true
      · rw [if_pos hc]; exact RelR.lim hl _
      · -- names are given and `lo` saw one item too many before it was cut: so does `hi`, and both refuse
        rw [if_neg hc]
        have hn : ¬ nm.2.length = 0 := fun hn => hc (by simp [hn])
        have hlen : ¬ xs.length < nm.2.length + 1 := fun hl => hc (by simp [hl])
        have hys : ¬ ys.length < nm.2.length + 1 := by
          have := hp.length_le
          omega
        have hc' : ¬ (decide (nm.2.length = 0) || decide (ys.length < nm.2.length + 1)) = true := by simp [hn, hys]
        have b1 : ((xs.take (nm.2.length + 1)).length != nm.2.length) = true := by
          rw [List.length_take, Nat.min_eq_left (by omega)]; simp
        have b2 : ((ys.take (nm.2.length + 1)).length != nm.2.length) = true := by
          rw [List.length_take, Nat.min_eq_left (by omega)]; simp
        rw [if_neg hc']
        dsimp only
        rw [if_neg hn, if_neg hn, if_pos b1, if_pos b2]
        exact RelR.err _
  all_goals exact RelR.err _

/-! ## functions, nodes, the interpreter -/

theorem fnAsMethod_rel {lo hi : Lim} (h : Lim.le lo hi) (c : ECfg) {ev ev' : EvL} (hev : LeEv ev ev') (C : Ctx)
    (b : Bool) (recv : Expr) (f : Fn) (rest : List Expr) :
    RelR RelO
      (if (!b) = true then .error (.base .noFunction)
        else do let r ← ev C recv; callMethodL c lo ev C .noFunction r f rest)
      (if (!b) = true then .error (.base .noFunction)
        else do let r ← ev' C recv; callMethodL c hi ev' C .noFunction r f rest) := by
  split
  · exact RelR.err _
  · exact (hev C _).bind fun r r' hr => callMethodL_rel h c hev C _ hr _ _

theorem callFnL_rel {lo hi : Lim} (h : Lim.le lo hi) (c : ECfg) {ev ev' : EvL} (hev : LeEv ev ev') (C : Ctx)
    (f : Fn) (args : List Expr) (kw : List (Expr × Expr)) :
    RelR RelO (callFnL c lo ev C f args kw) (callFnL c hi ev' C f args kw) := by
  unfold callFnL
  split
  · -- let
    refine (RelR.refl (fun _ => rfl) _).bindEq fun names => ?_
    refine (evalListL_rel hev C _).bindEq fun vs => (evalListL_rel hev C _).bindEq fun kvs => ?_
    exact (measureEach_rel h _).bindEq fun _ => (measureEach_rel h _).bindEq fun _ => RelR.ok (RelO.refl _)
  · -- with
    split
    · exact RelR.refl RelO.refl _
    · exact (evalListL_rel hev C _).bindEq fun vs => (measureEach_rel h _).bindEq fun _ => RelR.ok (RelO.refl _)
  · -- def
    split
    · exact RelR.err _
    · split
      · refine (hev C _).bind fun no no' hno => ?_
        cases hno with
        | refl =>
          split
          · exact (measure_rel h _).bindEq fun _ => RelR.ok (RelO.refl _)
          · exact RelR.refl RelO.refl _
        | lazy hs => exact RelR.ood _
        | ordered hs => exact RelR.ood _
      · exact RelR.err _
  · -- list
    split
    · exact RelR.err _
    · refine (evalObjsL_rel hev C _).bind fun os os' hos => ?_
      obtain ⟨hsz, hstr⟩ := listArgs_rel h c hos
      rw [hsz]
      refine (measureEach_rel h _).bindEq fun _ => (measure_rel h _).bindEq fun _ => ?_
      exact (drain_rel (limitLazy_rel h (catStreams_rel hstr))).bindEq fun xs => RelR.ok (RelO.refl _)
  · -- dict
    split
    · exact (evalPairsL_rel hev C _).bindEq fun ps => (measureAll_rel h _).bindEq fun _ => RelR.refl RelO.refl _
    · refine (hev C _).bind fun o o' ho => ?_
      rcases toIterL_rel ho with ⟨h1, h2⟩ | ⟨t, t', h1, h2, _⟩
      · rw [h1, h2]; exact RelR.err _
      · rw [h1, h2]
        dsimp only
        refine (bindIter_rel h c ho).bind fun s s' hs => ?_
        rcases hs.cases with rfl | ⟨xs, e0, ys, tl', rfl, rfl, h4, _⟩
        · obtain ⟨xs, tl⟩ := s
          match tl with
          | some (.base b) => exact RelR.err _
          | some .quota => exact hideBase_cut rfl _
          | some .tooLarge => exact hideBase_cut rfl _
          | none => exact (dictItemsL_rel h c xs []).bindEq fun ps => RelR.refl RelO.refl _
        · cases e0 with
          | base b => cases h4
          | quota => exact hideBase_cut rfl _
          | tooLarge => exact hideBase_cut rfl _
    · exact RelR.err _
  -- len / any / all as functions; everything else is a method only
  all_goals first
    | exact RelR.err _
    | (split
       · exact RelR.err _
       · split
         · exact RelR.err _
         · exact fnAsMethod_rel h c hev C _ _ _ _)

theorem rawL_rel {lo hi : Lim} (h : Lim.le lo hi) (c : ECfg) {ev ev' : EvL} (hev : LeEv ev ev') (C : Ctx) (e : Expr) :
    RelR RelO (rawL c lo ev C e) (rawL c hi ev' C e) := by
  unfold rawL
  split
  · exact RelR.ok (RelO.refl _)
  · exact RelR.ok (RelO.refl _)
  · exact RelR.refl RelO.refl _
  · -- [..]
    refine (evalListL_rel hev C _).bindEq fun vs => ?_
    exact (measureEach_rel h _).bindEq fun _ => (measureAll_rel h _).bindEq fun _ => RelR.ok (RelO.refl _)
  · -- {..}
    exact (evalPairsL_rel hev C _).bindEq fun ps => (measureAll_rel h _).bindEq fun _ => RelR.refl RelO.refl _
  · -- e[..]
    split
    · exact (hev C _).bind fun r r' hr => (evalListL_rel hev C _).bindEq fun vs => indexerL_rel h c hr vs
    · exact RelR.err _
  · -- unary
    exact (hev C _).bind fun r r' hr => unopL_rel h c _ hr
  · -- and
    refine (hev C _).bind fun x x' hx => ?_
    rw [truthyObjL_rel hx]
    split
    · exact hev C _
    · exact RelR.ok hx
  · -- or
    refine (hev C _).bind fun x x' hx => ?_
    rw [truthyObjL_rel hx]
    split
    · exact RelR.ok hx
    · exact hev C _
  · -- strict binary
    split
    · exact (hev C _).bind fun x x' hx => (hev C _).bind fun y y' hy => binopL_rel h c _ hx hy
    · exact RelR.err _
  · -- ->
    refine (hev C _).bind fun cx cx' hcx => ?_
    cases hcx with
    | refl =>
      split
      · exact (measure_rel h _).bindEq fun _ => hev _ _
      · exact RelR.err _
    | lazy hs => exact RelR.err _
    | ordered hs => exact RelR.err _
  · -- member
    exact (hev C _).bind fun r r' hr => memberOfL_rel h c _ hr
  · exact callFnL_rel h c hev C _ _ _
  · -- def-ined function
    split
    · exact RelR.err _
    · refine (RelR.refl (fun _ => rfl) _).bindEq fun names => ?_
      refine (evalListL_rel hev C _).bindEq fun vs => (evalListL_rel hev C _).bindEq fun kvs => ?_
      exact (measureEach_rel h _).bindEq fun _ => (measureEach_rel h _).bindEq fun _ => hev _ _
  · -- method
    refine (hev C _).bind fun r r' hr => ?_
    split
    · exact RelR.err _
    · rw [objSz_rel c hr]
      exact (measure_rel h _).bindEq fun _ => callMethodL_rel h c hev C _ hr _ _
  · -- unknown method
    refine (hev C _).bind fun r r' hr => ?_
    rw [objSz_rel c hr]
    exact (measure_rel h _).bindEq fun _ => RelR.err _

theorem stepL_rel {lo hi : Lim} (h : Lim.le lo hi) (c : ECfg) {ev ev' : EvL} (hev : LeEv ev ev') :
    LeEv (stepL c lo ev) (stepL c hi ev') := by
  intro C e
  unfold stepL
  split
  · exact rawL_rel h c hev C e
  · refine (rawL_rel h c hev C e).bind fun o o' ho => ?_
    rw [objSz_rel c ho]
    exact (measure_rel h _).bindEq fun _ => RelR.ok ho

theorem evalL_rel {lo hi : Lim} (h : Lim.le lo hi) (c : ECfg) : ∀ n, LeEv (evalL c lo n) (evalL c hi n)
  | 0 => fun _ _ => RelR.err _
  | n + 1 => stepL_rel h c (evalL_rel h c n)

/-! ## the finaliser -/

theorem measure_lon (L : Lim) (s : Option Sz) : LimOrNop (EvalLimits.measure L s) := measureAll_lon L [s]

theorem walkL_nil (c : ECfg) (L : Lim) (b : Option Nat) : walkL c L b [] = .ok () := by
  cases b with
  | none => rfl
  | some n => cases n <;> rfl

theorem walkL_zero (c : ECfg) (L : Lim) (x : Value) (xs : VL) : walkL c L (some 0) (x :: xs) = .error .tooLarge := rfl

theorem walkL_cons (c : ECfg) (L : Lim) (b : Option Nat) (hb : b ≠ some 0) (x : Value) (xs : VL) :
    walkL c L b (x :: xs) = (do walkV c L x; walkL c L (b.map (· - 1)) xs) := by
  cases b with
  | none => rfl
  | some n =>
    cases n with
    | zero => exact absurd rfl hb
    | succ k => rfl

mutual
theorem walkV_lon (c : ECfg) (L : Lim) : ∀ v : Value, LimOrNop (walkV c L v)
  | .tuple l => by
    unfold walkV
    exact LimOrNop.bind (measure_lon _ _) (fun _ => LimOrNop.bind (limitLen_lon _ _) (fun _ => walkL_lon c L none l))
  | .list l => by
    unfold walkV
    exact LimOrNop.bind (measure_lon _ _) (fun _ => LimOrNop.bind (limitLen_lon _ _) (fun _ => walkL_lon c L none l))
  | .set l => by
    unfold walkV
    exact LimOrNop.bind (measure_lon _ _) (fun _ => LimOrNop.bind (limitLen_lon _ _) (fun _ => walkL_lon c L none l))
  | .iter l => by
    unfold walkV
    exact LimOrNop.bind (measure_lon _ _) (fun _ => walkL_lon c L L.N l)
  | .dict kvs => by
    unfold walkV
    exact LimOrNop.bind (limitLen_lon _ _) (fun _ => walkP_lon c L kvs)
  | .null => LimOrNop.ok _
  | .bool _ => LimOrNop.ok _
  | .int _ => LimOrNop.ok _
  | .flt _ => LimOrNop.ok _
  | .str _ => LimOrNop.ok _
  | .host _ => LimOrNop.ok _
theorem walkL_lon (c : ECfg) (L : Lim) : ∀ (b : Option Nat) (xs : VL), LimOrNop (walkL c L b xs)
  | b, [] => by rw [walkL_nil]; exact LimOrNop.ok _
  | b, x :: xs => by
    by_cases hb : b = some 0
    · subst hb; exact LimOrNop.lim rfl
    · rw [walkL_cons c L b hb]
      exact LimOrNop.bind (walkV_lon c L x) (fun _ => walkL_lon c L _ xs)
theorem walkP_lon (c : ECfg) (L : Lim) : ∀ kvs : List (Value × Value), LimOrNop (walkP c L kvs)
  | [] => LimOrNop.ok _
  | (k, v) :: r => by
    unfold walkP
    exact LimOrNop.bind (walkV_lon c L k) (fun _ => LimOrNop.bind (walkV_lon c L v) (fun _ => walkP_lon c L r))
end

mutual
theorem walkV_rel {lo hi : Lim} (h : Lim.le lo hi) (c : ECfg) : ∀ v : Value,
    RelR (fun _ _ => True) (walkV c lo v) (walkV c hi v)
  | .tuple l => by
    unfold walkV
    exact (measure_rel h _).bindEq fun _ => (limitLen_rel h _).bindEq fun _ => walkL_rel h c l none none (Or.inl rfl)
  | .list l => by
    unfold walkV
    exact (measure_rel h _).bindEq fun _ => (limitLen_rel h _).bindEq fun _ => walkL_rel h c l none none (Or.inl rfl)
  | .set l => by
    unfold walkV
    exact (measure_rel h _).bindEq fun _ => (limitLen_rel h _).bindEq fun _ => walkL_rel h c l none none (Or.inl rfl)
  | .iter l => by
    unfold walkV
    exact (measure_rel h _).bindEq fun _ => walkL_rel h c l lo.N hi.N h.1
  | .dict kvs => by
    unfold walkV
    exact (limitLen_rel h _).bindEq fun _ => walkP_rel h c kvs
  | .null => RelR.ok trivial
  | .bool _ => RelR.ok trivial
  | .int _ => RelR.ok trivial
  | .flt _ => RelR.ok trivial
  | .str _ => RelR.ok trivial
  | .host _ => RelR.ok trivial
theorem walkL_rel {lo hi : Lim} (h : Lim.le lo hi) (c : ECfg) : ∀ (xs : VL) (b b' : Option Nat), BLe b b' →
    RelR (fun _ _ => True) (walkL c lo b xs) (walkL c hi b' xs)
  | [], b, b', _ => by rw [walkL_nil, walkL_nil]; exact RelR.ok trivial
  | x :: xs, b, b', hb => by
    by_cases h0 : b = some 0
    · subst h0; exact RelR.tooLarge _
    · have h0' := hb.ne_zero h0
      rw [walkL_cons c lo b h0, walkL_cons c hi b' h0']
      exact (walkV_rel h c x).bind fun _ _ _ => walkL_rel h c xs _ _ hb.pred
theorem walkP_rel {lo hi : Lim} (h : Lim.le lo hi) (c : ECfg) : ∀ kvs : List (Value × Value),
    RelR (fun _ _ => True) (walkP c lo kvs) (walkP c hi kvs)
  | [] => RelR.ok trivial
  | (k, v) :: r => by
    unfold walkP
    exact (walkV_rel h c k).bind fun _ _ _ => (walkV_rel h c v).bind fun _ _ _ => walkP_rel h c r
end

theorem afterWalk_lon (ok : Bool) {w : RL Unit} (hw : LimOrNop w) : LimOrNop (afterWalk ok w) := by
  cases w with
  | ok a => exact LimOrNop.ok _
  | error e =>
    unfold afterWalk
    dsimp only
    split
    · intro e' h'; cases h'; exact Or.inr rfl
    · intro e' h'; cases h'; exact hw e rfl

theorem afterWalk_lo {ra : α → β → Prop} (ok : Bool) {e : LErr} (he : isLim e = true ∨ noPred e = true)
    (f : Unit → RL α) (y : RL β) : RelR ra (afterWalk ok (.error e) >>= f) y := by
  cases hw : afterWalk ok (.error e) with
  | ok u => unfold afterWalk at hw; dsimp only at hw; split at hw <;> cases hw
  | error e1 => exact RelR.lo (afterWalk_lon ok (fun _ h => by cases h; exact he) e1 hw) _

theorem afterWalk_rel (ok : Bool) {w w' : RL Unit} (hw : RelR (fun _ _ => True) w w') :
    RelR Eq (afterWalk ok w) (afterWalk ok w') := by
  rcases hw with ⟨eh, rfl, hn⟩ | ⟨el, rfl, hl⟩ | ⟨e, rfl, rfl⟩ | ⟨a, b, rfl, rfl, _⟩
  · -- "no prediction" stays
    have : afterWalk ok (.error eh) = .error eh := by
      unfold afterWalk
      cases eh with
      | base b => rfl
      | quota => cases hn
      | tooLarge => cases hn
    rw [this]; exact RelR.nopHi hn _
  · have := afterWalk_lo (ra := Eq) ok hl pure (afterWalk ok w')
    rwa [bind_pure] at this
  · exact RelR.refl (fun _ => rfl) _
  · exact RelR.ok rfl

theorem finIter_rel {lo hi : Lim} (h : Lim.le lo hi) (c : ECfg) {s s' : VL × Option LErr} (hs : RelS s s') :
    RelR Eq (finIter c lo s) (finIter c hi s') := by
  rcases hs.cases with rfl | ⟨xs, e0, ys, tl', rfl, rfl, h2, _⟩
  · unfold finIter
    split
    · exact RelR.err _
    · refine (afterWalk_rel _ ((walkL_rel h c s.1 none none (Or.inl rfl)).bind
        fun _ _ _ => RelR.refl (fun _ => trivial) _)).bindEq fun _ => ?_
      split
      · exact (measure_rel h _).bindEq fun _ => RelR.ok rfl
      · exact RelR.err _
  · -- the `lo` source is cut by a limit: whatever happens, the `lo` finaliser ends in a limit exception
    have hun : finIter c lo (xs, some e0) =
        (do afterWalk (Seq.finOkL xs) (do walkL c lo none xs; (.error e0 : RL Unit))
            if Seq.finOkL xs then do
              EvalLimits.measure lo (outSize c (.list xs))
              pure (Final.data (.list xs))
            else .error (.base .type)) := by
      cases e0 with
      | base b => cases h2
      | quota => rfl
      | tooLarge => rfl
    rw [hun]
    cases hw : walkL c lo none xs with
    | ok u => exact afterWalk_lo _ (Or.inl h2) _ _
    | error e1 => exact afterWalk_lo _ (walkL_lon c lo none xs e1 hw) _ _

theorem finVal_rel {lo hi : Lim} (h : Lim.le lo hi) (c : ECfg) (v : Value) :
    RelR Eq (finVal c lo v) (finVal c hi v) := by
  unfold finVal
  refine (measure_rel h _).bindEq fun _ => (afterWalk_rel _ (walkV_rel h c v)).bindEq fun _ => ?_
  split
  · exact (measure_rel h _).bindEq fun _ => RelR.ok rfl
  · exact RelR.err _

theorem finaliseL_rel {lo hi : Lim} (h : Lim.le lo hi) (c : ECfg) {o o' : ObjL} (ho : RelO o o') :
    RelR Eq (finaliseL c lo o) (finaliseL c hi o') := by
  have iter : ∀ {o o' : ObjL}, RelO o o' →
      RelR Eq (do EvalLimits.measure lo (objSz c o); let s ← bindIter c lo o; finIter c lo s)
        (do EvalLimits.measure hi (objSz c o'); let s ← bindIter c hi o'; finIter c hi s) := by
    intro o o' ho
    rw [objSz_rel c ho]
    exact (measure_rel h _).bindEq fun _ => (bindIter_rel h c ho).bind fun s s' hs => finIter_rel h c hs
  cases ho with
  | refl =>
    unfold finaliseL
    split
    · exact (measure_rel h _).bindEq fun _ => RelR.ok rfl
    · split
      · exact iter (RelO.refl _)
      · split
        · exact finVal_rel h c _
        · exact RelR.err _
  | lazy hs => exact iter (RelO.lazy hs)
  | ordered hs => exact iter (RelO.ordered hs)

/-- raising the limits: the whole run -/
theorem runL_rel {lo hi : Lim} (h : Lim.le lo hi) (c : ECfg) (fuel : Nat) (doc : Value) (e : Expr) :
    RelR Eq (runL c lo fuel doc e) (runL c hi fuel doc e) := by
  unfold runL
  apply RelR.bind (evalL_rel h c fuel _ _); intro o o' ho
  exact finaliseL_rel h c ho

end Yaql.Props.C08Eval
