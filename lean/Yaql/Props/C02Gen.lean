import Yaql.Model.OpTable
import Yaql.Gen.OpTables
import Yaql.Props.C02Order
import Yaql.Props.C02Levels
import Yaql.Props.C02
/-!
C02, generated-table layer: what the LIVE yaql objects contain equals what the model computes.

`Gen.OpTables` is rewritten on every run from `/repo`: `factory.operators`, the `YaqlOperators`
returned by `_build_operator_table`, and the `precedence` tuple / rule docstrings / alias map of
the live `yaql.language.parser.Parser` rules object, for the default and the legacy factory, with
and without delegates.  The Lean model is re-run on the dumped operator list and compared, in the
kernel; the dumps with delegates are the same as those without (`delegates_same_dumps`).
-/
namespace Yaql.Props.C02Gen
open Yaql.OpTable Yaql.Gen.OpTables

/-- model of `_build_operator_table` followed by `_generate_operator_funcs` -/
def modelOf (ops : OpList) : Except BuildErr (Table × Generated) :=
  match buildOperatorTable ops with
  | .ok t => .ok (t, generateOperatorFuncs t)
  | .error e => .error e

/-- allowing delegates adds the rule `func : value '(' args ')'` and nothing else, so what is computed for
    the dumps without them is computed for the dumps with them -/
theorem delegates_same_dumps :
    defaultDelegatesOps = defaultOps ∧ defaultDelegatesTable = defaultTable ∧
    defaultDelegatesGenerated = defaultGenerated ∧ legacyDelegatesOps = legacyOps ∧
    legacyDelegatesTable = legacyTable ∧ legacyDelegatesGenerated = legacyGenerated :=
  ⟨rfl, rfl, rfl, rfl, rfl, rfl⟩

/-- the live default operator list is `_standard_operators()` with `('=>', NAME_VALUE_PAIR)` in front -/
theorem default_ops : defaultOps = factoryOperators (some ['=', '>']) := by decide +kernel
theorem defaultDelegates_ops : defaultDelegatesOps = factoryOperators (some ['=', '>']) :=
  delegates_same_dumps.1 ▸ default_ops
/-- the live legacy operator list is what the model of `insert_operator('or', True, '=>', LEFT, True)` builds -/
theorem legacy_ops : legacyOperators = .ok legacyOps := by decide +kernel
theorem legacyDelegates_ops : legacyOperators = .ok legacyDelegatesOps :=
  delegates_same_dumps.2.2.2.1 ▸ legacy_ops

theorem default_tuple : modelOf defaultOps = .ok (defaultTable, defaultGenerated) := by decide +kernel
theorem defaultDelegates_tuple :
    modelOf defaultDelegatesOps = .ok (defaultDelegatesTable, defaultDelegatesGenerated) := by
  obtain ⟨h1, h2, h3, -⟩ := delegates_same_dumps
  rw [h1, h2, h3]; exact default_tuple
theorem legacy_tuple : modelOf legacyOps = .ok (legacyTable, legacyGenerated) := by decide +kernel
theorem legacyDelegates_tuple :
    modelOf legacyDelegatesOps = .ok (legacyDelegatesTable, legacyDelegatesGenerated) := by
  obtain ⟨-, -, -, h1, h2, h3⟩ := delegates_same_dumps
  rw [h1, h2, h3]; exact legacy_tuple

/-- the delegate-call rule `func : value '(' args ')'` is installed exactly when the factory allows it -/
theorem value_call_rule :
    defaultHasValueCall = defaultAllowDelegates ∧ defaultDelegatesHasValueCall = defaultDelegatesAllowDelegates ∧
    legacyHasValueCall = legacyAllowDelegates ∧ legacyDelegatesHasValueCall = legacyDelegatesAllowDelegates ∧
    defaultAllowDelegates = false ∧ defaultDelegatesAllowDelegates = true ∧
    legacyAllowDelegates = false ∧ legacyDelegatesAllowDelegates = true := by decide


/-! The side conditions of the table-layer theorems (`C02Levels.levels_contiguous`,
`C02Order.ply_order_iso`, `C02Iso.reduce_by_group`) hold for the live tables. -/

open Yaql.Props.C02Levels Yaql.Props.C02Order in
theorem live_tables_populated :
    Populated defaultOps ∧ Populated defaultDelegatesOps ∧ Populated legacyOps ∧ Populated legacyDelegatesOps := by
  decide +kernel

open Yaql.Props.C02Order in
theorem live_names_disjoint :
    NamesDisjoint (funcsOf defaultTable).pdict ∧ NamesDisjoint (funcsOf defaultDelegatesTable).pdict ∧
    NamesDisjoint (funcsOf legacyTable).pdict ∧ NamesDisjoint (funcsOf legacyDelegatesTable).pdict :=
  have hd := namesDisjoint_of_check (funcsOf defaultTable).pdict (by decide +kernel)
  have hl := namesDisjoint_of_check (funcsOf legacyTable).pdict (by decide +kernel)
  ⟨hd, delegates_same_dumps.2.1 ▸ hd, hl, delegates_same_dumps.2.2.2.2.1 ▸ hl⟩


/-! The tree-layer theorems instantiated for the live tables. -/
section
open Yaql.Syntax Yaql.Props.C02

theorem live_no_amb :
    NoAmb (Cfg.ofTable defaultTable false) ∧ NoAmb (Cfg.ofTable defaultDelegatesTable true) ∧
    NoAmb (Cfg.ofTable legacyTable false) ∧ NoAmb (Cfg.ofTable legacyDelegatesTable true) :=
  ⟨noAmb_of_check _ (by decide +kernel), noAmb_of_check _ (by decide +kernel),
   noAmb_of_check _ (by decide +kernel), noAmb_of_check _ (by decide +kernel)⟩

/-- for the operator table of the live default engine: the parser returns exactly the `WF` trees -/
theorem default_engine_trees (toks : List Token) (t : Ast) :
    (parse (Cfg.ofTable defaultTable false) toks = .ok t →
      WF (Cfg.ofTable defaultTable false) t ∧ yield (Cfg.ofTable defaultTable false) t = toks.map norm) ∧
    (WF (Cfg.ofTable defaultTable false) t →
      parse (Cfg.ofTable defaultTable false) (yield (Cfg.ofTable defaultTable false) t) = .ok t) :=
  ⟨parse_sound _ _ _, parse_roundtrip _ live_no_amb.1 _⟩

theorem legacy_engine_trees (toks : List Token) (t : Ast) :
    (parse (Cfg.ofTable legacyTable false) toks = .ok t →
      WF (Cfg.ofTable legacyTable false) t ∧ yield (Cfg.ofTable legacyTable false) t = toks.map norm) ∧
    (WF (Cfg.ofTable legacyTable false) t →
      parse (Cfg.ofTable legacyTable false) (yield (Cfg.ofTable legacyTable false) t) = .ok t) :=
  ⟨parse_sound _ _ _, parse_roundtrip _ live_no_amb.2.2.1 _⟩

/-- `- 1 * 2 + 3 -> 4` under the live default table: `((-1 * 2) + 3) -> 4` -/
example :
    parse (Cfg.ofTable defaultTable false)
      [tOp ['-'], tok .number (.int 1), tOp ['*'], tok .number (.int 2), tOp ['+'], tok .number (.int 3),
       tOp ['-', '>'], tok .number (.int 4)] =
    .ok (.binary ['-', '>'] none
      (.binary ['+'] none
        (.binary ['*'] none (.unary ['-'] none (.const .number (.int 1))) (.const .number (.int 2)))
        (.const .number (.int 3)))
      (.const .number (.int 4))) := by rfl
end

end Yaql.Props.C02Gen
