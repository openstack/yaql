import Yaql.Gen.SrcStrings
import Yaql.Lemmas.PyPrelude
/-!
Equivalence of the definitions translated from the CURRENT source of `yaql/standard_library/strings.py`
(`Yaql.Gen.SrcStrings`, regenerated on every run by harness/py2lean.py) with the hand-written model
`Yaql.Strings` the theorems of `Props/C19*.lean` are about - for all inputs.
-/
namespace Yaql.Props.SrcStrings
open Yaql Yaql.Strings Yaql.Gen

theorem substring_src_eq (string : Str) (start length : Int) :
    SrcStrings.substring string start length = Strings.substring string start length := by
  rfl

theorem index_of_src_eq (string sub : Str) (start : Int) :
    SrcStrings.index_of string sub start = Strings.indexOf string sub start := by
  rfl

theorem index_of4_src_eq (string sub : Str) (start length : Int) :
    SrcStrings.index_of4 string sub start length = Strings.indexOf4 string sub start length := by
  rfl

theorem last_index_of_src_eq (string sub : Str) (start : Int) :
    SrcStrings.last_index_of string sub start = Strings.lastIndexOf string sub start := by
  rfl

theorem last_index_of4_src_eq (string sub : Str) (start length : Int) :
    SrcStrings.last_index_of4 string sub start length = Strings.lastIndexOf4 string sub start length := by
  rfl

theorem trim_src_eq (cfg : Cfg) (string : Str) (chars : Option Str) :
    SrcStrings.trim cfg string chars = Strings.trim cfg string chars := by
  rfl

theorem trim_left_src_eq (cfg : Cfg) (string : Str) (chars : Option Str) :
    SrcStrings.trim_left cfg string chars = Strings.trimLeft cfg string chars := by
  rfl

theorem trim_right_src_eq (cfg : Cfg) (string : Str) (chars : Option Str) :
    SrcStrings.trim_right cfg string chars = Strings.trimRight cfg string chars := by
  rfl

theorem norm_src_eq (cfg : Cfg) (string : Option Str) (chars : Option Str) :
    SrcStrings.norm cfg string chars = Strings.norm cfg string chars := by
  cases string <;> simp [SrcStrings.norm, Strings.norm, PyStr.strip]

theorem is_empty_src_eq (cfg : Cfg) (string : Option Str) (trim_spaces : Bool) (chars : Option Str) :
    SrcStrings.is_empty cfg string trim_spaces chars = Strings.isEmpty cfg string trim_spaces chars := by
  cases string <;> cases trim_spaces <;>
    simp [SrcStrings.is_empty, Strings.isEmpty, PyStr.strip, Lemmas.PyPrelude.decide_eq_nil]

theorem replace_src_eq (string old new : Str) (count : Int) :
    SrcStrings.replace string old new count
      = if Py.ssizeOk count then .ok (Strings.replace string old new count) else .error .overflowError := by
  simp only [SrcStrings.replace, Strings.replace, PyStr.replace]

theorem replace_with_dict_src_eq (string : Str) (replacements : List (Atom × Atom)) (count : Int) :
    SrcStrings.replace_with_dict string strOf replacements count
      = if Py.ssizeOk count || replacements.isEmpty then .ok (Strings.replaceDict string replacements count)
        else .error .overflowError := by
  unfold SrcStrings.replace_with_dict Strings.replaceDict
  by_cases h : Py.ssizeOk count = true
  · simp only [h, Bool.true_or, if_true, PyStr.replace]
    rw [Lemmas.PyPrelude.forLoop_next_eq_foldl]
  · cases replacements with
    | nil => simp [Py.forLoop]
    | cons kv rest => simp [Py.forLoop, PyStr.replace, h]

theorem join_src_eq (sequence : List Atom) (separator : Str) :
    SrcStrings.join sequence separator strOf = Strings.joinAtoms sequence separator := by
  rfl

theorem join2_src_eq (separator : Str) (sequence : List Atom) :
    SrcStrings.join2 separator sequence strOf = Strings.joinAtoms sequence separator := by
  rfl

theorem split_src_eq (cfg : Cfg) (string : Str) (separator : Option Str) (max_splits : Int) :
    SrcStrings.split cfg string separator max_splits
      = if Py.ssizeOk max_splits then PyStr.liftErr (Strings.split cfg string separator max_splits)
        else .error .overflowError := by
  simp only [SrcStrings.split, Strings.split, PyStr.split]
  cases Py.ssizeOk max_splits
  · rfl
  · rcases separator with _ | _ | ⟨c, r⟩ <;> rfl

theorem right_split_src_eq (cfg : Cfg) (string : Str) (separator : Option Str) (max_splits : Int) :
    SrcStrings.right_split cfg string separator max_splits
      = if Py.ssizeOk max_splits then PyStr.liftErr (Strings.rightSplit cfg string separator max_splits)
        else .error .overflowError := by
  simp only [SrcStrings.right_split, Strings.rightSplit, PyStr.rsplit]
  cases Py.ssizeOk max_splits
  · rfl
  · rcases separator with _ | _ | ⟨c, r⟩ <;> rfl

theorem in_src_eq (left right : Str) : SrcStrings.in_ left right = Strings.isIn left right := by
  rfl

theorem starts_with_src_eq (string : Str) (prefixes : List Str) :
    SrcStrings.starts_with string prefixes = Strings.startsWith string prefixes := by
  rfl

theorem ends_with_src_eq (string : Str) (suffixes : List Str) :
    SrcStrings.ends_with string suffixes = Strings.endsWith string suffixes := by
  rfl

/-- `''.join(args)` is concatenation -/
theorem join_nil_eq_flatten (args : List Str) : Strings.join [] args = args.flatten := by
  induction args with
  | nil => rfl
  | cons p r ih =>
    cases r with
    | nil => simp [Strings.join]
    | cons q r' => simp [Strings.join, ih]

theorem concat_src_eq (args : List Str) : SrcStrings.concat args = Strings.concat args := by
  simp [SrcStrings.concat, Strings.concat, PyStr.join, join_nil_eq_flatten]

theorem len_src_eq (string : Str) : SrcStrings.len_ string = Strings.len string := by
  rfl

theorem to_char_array_src_eq (string : Str) :
    SrcStrings.to_char_array string = Strings.toCharArray string := by
  rfl

theorem str_src_eq (value : Atom) : SrcStrings.str_ value = Strings.strOf value := by
  rcases value with _ | b | _ | _
  · rfl
  · cases b <;> rfl
  · rfl
  · rfl

end Yaql.Props.SrcStrings
