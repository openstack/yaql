import Yaql.Model.Convert
/-!
C10 - data round-trips and every result is finalised into plain data.

`rename` is the pure "container kinds renamed per the options" function, `clean` says that no
set element / dict key (at any depth) converts to an unhashable container, `bounded` that no
collection exceeds the `#iter` limit.  `convOut_spec` is the exact characterisation of the
finaliser: it succeeds iff `clean` and `bounded`, and then returns `rename`.  Round-trip,
plainness, the success characterisation and the C08 bound on results follow from it.
-/
namespace Yaql.Props.C10
open Yaql.Convert

/-! ## specification vocabulary -/

/-- the kind an element container is finalised into -/
def outKind (o : Opts) (k : SeqKind) : SeqKind :=
  if k.isView then .list            -- keys() / items() of a dictionary: always a list
  else if k.isSetLike then (if o.s2l then .list else .set)
  else if k.isSeq then (if o.t2l then .list else k)
  else .list

mutual
/-- the result of finalisation when it succeeds: same content, container kinds renamed -/
def rename (o : Opts) : Py → Py
  | .sc s => .sc s
  | .seq k l => .seq (outKind o k) (renameL o l)
  | .map _ kvs => .map .dict (renameP o kvs)
def renameL (o : Opts) : List Py → List Py
  | [] => []
  | x :: xs => rename o x :: renameL o xs
def renameP (o : Opts) : List (Py × Py) → List (Py × Py)
  | [] => []
  | (k, v) :: r => (rename o k, rename o v) :: renameP o r
end

/-- the kinds that are finalised by building a `set` (when sets stay sets): `set` and `frozenset`; the
    set-like dict views are finalised into lists -/
def buildsSet (k : SeqKind) : Bool := k.isSetLike && !k.isView

/-- "x converts to a hashable value" -/
def outHashable (o : Opts) (x : Py) : Bool := hashable (rename o x)

mutual
/-- no set element (when sets stay sets) and no dict key, at any depth, converts to an
    unhashable container -/
def clean (o : Opts) : Py → Bool
  | .sc _ => true
  | .seq k l => cleanL o (buildsSet k && !o.s2l) l
  | .map _ kvs => cleanP o kvs
def cleanL (o : Opts) (nh : Bool) : List Py → Bool
  | [] => true
  | x :: xs => clean o x && (!nh || outHashable o x) && cleanL o nh xs
def cleanP (o : Opts) : List (Py × Py) → Bool
  | [] => true
  | (k, v) :: r => clean o v && clean o k && outHashable o k && cleanP o r
end

mutual
/-- no collection at any depth has more elements than the limit -/
def bounded (lim : Limit) : Py → Bool
  | .sc _ => true
  | .seq _ l => lim.admits l.length && boundedL lim l
  | .map _ kvs => lim.admits kvs.length && boundedP lim kvs
def boundedL (lim : Limit) : List Py → Bool
  | [] => true
  | x :: xs => bounded lim x && boundedL lim xs
def boundedP (lim : Limit) : List (Py × Py) → Bool
  | [] => true
  | (k, v) :: r => bounded lim k && bounded lim v && boundedP lim r
end

mutual
/-- plain data: dicts, lists, tuples only if tuple conversion is off, sets only if set
    conversion is off, scalar leaves - never an iterator, view, frozen dict/set or ordering object -/
def isPlain (o : Opts) : Py → Bool
  | .sc _ => true
  | .seq k l =>
      (match k with
       | .list => true
       | .tuple => !o.t2l
       | .set => !o.s2l
       | _ => false) && isPlainL o l
  | .map k kvs => (match k with | .dict => true | .fdict => false) && isPlainP o kvs
def isPlainL (o : Opts) : List Py → Bool
  | [] => true
  | x :: xs => isPlain o x && isPlainL o xs
def isPlainP (o : Opts) : List (Py × Py) → Bool
  | [] => true
  | (k, v) :: r => isPlain o k && isPlain o v && isPlainP o r
end

/-! ## the exact characterisation of `convert_output_data` -/

theorem admits_succ (b : Option Nat) (n : Nat) :
    Limit.admits b (n + 1) = (!(b == some 0) && Limit.admits (b.map (· - 1)) n) := by
  cases b with
  | none => rfl
  | some m => cases m <;> simp [Limit.admits]

@[simp] theorem admits_none (n : Nat) : Limit.admits none n = true := rfl

/-! The converters in monadic normal form: one equation per constructor, with the four `isinstance`
branches of an element container folded into one (`outKind`, `buildsSet`, `SeqKind.sized`). -/

theorem convOut_map (o : Opts) (lim : Limit) (mk : MapKind) (kvs : List (Py × Py)) :
    convOut o lim (.map mk kvs) =
      if lim.admits kvs.length then (convPairs o lim kvs).map (.map .dict) else .error .tooLarge := by
  rw [convOut]; cases convPairs o lim kvs <;> rfl

theorem convOut_seq (o : Opts) (lim : Limit) (k : SeqKind) (l : List Py) :
    convOut o lim (.seq k l) =
      if k.sized && !lim.admits l.length then .error .tooLarge
      else (convElems o lim (buildsSet k && !o.s2l) (if k.sized then none else lim) l).map (.seq (outKind o k)) := by
  rw [convOut]
  cases k <;> cases lim.admits l.length <;>
    simp [SeqKind.sized, SeqKind.isView, SeqKind.isSetLike, SeqKind.isSeq, buildsSet, outKind] <;>
    split <;> simp [*, Except.map]

theorem convElems_cons (o : Opts) (lim : Limit) (nh : Bool) (b : Option Nat) (x : Py) (xs : List Py) :
    convElems o lim nh b (x :: xs) =
      if b == some 0 then .error .tooLarge else
      (convOut o lim x).bind fun x' =>
        if nh && !hashable x' then .error .unhashable else
        (convElems o lim nh (b.map (· - 1)) xs).map (x' :: ·) := by
  rw [convElems]
  cases convOut o lim x with
  | error e => rfl
  | ok x' => cases convElems o lim nh (b.map (· - 1)) xs <;> rfl

theorem convPairs_cons (o : Opts) (lim : Limit) (k v : Py) (r : List (Py × Py)) :
    convPairs o lim ((k, v) :: r) =
      (convOut o lim v).bind fun v' => (convOut o lim k).bind fun k' =>
        if !hashable k' then .error .unhashable else (convPairs o lim r).map ((k', v') :: ·) := by
  rw [convPairs]
  cases convOut o lim v with
  | error e => rfl
  | ok v' =>
    cases convOut o lim k with
    | error e => rfl
    | ok k' => cases convPairs o lim r <;> rfl

theorem map_eq_ok {ε α β} {f : α → β} {x : Except ε α} {y : β} :
    x.map f = .ok y ↔ ∃ a, x = .ok a ∧ y = f a := by
  cases x <;> simp [Except.map, eq_comm]

theorem bind_eq_ok {ε α β} {f : α → Except ε β} {x : Except ε α} {y : β} :
    x.bind f = .ok y ↔ ∃ a, x = .ok a ∧ f a = .ok y := by
  cases x <;> simp [Except.bind]

theorem ite_error_eq_ok {ε α} {c : Prop} [Decidable c] {e : ε} {x : Except ε α} {r : α} :
    (if c then .error e else x) = .ok r ↔ ¬c ∧ x = .ok r := by
  split <;> simp [*]

theorem map_eq_error {ε α β} {f : α → β} {x : Except ε α} {e : ε} : x.map f = .error e ↔ x = .error e := by
  cases x <;> simp [Except.map]

theorem bind_eq_error {ε α β} {f : α → Except ε β} {x : Except ε α} {e : ε} :
    x.bind f = .error e ↔ x = .error e ∨ ∃ a, x = .ok a ∧ f a = .error e := by
  cases x <;> simp [Except.bind]

mutual
theorem convOut_spec (o : Opts) (lim : Limit) : ∀ (v r : Py),
    convOut o lim v = .ok r ↔ (clean o v = true ∧ bounded lim v = true ∧ r = rename o v)
  | .sc s, r => by simp [convOut, clean, bounded, rename, eq_comm]
  | .map mk kvs, r => by
      simp only [convOut_map, clean, bounded, rename, Bool.and_eq_true]
      split <;> simp [*, map_eq_ok, convPairs_spec o lim kvs, and_assoc]
  | .seq k l, r => by
      simp only [convOut_seq, clean, bounded, rename, Bool.and_eq_true]
      -- a sized kind is checked by `len`, any other by the counting generator: the same test
      cases hk : k.sized <;> cases ha : lim.admits l.length <;>
        simp [map_eq_ok, convElems_spec o lim _ l, ha, and_assoc]
theorem convElems_spec (o : Opts) (lim : Limit) (nh : Bool) : ∀ (l : List Py) (b : Option Nat) (r : List Py),
    convElems o lim nh b l = .ok r ↔
      (cleanL o nh l = true ∧ boundedL lim l = true ∧ Limit.admits b l.length = true ∧ r = renameL o l)
  | [], b, r => by cases b <;> simp [convElems, cleanL, boundedL, renameL, Limit.admits, eq_comm]
  | x :: xs, b, r => by
      simp only [convElems_cons, cleanL, boundedL, renameL, List.length_cons, admits_succ, Bool.and_eq_true]
      cases b == some 0
      · -- by `convOut_spec` the converted element is `rename o x`, so the test `hashable x'` of the code is
        -- `outHashable o x` of `cleanL`; what is left for `grind` is the order of the conjuncts
        simp [bind_eq_ok, map_eq_ok, ite_error_eq_ok, convOut_spec o lim x, convElems_spec o lim nh xs,
          outHashable, and_assoc]
        cases nh <;> grind
      · simp
theorem convPairs_spec (o : Opts) (lim : Limit) : ∀ (kvs : List (Py × Py)) (r : List (Py × Py)),
    convPairs o lim kvs = .ok r ↔ (cleanP o kvs = true ∧ boundedP lim kvs = true ∧ r = renameP o kvs)
  | [], r => by simp [convPairs, cleanP, boundedP, renameP, eq_comm]
  | (k, v) :: rest, r => by
      simp only [convPairs_cons, cleanP, boundedP, renameP, Bool.and_eq_true]
      -- as for elements: the converted key is `rename o k`, its hash test is `outHashable o k`
      simp [bind_eq_ok, map_eq_ok, ite_error_eq_ok, convOut_spec o lim k, convOut_spec o lim v,
        convPairs_spec o lim rest, outHashable, and_assoc]
      grind
end

/-! ## consequences -/

mutual
theorem bounded_none : ∀ v, bounded none v = true
  | .sc _ => rfl
  | .seq _ l => by rw [bounded, boundedL_none l]; rfl
  | .map _ kvs => by rw [bounded, boundedP_none kvs]; rfl
theorem boundedL_none : ∀ l, boundedL none l = true
  | [] => rfl
  | x :: xs => by rw [boundedL, bounded_none x, boundedL_none xs]; rfl
theorem boundedP_none : ∀ l, boundedP none l = true
  | [] => rfl
  | (k, v) :: r => by rw [boundedP, bounded_none k, bounded_none v, boundedP_none r]; rfl
end

theorem outKind_cases (o : Opts) (k : SeqKind) :
    outKind o k = .list ∨ (outKind o k = .tuple ∧ o.t2l = false) ∨ (outKind o k = .set ∧ o.s2l = false) := by
  rcases o with ⟨_ | _, _ | _⟩ <;> cases k <;> decide

mutual
theorem isPlain_rename (o : Opts) : ∀ v, isPlain o (rename o v) = true
  | .sc _ => rfl
  | .seq k l => by
      rcases outKind_cases o k with h | h | h <;> simp [rename, isPlain, h, isPlainL_rename o l]
  | .map _ kvs => by simp [rename, isPlain, isPlainP_rename o kvs]
theorem isPlainL_rename (o : Opts) : ∀ l, isPlainL o (renameL o l) = true
  | [] => rfl
  | x :: xs => by simp [renameL, isPlainL, isPlain_rename o x, isPlainL_rename o xs]
theorem isPlainP_rename (o : Opts) : ∀ l, isPlainP o (renameP o l) = true
  | [] => rfl
  | (k, v) :: r => by simp [renameP, isPlainP, isPlain_rename o k, isPlain_rename o v, isPlainP_rename o r]
end

/-- **C10.plain**: whenever finalisation succeeds - for every value, every option combination and
    every iterator limit - the result is plain data. -/
theorem plain (o : Opts) (lim : Limit) (v r : Py) (h : convOut o lim v = .ok r) : isPlain o r = true := by
  obtain ⟨_, _, rfl⟩ := (convOut_spec o lim v r).mp h
  exact isPlain_rename o v

/-- plain data contains no lazy / frozen / view / ordering container at its root, spelled out -/
theorem plain_root (o : Opts) (lim : Limit) (v : Py) (k : SeqKind) (l : List Py)
    (h : convOut o lim v = .ok (.seq k l)) :
    k = .list ∨ (k = .tuple ∧ o.t2l = false) ∨ (k = .set ∧ o.s2l = false) := by
  obtain ⟨_, _, hr⟩ := (convOut_spec o lim v _).mp h
  cases v <;> simp only [rename, Py.seq.injEq, reduceCtorEq] at hr
  exact hr.1 ▸ outKind_cases o _

theorem plain_no_frozen_dict (o : Opts) (lim : Limit) (v : Py) (kvs : List (Py × Py)) :
    convOut o lim v ≠ .ok (.map .fdict kvs) := by
  intro h
  have := plain o lim v _ h
  simp [isPlain] at this

example : convOut {} none (.seq .ordering [.map .fdict [(.sc (.int 1), .seq .vview [.sc .null])]])
    = .ok (.seq .list [.map .dict [(.sc (.int 1), .seq .list [.sc .null])]]) := by rfl

/-- **C10.succeeds_iff** (with the iterator limit): finalisation succeeds exactly when no set
    element / dict key converts to an unhashable container and no collection exceeds the limit;
    the result is then `rename`. -/
theorem succeeds_iff_lim (o : Opts) (lim : Limit) (v : Py) :
    (∃ r, convOut o lim v = .ok r) ↔ (clean o v = true ∧ bounded lim v = true) := by
  simp only [convOut_spec]
  exact ⟨fun ⟨_, h1, h2, _⟩ => ⟨h1, h2⟩, fun ⟨h1, h2⟩ => ⟨_, h1, h2, rfl⟩⟩

/-- **C10.succeeds_iff**: without an iterator limit, finalisation fails iff some set element or dict
    key converts to an unhashable container. -/
theorem succeeds_iff (o : Opts) (v : Py) : (∃ r, convOut o none v = .ok r) ↔ clean o v = true := by
  rw [succeeds_iff_lim]; simp [bounded_none]

/-- "converts to a hashable value", spelled out on the source value: a scalar, or - only when tuples
    are kept - a tuple of such.  Every other container (list, dict, frozen dict, set, frozenset,
    iterator, view, ordering object) converts to a list / dict / set, which cannot be hashed. -/
def hashShape (o : Opts) : Py → Bool
  | .sc _ => true
  | .seq .tuple l => !o.t2l && hashShapeL o l
  | _ => false
where hashShapeL (o : Opts) : List Py → Bool
  | [] => true
  | x :: xs => hashShape o x && hashShapeL o xs

theorem hashable_outKind (o : Opts) (k : SeqKind) (l : List Py) :
    hashable (.seq (outKind o k) l) = (decide (k = .tuple) && !o.t2l && hashableL l) := by
  rcases o with ⟨_ | _, _ | _⟩ <;> cases k <;> rfl

mutual
/-- the hash condition of `clean` read off the source value, without computing `rename`: what `succeeds_iff`
    asks of every set element and dict key -/
theorem outHashable_eq (o : Opts) : ∀ x, outHashable o x = hashShape o x
  | .sc _ => rfl
  | .seq k l => by
      simp only [outHashable, rename, hashable_outKind, outHashableL_eq o l]
      cases k <;> simp [hashShape]
  | .map _ _ => by simp [outHashable, rename, hashable, hashShape]
theorem outHashableL_eq (o : Opts) : ∀ l, hashableL (renameL o l) = hashShape.hashShapeL o l
  | [] => rfl
  | x :: xs => by
      simp [renameL, hashableL, hashShape.hashShapeL, ← outHashable_eq o x, outHashable, outHashableL_eq o xs]
end

mutual
/-- error class: without an iterator limit the only way finalisation fails is `TypeError: unhashable` -/
theorem fails_only_unhashable (o : Opts) : ∀ (v : Py) (e : Err), convOut o none v = .error e → e = .unhashable
  | .sc _, e, h => by simp [convOut] at h
  | .map _ kvs, e, h => by
      rw [convOut_map, if_pos (admits_none _), map_eq_error] at h
      exact convPairs_fails o kvs e h
  | .seq k l, e, h => by
      simp only [convOut_seq, admits_none, Bool.not_true, Bool.and_false, Bool.false_eq_true, if_false,
        ite_self, map_eq_error] at h
      exact convElems_fails o _ l e h
theorem convElems_fails (o : Opts) (nh : Bool) : ∀ (l : List Py) (e : Err),
    convElems o none nh none l = .error e → e = .unhashable
  | [], e, h => by simp [convElems] at h
  | x :: xs, e, h => by
      rw [convElems_cons, if_neg (by decide), bind_eq_error] at h
      rcases h with h | ⟨x', _, h⟩
      · exact fails_only_unhashable o x e h
      · split at h
        · cases h; rfl
        · exact convElems_fails o nh xs e (map_eq_error.mp h)
theorem convPairs_fails (o : Opts) : ∀ (kvs : List (Py × Py)) (e : Err),
    convPairs o none kvs = .error e → e = .unhashable
  | [], e, h => by simp [convPairs] at h
  | (k, v) :: r, e, h => by
      rw [convPairs_cons, bind_eq_error] at h
      rcases h with h | ⟨v', _, h⟩
      · exact fails_only_unhashable o v e h
      · rcases bind_eq_error.mp h with h | ⟨k', _, h⟩
        · exact fails_only_unhashable o k e h
        · split at h
          · cases h; rfl
          · exact convPairs_fails o r e (map_eq_error.mp h)
end

mutual
/-- no container at all in a hash position (every set element and dict key, at any depth, is a scalar) -/
def scalarHashPos : Py → Bool
  | .sc _ => true
  | .seq k l => scalarHashPosL (buildsSet k) l
  | .map _ kvs => scalarHashPosP kvs
def scalarHashPosL (nh : Bool) : List Py → Bool
  | [] => true
  | x :: xs => scalarHashPos x && (!nh || (match x with | .sc _ => true | _ => false)) && scalarHashPosL nh xs
def scalarHashPosP : List (Py × Py) → Bool
  | [] => true
  | (k, v) :: r => scalarHashPos v && (match k with | .sc _ => true | _ => false) && scalarHashPosP r
end

/-- the test "is a scalar" of `scalarHashPos`, `isDoc`, `isDocExt`, inverted -/
theorem eq_sc_of_match {x : Py} (h : (match x with | .sc _ => true | _ => false) = true) : ∃ s, x = .sc s := by
  cases x with
  | sc s => exact ⟨s, rfl⟩
  | _ => simp at h

mutual
theorem clean_of_scalarHashPos (o : Opts) : ∀ v, scalarHashPos v = true → clean o v = true
  | .sc _, _ => rfl
  | .seq k l, h => by
      simp only [scalarHashPos] at h
      simp only [clean]
      exact cleanL_of_scalarHashPos o _ _ l (fun hn => (Bool.and_eq_true_iff.mp hn).1) h
  | .map _ kvs, h => by
      simp only [scalarHashPos] at h
      simp only [clean]
      exact cleanP_of_scalarHashPos o kvs h
theorem cleanL_of_scalarHashPos (o : Opts) (nh nh' : Bool) : ∀ l, (nh' = true → nh = true) →
    scalarHashPosL nh l = true → cleanL o nh' l = true
  | [], _, _ => rfl
  | x :: xs, hn, h => by
      simp only [scalarHashPosL, Bool.and_eq_true] at h
      obtain ⟨⟨h1, h2⟩, h3⟩ := h
      simp only [cleanL, Bool.and_eq_true]
      refine ⟨⟨clean_of_scalarHashPos o x h1, ?_⟩, cleanL_of_scalarHashPos o nh nh' xs hn h3⟩
      cases nh'
      · rfl
      · obtain ⟨s, rfl⟩ := eq_sc_of_match (by simpa [hn rfl] using h2)
        rfl
theorem cleanP_of_scalarHashPos (o : Opts) : ∀ l, scalarHashPosP l = true → cleanP o l = true
  | [], _ => rfl
  | (k, v) :: r, h => by
      simp only [scalarHashPosP, Bool.and_eq_true] at h
      obtain ⟨⟨h1, h2⟩, h3⟩ := h
      obtain ⟨s, rfl⟩ := eq_sc_of_match h2
      simp only [cleanP, Bool.and_eq_true]
      exact ⟨⟨⟨clean_of_scalarHashPos o v h1, rfl⟩, rfl⟩, cleanP_of_scalarHashPos o r h3⟩
end

/-- the full claim of the property text: finalisation succeeds under every option combination for
    every (Python-constructible) value.  FALSE of the code and unsatisfiable: see `current_fails`. -/
def total_full (wf : Py → Bool) : Prop := ∀ (o : Opts) (v : Py), wf v = true → ∃ r, convOut o none v = .ok r

/-- **C10.total_partial**: finalisation succeeds under every option combination for every value that
    has no container in a hash position. -/
theorem total_partial (o : Opts) (v : Py) (h : scalarHashPos v = true) : ∃ r, convOut o none v = .ok r :=
  (succeeds_iff o v).mpr (clean_of_scalarHashPos o v h)

example : scalarHashPos (.seq .iter [.seq .fset [.sc (.int 1)], .map .fdict [(.sc (.str ['a']), .seq .kview [.sc .null])]]) = true := by rfl
-- a keys / items view may hold containers: it is finalised into a list
example : scalarHashPos (.seq .iview [.seq .tuple [.sc (.str ['a']), .seq .list [.sc (.int 1)]]]) = true ∧
    scalarHashPos (.seq .fset [.seq .tuple [.sc (.int 1)]]) = false := by exact ⟨rfl, rfl⟩

/-! ## Python-constructible values and `convert_input_data` -/

/-- an element of `dict.items()`: a 2-tuple whose first component is a (hashable) key -/
def itemShape : Py → Bool
  | .seq .tuple [k, _] => hashable k
  | _ => false

def itemShapeL : List Py → Bool
  | [] => true
  | x :: xs => itemShape x && itemShapeL xs

mutual
/-- constructible in Python: set elements and dict keys are hashable -/
def wf : Py → Bool
  | .sc _ => true
  | .seq k l =>
      wfL l && (match k with
                | .set | .fset | .kview => hashableL l
                | .iview => itemShapeL l
                | _ => true)
  | .map _ kvs => wfP kvs
def wfL : List Py → Bool
  | [] => true
  | x :: xs => wf x && wfL xs
def wfP : List (Py × Py) → Bool
  | [] => true
  | (k, v) :: r => hashable k && wf k && wf v && wfP r
end

mutual
theorem convIn_hashable : ∀ v, hashable v = true → hashable (convIn v) = true
  | .sc _, _ => rfl
  | .seq k l, h => by
      cases k <;> simp_all [convIn, inKind, hashable]
      exact convInL_hashable l h
  | .map k kvs, h => by
      cases k <;> simp_all [convIn, hashable]
      exact convInP_hashable kvs h
theorem convInL_hashable : ∀ l, hashableL l = true → hashableL (convInL l) = true
  | [], _ => rfl
  | x :: xs, h => by
      simp only [hashableL, Bool.and_eq_true] at h
      simp [convInL, hashableL, convIn_hashable x h.1, convInL_hashable xs h.2]
theorem convInP_hashable : ∀ l, hashableP l = true → hashableP (convInP l) = true
  | [], _ => rfl
  | (k, v) :: r, h => by
      simp only [hashableP, Bool.and_eq_true] at h
      simp [convInP, hashableP, convIn_hashable k h.1.1, convIn_hashable v h.1.2, convInP_hashable r h.2]
end

mutual
/-- `convert_input_data` never raises on Python-constructible data: every `frozenset` element and
    `FrozenDict` key it builds is hashable -/
theorem convIn_wf : ∀ v, wf v = true → wf (convIn v) = true
  | .sc _, _ => rfl
  | .seq k l, h => by
      simp only [wf, Bool.and_eq_true] at h
      have ih := convInL_wf l h.1
      cases k <;> simp_all [convIn, inKind, wf]
      exact convInL_hashable l h.2
  | .map _ kvs, h => by
      simp only [wf] at h
      simp [convIn, wf, convInP_wf kvs h]
theorem convInL_wf : ∀ l, wfL l = true → wfL (convInL l) = true
  | [], _ => rfl
  | x :: xs, h => by
      simp only [wfL, Bool.and_eq_true] at h
      simp [convInL, wfL, convIn_wf x h.1, convInL_wf xs h.2]
theorem convInP_wf : ∀ l, wfP l = true → wfP (convInP l) = true
  | [], _ => rfl
  | (k, v) :: r, h => by
      simp only [wfP, Bool.and_eq_true] at h
      simp [convInP, wfP, convIn_hashable k h.1.1.1, convIn_wf k h.1.1.2, convIn_wf v h.1.2, convInP_wf r h.2]
end

/-! ## round trip -/

/-- what `$` returns for host data of this kind -/
def canonKind (o : Opts) : SeqKind → SeqKind
  | .tuple | .list => if o.t2l then .list else .tuple
  | .set => if o.s2l then .list else .set
  | _ => .list     -- generators; doc-silent: frozenset and dict views are generic iterables for the input converter

mutual
/-- the document in canonical container types: same content, container kinds renamed per the options -/
def canon (o : Opts) : Py → Py
  | .sc s => .sc s
  | .seq k l => .seq (canonKind o k) (canonL o l)
  | .map _ kvs => .map .dict (canonP o kvs)
def canonL (o : Opts) : List Py → List Py
  | [] => []
  | x :: xs => canon o x :: canonL o xs
def canonP (o : Opts) : List (Py × Py) → List (Py × Py)
  | [] => []
  | (k, v) :: r => (canon o k, canon o v) :: canonP o r
end

theorem outKind_inKind (o : Opts) (k : SeqKind) : outKind o (inKind k) = canonKind o k := by
  cases k <;> rfl

mutual
theorem rename_convIn (o : Opts) : ∀ d, rename o (convIn d) = canon o d
  | .sc _ => rfl
  | .seq k l => by
      simp only [convIn, rename, canon, rename_convInL o l, outKind_inKind]
  | .map _ kvs => by simp only [convIn, rename, canon, rename_convInP o kvs]
theorem rename_convInL (o : Opts) : ∀ l, renameL o (convInL l) = canonL o l
  | [] => rfl
  | x :: xs => by simp only [convInL, renameL, canonL, rename_convIn o x, rename_convInL o xs]
theorem rename_convInP (o : Opts) : ∀ l, renameP o (convInP l) = canonP o l
  | [] => rfl
  | (k, v) :: r => by simp only [convInP, renameP, canonP, rename_convIn o k, rename_convIn o v, rename_convInP o r]
end

mutual
/-- host data that round-trips under options `o`: every element of a `set` (when sets stay sets) and
    every dict key has a hashable canonical form -/
def docX (o : Opts) : Py → Bool
  | .sc _ => true
  | .seq k l => docXL o ((match k with | .set => true | _ => false) && !o.s2l) l
  | .map _ kvs => docXP o kvs
def docXL (o : Opts) (nh : Bool) : List Py → Bool
  | [] => true
  | x :: xs => docX o x && (!nh || hashable (canon o x)) && docXL o nh xs
def docXP (o : Opts) : List (Py × Py) → Bool
  | [] => true
  | (k, v) :: r => docX o v && docX o k && hashable (canon o k) && docXP o r
end

mutual
theorem clean_convIn (o : Opts) : ∀ d, clean o (convIn d) = docX o d
  | .sc _ => rfl
  | .seq k l => by
      simp only [convIn, clean, docX]
      have : buildsSet (inKind k) = (match k with | .set => true | _ => false) := by cases k <;> rfl
      rw [this]
      exact cleanL_convIn o _ l
  | .map _ kvs => by simp only [convIn, clean, docX, cleanP_convIn o kvs]
theorem cleanL_convIn (o : Opts) (nh : Bool) : ∀ l, cleanL o nh (convInL l) = docXL o nh l
  | [] => rfl
  | x :: xs => by
      simp only [convInL, cleanL, docXL, clean_convIn o x, cleanL_convIn o nh xs, outHashable, rename_convIn]
theorem cleanP_convIn (o : Opts) : ∀ l, cleanP o (convInP l) = docXP o l
  | [] => rfl
  | (k, v) :: r => by
      simp only [convInP, cleanP, docXP, clean_convIn o k, clean_convIn o v, cleanP_convIn o r, outHashable, rename_convIn]
end

/-- **C10.roundtrip** (general form): host data whose set elements / dict keys stay hashable comes back
    from `$` as the same document in canonical container types. -/
theorem roundtrip_ext (o : Opts) (d : Py) (h : docX o d = true) : convOut o none (convIn d) = .ok (canon o d) := by
  rw [convOut_spec]
  exact ⟨by rw [clean_convIn]; exact h, bounded_none _, (rename_convIn o d).symm⟩

/-- and conversely: data outside `docX` does not come back at all (known finding K1) -/
theorem roundtrip_only (o : Opts) (d r : Py) (h : convOut o none (convIn d) = .ok r) : docX o d = true := by
  have := (convOut_spec o none _ r).mp h
  rw [clean_convIn] at this
  exact this.1

mutual
/-- JSON-like document: scalars, lists, dicts with scalar keys -/
def isDoc : Py → Bool
  | .sc _ => true
  | .seq k l => (match k with | .list => true | _ => false) && isDocL l
  | .map k kvs => (match k with | .dict => true | _ => false) && isDocP kvs
def isDocL : List Py → Bool
  | [] => true
  | x :: xs => isDoc x && isDocL xs
def isDocP : List (Py × Py) → Bool
  | [] => true
  | (k, v) :: r => (match k with | .sc _ => true | _ => false) && isDoc v && isDocP r
end

mutual
/-- tuples, sets and generators of JSON-like documents (set elements are necessarily scalars or
    tuples; sets of tuples are covered by `roundtrip_ext` when tuples are kept) -/
def isDocExt : Py → Bool
  | .sc _ => true
  | .seq k l =>
      (match k with
       | .list | .tuple | .iter => isDocExtL l
       | .set => scalarsL l
       | _ => false)
  | .map _ kvs => isDocExtP kvs
def isDocExtL : List Py → Bool
  | [] => true
  | x :: xs => isDocExt x && isDocExtL xs
def scalarsL : List Py → Bool
  | [] => true
  | x :: xs => (match x with | .sc _ => true | _ => false) && scalarsL xs
def isDocExtP : List (Py × Py) → Bool
  | [] => true
  | (k, v) :: r => (match k with | .sc _ => true | _ => false) && isDocExt v && isDocExtP r
end

theorem docXL_scalars (o : Opts) (nh : Bool) : ∀ l, scalarsL l = true → docXL o nh l = true
  | [], _ => rfl
  | x :: xs, h => by
      simp only [scalarsL, Bool.and_eq_true] at h
      obtain ⟨s, rfl⟩ := eq_sc_of_match h.1
      simp [docXL, docX, canon, hashable, docXL_scalars o nh xs h.2]

mutual
theorem docX_of_ext (o : Opts) : ∀ d, isDocExt d = true → docX o d = true
  | .sc _, _ => rfl
  | .seq k l, h => by
      simp only [docX]
      cases k with
      | list | tuple | iter => exact docXL_of_ext o l (by simpa only [isDocExt] using h)
      | set => exact docXL_scalars o _ l (by simpa only [isDocExt] using h)
      | _ => simp [isDocExt] at h
  | .map _ kvs, h => by
      simp only [isDocExt] at h
      simp only [docX]
      exact docXP_of_ext o kvs h
theorem docXL_of_ext (o : Opts) : ∀ l, isDocExtL l = true → docXL o (false && !o.s2l) l = true
  | [], _ => rfl
  | x :: xs, h => by
      simp only [isDocExtL, Bool.and_eq_true] at h
      have := docXL_of_ext o xs h.2
      simp only [Bool.false_and] at this
      simp [docXL, docX_of_ext o x h.1, this]
theorem docXP_of_ext (o : Opts) : ∀ l, isDocExtP l = true → docXP o l = true
  | [], _ => rfl
  | (k, v) :: r, h => by
      simp only [isDocExtP, Bool.and_eq_true] at h
      obtain ⟨s, rfl⟩ := eq_sc_of_match h.1.1
      simp [docXP, docX, canon, hashable, docX_of_ext o v h.1.2, docXP_of_ext o r h.2]
end

theorem isDoc_seq {k : SeqKind} {l : List Py} : isDoc (.seq k l) = true ↔ k = .list ∧ isDocL l = true := by
  cases k <;> simp [isDoc]

theorem isDoc_map {k : MapKind} {kvs : List (Py × Py)} :
    isDoc (.map k kvs) = true ↔ k = .dict ∧ isDocP kvs = true := by
  cases k <;> simp [isDoc]

theorem isDocP_cons {k v : Py} {r : List (Py × Py)} :
    isDocP ((k, v) :: r) = true ↔ (∃ s, k = .sc s) ∧ isDoc v = true ∧ isDocP r = true := by
  cases k <;> simp [isDocP]

mutual
theorem ext_of_doc : ∀ d, isDoc d = true → isDocExt d = true
  | .sc _, _ => rfl
  | .seq k l, h => by
      obtain ⟨rfl, h⟩ := isDoc_seq.mp h
      simp only [isDocExt]
      exact extL_of_doc l h
  | .map k kvs, h => by
      simp only [isDocExt]
      exact extP_of_doc kvs (isDoc_map.mp h).2
theorem extL_of_doc : ∀ l, isDocL l = true → isDocExtL l = true
  | [], _ => rfl
  | x :: xs, h => by
      simp only [isDocL, Bool.and_eq_true] at h
      simp [isDocExtL, ext_of_doc x h.1, extL_of_doc xs h.2]
theorem extP_of_doc : ∀ l, isDocP l = true → isDocExtP l = true
  | [], _ => rfl
  | (k, v) :: r, h => by
      obtain ⟨⟨s, rfl⟩, hv, hr⟩ := isDocP_cons.mp h
      simp [isDocExtP, ext_of_doc v hv, extP_of_doc r hr]
end

/-- **C10.roundtrip**: for every JSON-like document `d`, and tuples, sets and generators of such,
    under every option combination, `$` returns `d` in canonical container types. -/
theorem roundtrip (o : Opts) (d : Py) (h : isDocExt d = true) : convOut o none (convIn d) = .ok (canon o d) :=
  roundtrip_ext o d (docX_of_ext o d h)

theorem roundtrip_json (o : Opts) (d : Py) (h : isDoc d = true) : convOut o none (convIn d) = .ok (canon o d) :=
  roundtrip o d (ext_of_doc d h)

mutual
theorem canon_default_doc : ∀ d, isDoc d = true → canon {} d = d
  | .sc _, _ => rfl
  | .seq k l, h => by
      obtain ⟨rfl, h⟩ := isDoc_seq.mp h
      simp only [canon, canonL_default_doc l h]
      rfl
  | .map k kvs, h => by
      obtain ⟨rfl, h⟩ := isDoc_map.mp h
      simp only [canon, canonP_default_doc kvs h]
theorem canonL_default_doc : ∀ l, isDocL l = true → canonL {} l = l
  | [], _ => rfl
  | x :: xs, h => by
      simp only [isDocL, Bool.and_eq_true] at h
      simp only [canonL, canon_default_doc x h.1, canonL_default_doc xs h.2]
theorem canonP_default_doc : ∀ l, isDocP l = true → canonP {} l = l
  | [], _ => rfl
  | (k, v) :: r, h => by
      obtain ⟨⟨s, rfl⟩, hv, hr⟩ := isDocP_cons.mp h
      simp only [canonP, canon, canon_default_doc v hv, canonP_default_doc r hr]
end

/-- **C10.roundtrip**, default options: `$` returns the JSON-like document itself -/
theorem roundtrip_default (d : Py) (h : isDoc d = true) : convOut {} none (convIn d) = .ok d := by
  rw [roundtrip_json {} d h, canon_default_doc d h]

example : isDoc (.map .dict [(.sc (.str ['a']), .seq .list [.sc (.int 1), .map .dict [], .sc .null])]) = true := by rfl
example : isDocExt (.seq .iter [.seq .tuple [.sc (.int 1)], .seq .set [.sc (.int 1), .sc (.str ['x'])]]) = true := by rfl

/-! ## dict views: `keys()` / `items()` are finalised into lists -/

/-- the elements of `d.keys()` -/
def keysOf : List (Py × Py) → List Py
  | [] => []
  | (k, _) :: r => k :: keysOf r

/-- the elements of `d.items()`: the 2-tuples `(key, value)` -/
def itemsOf : List (Py × Py) → List Py
  | [] => []
  | (k, v) :: r => .seq .tuple [k, v] :: itemsOf r

/-- the finalised pairs: `[key, value]` (a tuple only if tuple conversion is off) -/
def pairsOf (o : Opts) : List (Py × Py) → List Py
  | [] => []
  | (k, v) :: r => .seq (if o.t2l then .list else .tuple) [k, v] :: pairsOf o r

theorem keysOf_length : ∀ kvs, (keysOf kvs).length = kvs.length
  | [] => rfl
  | (_, _) :: r => by simp [keysOf, keysOf_length r]
theorem itemsOf_length : ∀ kvs, (itemsOf kvs).length = kvs.length
  | [] => rfl
  | (_, _) :: r => by simp [itemsOf, itemsOf_length r]

theorem renameL_keysOf (o : Opts) : ∀ kvs, renameL o (keysOf kvs) = keysOf (renameP o kvs)
  | [] => rfl
  | (k, v) :: r => by simp [keysOf, renameL, renameP, renameL_keysOf o r]
theorem renameL_itemsOf (o : Opts) : ∀ kvs, renameL o (itemsOf kvs) = pairsOf o (renameP o kvs)
  | [] => rfl
  | (k, v) :: r => by
      simp only [itemsOf, renameL, renameP, pairsOf, rename, renameL_itemsOf o r]
      obtain ⟨t, s⟩ := o
      cases t <;> rfl

/-- every key and every value of the dictionary is finalised on its own -/
def partsFinalise (o : Opts) (lim : Limit) (kvs : List (Py × Py)) : Prop :=
  ∀ p ∈ kvs, (∃ r, convOut o lim p.1 = .ok r) ∧ (∃ r, convOut o lim p.2 = .ok r)

theorem partsFinalise_clean (o : Opts) (lim : Limit) : ∀ kvs, partsFinalise o lim kvs →
    cleanL o false (keysOf kvs) = true ∧ boundedL lim (keysOf kvs) = true ∧
    cleanL o false (itemsOf kvs) = true ∧ (lim.admits 2 = true → boundedL lim (itemsOf kvs) = true)
  | [], _ => ⟨rfl, rfl, rfl, fun _ => rfl⟩
  | (k, v) :: r, h => by
      obtain ⟨r1, r2, r3, r4⟩ := partsFinalise_clean o lim r (fun p hp => h p (List.mem_cons_of_mem _ hp))
      obtain ⟨hk, hv⟩ := h (k, v) (List.mem_cons_self ..)
      obtain ⟨ck, bk⟩ := (succeeds_iff_lim o lim k).mp hk
      obtain ⟨cv, bv⟩ := (succeeds_iff_lim o lim v).mp hv
      refine ⟨?_, ?_, ?_, fun h2 => ?_⟩
      · simp [keysOf, cleanL, ck, r1]
      · simp [keysOf, boundedL, bk, r2]
      · simp [itemsOf, cleanL, clean, buildsSet, SeqKind.isSetLike, ck, cv, r3]
      · have h2' : lim.admits (0 + 1 + 1) = true := h2
        simp [itemsOf, boundedL, bounded, bk, bv, r4 h2, h2']

theorem convOut_view (o : Opts) (lim : Limit) {k : SeqKind} (hk : k.isView = true) (l : List Py)
    (c : cleanL o false l = true) (a : lim.admits l.length = true) (b : boundedL lim l = true) :
    convOut o lim (.seq k l) = .ok (.seq .list (renameL o l)) := by
  have hs : buildsSet k = false := by simp [buildsSet, hk]
  rw [convOut_spec, clean, bounded, rename, outKind, if_pos hk, hs, a, b]
  exact ⟨c, rfl, rfl⟩

/-- **C10.views_finalise**: for every dictionary (builtin or frozen, of any size) whose keys and values are
    finalised, under every option combination and every iterator limit that admits its size,
    `keys()` is finalised successfully into the LIST of the finalised keys and - the limit admitting a
    pair - `items()` into the LIST of the finalised `[key, value]` pairs, both in iteration order.
    (The dictionary itself need not be finalisable: `{[1,2] => 3}.keys()` gives `[[1, 2]]`.) -/
theorem views_finalise (o : Opts) (lim : Limit) (kvs : List (Py × Py))
    (hlen : lim.admits kvs.length = true) (h : partsFinalise o lim kvs) :
    convOut o lim (.seq .kview (keysOf kvs)) = .ok (.seq .list (keysOf (renameP o kvs))) ∧
    (lim.admits 2 = true →
      convOut o lim (.seq .iview (itemsOf kvs)) = .ok (.seq .list (pairsOf o (renameP o kvs)))) := by
  obtain ⟨c1, b1, c2, b2⟩ := partsFinalise_clean o lim kvs h
  rw [← renameL_keysOf, ← renameL_itemsOf]
  exact ⟨convOut_view o lim rfl _ c1 (by rwa [keysOf_length]) b1,
    fun h2 => convOut_view o lim rfl _ c2 (by rwa [itemsOf_length]) (b2 h2)⟩

theorem cleanL_views (o : Opts) : ∀ kvs, cleanP o kvs = true →
    cleanL o false (keysOf kvs) = true ∧ cleanL o false (itemsOf kvs) = true
  | [], _ => ⟨rfl, rfl⟩
  | (k, v) :: r, h => by
      simp only [cleanP, Bool.and_eq_true] at h
      obtain ⟨r1, r2⟩ := cleanL_views o r h.2
      simp [keysOf, itemsOf, cleanL, clean, buildsSet, SeqKind.isSetLike, h.1.1.1, h.1.1.2, r1, r2]

/-- ... in particular whenever the dictionary itself is finalised into `{k' : v', ...}`: its `keys()` is
    finalised into `[k', ...]` and its `items()` into `[[k', v'], ...]` -/
theorem views_finalise_of_dict (o : Opts) (mk : MapKind) (kvs r : List (Py × Py))
    (h : convOut o none (.map mk kvs) = .ok (.map .dict r)) :
    convOut o none (.seq .kview (keysOf kvs)) = .ok (.seq .list (keysOf r)) ∧
    convOut o none (.seq .iview (itemsOf kvs)) = .ok (.seq .list (pairsOf o r)) := by
  obtain ⟨hc, _, hr⟩ := (convOut_spec o none _ _).mp h
  simp only [rename, Py.map.injEq, true_and] at hr
  subst hr
  obtain ⟨c1, c2⟩ := cleanL_views o kvs hc
  rw [← renameL_keysOf, ← renameL_itemsOf]
  exact ⟨convOut_view o none rfl _ c1 rfl (boundedL_none _), convOut_view o none rfl _ c2 rfl (boundedL_none _)⟩

/-- the documented examples (`dict_items` / `dict_keys` in yaql/standard_library/collections.py):
    `{"a" => 1, "b" => 2}.items()` -> `[["a", 1], ["b", 2]]`, `.keys()` -> `["a", "b"]`, under the defaults -/
def docDict : List (Py × Py) := [(.sc (.str ['a']), .sc (.int 1)), (.sc (.str ['b']), .sc (.int 2))]

theorem views_documented :
    convOut {} none (.seq .iview (itemsOf docDict))
      = .ok (.seq .list [.seq .list [.sc (.str ['a']), .sc (.int 1)], .seq .list [.sc (.str ['b']), .sc (.int 2)]]) ∧
    convOut {} none (.seq .kview (keysOf docDict)) = .ok (.seq .list [.sc (.str ['a']), .sc (.str ['b'])]) := by
  exact ⟨rfl, rfl⟩

example : partsFinalise {} none docDict := by
  intro p hp
  simp only [docDict, List.mem_cons, List.not_mem_nil, or_false] at hp
  rcases hp with rfl | rfl <;> exact ⟨⟨_, rfl⟩, ⟨_, rfl⟩⟩
-- the views of a dictionary that is not itself finalisable (K1) are: `{[1,2] => 3}.keys()` -> `[[1, 2]]`
example : convOut {} none (.seq .kview (keysOf [(.seq .tuple [.sc (.int 1), .sc (.int 2)], .sc (.int 3))]))
    = .ok (.seq .list [.seq .list [.sc (.int 1), .sc (.int 2)]]) := by rfl
-- the values view is a generic iterable: a list
example : convOut {} none (.seq .vview [.sc (.int 1), .sc (.int 2)]) = .ok (.seq .list [.sc (.int 1), .sc (.int 2)]) := by rfl
-- the size of the view is checked by `len`, and a pair is a collection of two
example : convOut {} (some 1) (.seq .kview (keysOf docDict)) = .error .tooLarge := by rfl
example : convOut {} (some 1) (.seq .iview (itemsOf [(.sc (.str ['a']), .sc (.int 1))])) = .error .tooLarge := by rfl

/-! ## the full claim is false (known finding K1) -/

/-- `set([1,2])` / a host `{(1, 2)}`: a frozenset holding a tuple -/
def k1_set : Py := .seq .fset [.seq .tuple [.sc (.int 1), .sc (.int 2)]]
/-- `{[1,2] => 3}`: a frozen dict keyed by a tuple -/
def k1_key : Py := .map .fdict [(.seq .tuple [.sc (.int 1), .sc (.int 2)], .sc (.int 3))]

/-- **C10.current_fails**: under the default options two Python-constructible results of ordinary
    expressions are not finalised: `TypeError: unhashable type: 'list'`.  (`{a => 1}.items()`
    is not a third witness: the views are finalised into lists, `views_finalise`.) -/
theorem current_fails :
    wf k1_set = true ∧ convOut {} none k1_set = .error .unhashable ∧
    wf k1_key = true ∧ convOut {} none k1_key = .error .unhashable := by
  refine ⟨rfl, rfl, rfl, rfl⟩

theorem current_fails_full : ¬ total_full wf := by
  intro h
  obtain ⟨r, hr⟩ := h {} k1_set rfl
  have : convOut {} none k1_set = .error .unhashable := rfl
  rw [this] at hr
  cases hr

/-- and it is unsatisfiable as stated: the only candidate results - the same content with the kinds the
    options prescribe, a `set` holding a `list` / a `dict` keyed by a `list` - are not Python values. -/
theorem current_fails_unsatisfiable :
    wf (rename {} k1_set) = false ∧ isPlain {} (rename {} k1_set) = true ∧
    wf (rename {} k1_key) = false ∧ isPlain {} (rename {} k1_key) = true := by
  exact ⟨rfl, rfl, rfl, rfl⟩

/-- the same data is finalised when tuples are kept or sets become lists -/
theorem k1_other_options :
    convOut { t2l := false } none k1_set = .ok (.seq .set [.seq .tuple [.sc (.int 1), .sc (.int 2)]]) ∧
    convOut { s2l := true } none k1_set = .ok (.seq .list [.seq .list [.sc (.int 1), .sc (.int 2)]]) ∧
    convOut { t2l := false } none k1_key = .ok (.map .dict [(.seq .tuple [.sc (.int 1), .sc (.int 2)], .sc (.int 3))]) := by
  exact ⟨rfl, rfl, rfl⟩

/-- a host set holding a tuple does not round-trip under the defaults -/
theorem k1_roundtrip :
    convOut {} none (convIn (.seq .set [.seq .tuple [.sc (.int 1), .sc (.int 2)]])) = .error .unhashable := by rfl

end Yaql.Props.C10
