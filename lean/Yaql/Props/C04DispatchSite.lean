import Yaql.Gen.RegistryTypes
/-! the per-site checks that `Props/C04DispatchGenSites.lean` evaluates -/
namespace Yaql.Props.C04DispatchGen
open Yaql Yaql.Eval Yaql.EvalDispatch Yaql.Gen.RegistryTypes

def siteObs (c : Callee) : Bool := (repsOfCallee c).obsOk univ (groupOfCallee c)
def siteInv (c : Callee) : Bool := (patterns c).all fun p => p.invOk c (repsOfCallee c)
def siteReps (c : Callee) : Bool := (patterns c).all fun p => p.repsOk univ (groupOfCallee c) c (repsOfCallee c)

end Yaql.Props.C04DispatchGen
