import Yaql.Model.EvalLimits
import Yaql.Props.C08EvalMono
/-!
# Without limits the instrumented interpreter IS the reference interpreter (C08 over the evaluator, part 2)

`evalL c Lim.off n C e = embR emb (Eval.eval n C e)`: with `yaql.limitIterators` negative and
`yaql.memoryQuota <= 0` every `measure` / `limitLen` passes and `limitLazy` is the identity, and what is left of
`EvalLimits` is `Eval`, construct by construct (the exception type is larger, so results are compared through the
embedding `emb` / `LErr.base`).
-/
namespace Yaql.Props.C08Eval
open Yaql Yaql.Value Yaql.EvalLimits
open Yaql.Eval (Ctx Expr Fn BinOp UnOp Name VL KV Frame Final Obj Err R Ev)

/-! ## the embedding -/

def embT (e : Option Err) : Option LErr := e.map LErr.base

def embS (s : VL × Option Err) : VL × Option LErr := (s.1, embT s.2)

def emb : Obj → ObjL
  | .val v => .val v
  | .lazy xs e => .lazy xs (embT e)
  | .ordered xs e => .ordered xs (embT e)
  | .ctx c => .ctx c

def embR (g : α → β) (x : R α) : RL β :=
  match x with
  | .ok a => .ok (g a)
  | .error e => .error (.base e)

/-- `xL` is the embedding of `x` -/
def Emb (g : α → β) (xL : RL β) (x : R α) : Prop := xL = embR g x

theorem Emb.ok {g : α → β} {b : β} {a : α} (h : b = g a) : Emb g (.ok b) (.ok a) := by subst h; rfl
theorem Emb.pure {g : α → β} {b : β} {a : α} (h : b = g a) : Emb g (pure b) (pure a) := Emb.ok h
theorem Emb.err {g : α → β} (e : Err) : Emb g (.error (.base e)) (.error e) := rfl

theorem Emb.bind {h : α → β} {g : γ → δ} {xL : RL β} {x : R α} {kL : β → RL δ} {k : α → R γ}
    (hx : Emb h xL x) (hk : ∀ a, Emb g (kL (h a)) (k a)) : Emb g (xL >>= kL) (x >>= k) := by
  unfold Emb at hx
  subst hx
  cases x with
  | ok a => exact hk a
  | error e => rfl

theorem Emb.liftR (x : R α) : Emb id (liftR x) x := by cases x <;> rfl

theorem ite_emb {g : α → β} (p : Prop) [Decidable p] {xL yL : RL β} {x y : R α} (hx : Emb g xL x) (hy : Emb g yL y) :
    Emb g (if p then xL else yL) (if p then x else y) := by
  split <;> assumption

theorem ite_bind_emb {g : δ → γ} {p : Prop} [Decidable p] {a b : RL β} {k : β → RL γ} {a' b' : R δ}
    (ha : Emb g (a >>= k) a') (hb : Emb g (b >>= k) b') : Emb g ((if p then a else b) >>= k) (if p then a' else b') := by
  split <;> assumption

/-! ## the primitives without limits -/

theorem measureAll_off (ss : List (Option Sz)) : measureAll Lim.off ss = .ok () := by
  unfold measureAll; rfl

theorem measure_off (s : Option Sz) : EvalLimits.measure Lim.off s = .ok () := measureAll_off _

theorem measureEach_off : ∀ ss : List (Option Sz), measureEach Lim.off ss = .ok ()
  | [] => rfl
  | s :: r => by unfold measureEach; rw [measure_off, measureEach_off r]; rfl

theorem limitLen_off (n : Nat) : limitLen Lim.off n = .ok () := rfl

theorem limitLazy_off (s : VL × Option LErr) : limitLazy Lim.off s = s := rfl

theorem toIterL_emb (r : Obj) : toIterL (emb r) = (Eval.toIter r).map embS := by
  cases r with
  | val v => cases v <;> rfl
  | lazy xs e => rfl
  | ordered xs e => rfl
  | ctx c => rfl

theorem bindIter_toIterL (c : ECfg) (o : ObjL) :
    bindIter c Lim.off o = match toIterL o with | some s => .ok s | none => .error (.base .outOfDomain) := by
  unfold bindIter
  rw [measure_off]
  cases o with
  | val v => cases v <;> rfl
  | _ => rfl

theorem bindIter_off (c : ECfg) (r : Obj) {s : VL × Option Err} (h : Eval.toIter r = some s) :
    bindIter c Lim.off (emb r) = .ok (embS s) := by
  rw [bindIter_toIterL, toIterL_emb, h]
  rfl

theorem toVL_emb (o : Obj) : Emb id (toVL (emb o)) (Eval.toV o) := by
  cases o with
  | val v => rfl
  | lazy xs e => cases e <;> rfl
  | ordered xs e => rfl
  | ctx c => rfl

theorem truthyObjL_emb (o : Obj) : truthyObjL (emb o) = Eval.truthyObj o := by
  cases o <;> rfl

theorem isLazyL_emb (o : Obj) : isLazyL (emb o) = Eval.isLazy o := by
  cases o <;> rfl

theorem objSz_any (c : ECfg) (o : ObjL) : EvalLimits.measure Lim.off (objSz c o) = .ok () := measure_off _

/-- captured outcomes -/
def embC (g : α → β) (x : Except Err α) : Except LErr β :=
  match x with
  | .ok a => .ok (g a)
  | .error e => .error (.base e)

theorem capture_emb {g : α → β} {xL : RL β} {x : R α} (h : Emb g xL x) :
    Emb (embC g) (EvalLimits.capture xL) (Eval.capture x) := by
  unfold Emb at h
  subst h
  cases x with
  | ok a => rfl
  | error e => cases e <;> rfl

/-! ## generators -/

theorem mapL_emb {fL : Value → RL Value} {f : Value → R Value} (hf : ∀ x, Emb id (fL x) (f x)) :
    ∀ (xs : VL) (e : Option Err), Emb embS (EvalLimits.mapL fL xs (embT e)) (Eval.mapL f xs e)
  | [], e => rfl
  | x :: xs, e => by
    unfold EvalLimits.mapL Eval.mapL
    apply Emb.bind (capture_emb (hf x)); intro r
    cases r with
    | error er => exact Emb.pure rfl
    | ok v => exact Emb.bind (mapL_emb hf xs e) (fun s => Emb.pure rfl)

theorem filterL_emb {fL : Value → RL Bool} {f : Value → R Bool} (hf : ∀ x, Emb id (fL x) (f x)) :
    ∀ (xs : VL) (e : Option Err), Emb embS (EvalLimits.filterL fL xs (embT e)) (Eval.filterL f xs e)
  | [], e => rfl
  | x :: xs, e => by
    unfold EvalLimits.filterL Eval.filterL
    apply Emb.bind (capture_emb (hf x)); intro r
    cases r with
    | error er => exact Emb.pure rfl
    | ok v => exact Emb.bind (filterL_emb hf xs e) (fun s => Emb.pure (by cases v <;> rfl))

theorem flatMapL_emb {fL : Value → RL (VL × Option LErr)} {f : Value → R (VL × Option Err)}
    (hf : ∀ x, Emb embS (fL x) (f x)) :
    ∀ (xs : VL) (e : Option Err), Emb embS (EvalLimits.flatMapL fL xs (embT e)) (Eval.flatMapL f xs e)
  | [], e => rfl
  | x :: xs, e => by
    unfold EvalLimits.flatMapL Eval.flatMapL
    apply Emb.bind (capture_emb (hf x)); intro r
    match r with
    | .error er => exact Emb.pure rfl
    | .ok (vs, some er) => exact Emb.pure rfl
    | .ok (vs, none) => exact Emb.bind (flatMapL_emb hf xs e) (fun s => Emb.pure rfl)

theorem takeWhileL_emb {fL : Value → RL Bool} {f : Value → R Bool} (hf : ∀ x, Emb id (fL x) (f x)) :
    ∀ (xs : VL) (e : Option Err), Emb embS (EvalLimits.takeWhileL fL xs (embT e)) (Eval.takeWhileL f xs e)
  | [], e => rfl
  | x :: xs, e => by
    unfold EvalLimits.takeWhileL Eval.takeWhileL
    apply Emb.bind (capture_emb (hf x)); intro r
    match r with
    | .error er => exact Emb.pure rfl
    | .ok true => exact Emb.bind (takeWhileL_emb hf xs e) (fun s => Emb.pure rfl)
    | .ok false => exact Emb.pure rfl

theorem dropWhileL_emb {fL : Value → RL Bool} {f : Value → R Bool} (hf : ∀ x, Emb id (fL x) (f x)) :
    ∀ (xs : VL) (e : Option Err), Emb embS (EvalLimits.dropWhileL fL xs (embT e)) (Eval.dropWhileL f xs e)
  | [], e => rfl
  | x :: xs, e => by
    unfold EvalLimits.dropWhileL Eval.dropWhileL
    apply Emb.bind (capture_emb (hf x)); intro r
    match r with
    | .error er => exact Emb.pure rfl
    | .ok true => exact dropWhileL_emb hf xs e
    | .ok false => exact Emb.pure rfl

theorem findL_emb {pL : Value → RL Bool} {p : Value → R Bool} (hp : ∀ x, Emb id (pL x) (p x)) :
    ∀ (i : Nat) (xs : VL) (e : Option Err), Emb id (EvalLimits.findL pL i xs (embT e)) (Eval.findL p i xs e)
  | i, [], none => rfl
  | i, [], some e => rfl
  | i, x :: xs, e => by
    unfold EvalLimits.findL Eval.findL
    apply Emb.bind (hp x); intro b
    cases b
    · exact findL_emb hp (i + 1) xs e
    · exact Emb.pure rfl

theorem foldL_emb {fL : Value → Value → RL Value} {f : Value → Value → R Value} (hf : ∀ a x, Emb id (fL a x) (f a x)) :
    ∀ (acc : Value) (xs : VL) (e : Option Err), Emb id (EvalLimits.foldL fL acc xs (embT e)) (Eval.foldL f acc xs e)
  | acc, [], none => rfl
  | acc, [], some e => rfl
  | acc, x :: xs, e => by
    unfold EvalLimits.foldL Eval.foldL
    exact Emb.bind (hf acc x) (fun a => foldL_emb hf a xs e)

theorem toDictL_emb (c : ECfg) {kfL vfL : Value → RL Value} {kf vf : Value → R Value}
    (hk : ∀ x, Emb id (kfL x) (kf x)) (hv : ∀ x, Emb id (vfL x) (vf x)) :
    ∀ (acc : KV) (xs : VL) (e : Option Err),
      Emb id (EvalLimits.toDictL c Lim.off kfL vfL acc xs (embT e)) (Eval.toDictL kf vf acc xs e)
  | acc, [], none => rfl
  | acc, [], some e => rfl
  | acc, x :: xs, e => by
    unfold EvalLimits.toDictL Eval.toDictL
    apply Emb.bind (hk x); intro k
    apply Emb.bind (hv x); intro v
    simp only [id]
    split
    · rw [measure_off]
      exact toDictL_emb c hk hv _ xs e
    · exact Emb.err _

theorem drain_emb (s : VL × Option Err) : Emb id (EvalLimits.drain (embS s)) (Eval.drain s) := by
  obtain ⟨xs, e⟩ := s
  cases e <;> rfl

def embK (ks : List (Except Err Value)) : List (Except LErr Value) := ks.map (embC id)

theorem keysL_emb {fL : Value → RL Value} {f : Value → R Value} (hf : ∀ x, Emb id (fL x) (f x)) :
    ∀ xs : VL, Emb embK (EvalLimits.keysL fL xs) (Eval.keysL f xs)
  | [] => rfl
  | x :: xs => by
    unfold EvalLimits.keysL Eval.keysL
    apply Emb.bind (capture_emb (hf x)); intro k
    exact Emb.bind (keysL_emb hf xs) (fun r => Emb.pure rfl)

/-! ## sorting -/

theorem errsOfL_embK : ∀ ks : List (Except Err Value), errsOfL (embK ks) = (Eval.errsOf ks).map LErr.base
  | [] => rfl
  | .error e :: r => by
    show LErr.base e :: errsOfL (embK r) = _
    rw [errsOfL_embK r]; rfl
  | .ok v :: r => by
    show errsOfL (embK r) = _
    rw [errsOfL_embK r]; rfl

theorem oksOfL_embK : ∀ ks : List (Except Err Value), oksOfL (embK ks) = Eval.oksOf ks
  | [] => rfl
  | .error e :: r => by
    show oksOfL (embK r) = _
    rw [oksOfL_embK r]; rfl
  | .ok v :: r => by
    show v :: oksOfL (embK r) = _
    rw [oksOfL_embK r]; rfl

theorem keyQuota_off (c : ECfg) : ∀ ks : VL, keyQuota c Lim.off ks = []
  | [] => rfl
  | k :: r => by rw [keyQuota_cons, measure_off]; exact keyQuota_off c r

theorem base_beq (a b : Err) : (LErr.base a == LErr.base b) = (a == b) := by
  rw [Bool.eq_iff_iff]
  simp only [beq_iff_eq]
  constructor
  · intro h; cases h; rfl
  · intro h; rw [h]

theorem any_ne_base (e : Err) : ∀ rest : List Err, (rest.map LErr.base).any (· != LErr.base e) = rest.any (· != e)
  | [] => rfl
  | x :: r => by
    simp only [List.map_cons, List.any_cons, any_ne_base e r]
    congr 1
    simp only [bne, base_beq]

theorem sortErr_emb (sorted : VL) : ∀ es : List Err,
    Emb embS
      (do let r ← sortErr (es.map LErr.base)
          match r with
          | none => pure (sorted, none)
          | some e => pure ([], some e))
      (match es with
        | [] => .ok (sorted, none)
        | e :: rest => if (e == Err.outOfDomain || rest.any (· != e)) = true then .error .outOfDomain else .ok ([], some e))
  | [] => rfl
  | e :: rest => by
    rw [List.map_cons, sortErr_cons, base_beq, any_ne_base]
    exact ite_bind_emb (Emb.err _) (Emb.ok rfl)

theorem sortKeyedL_emb (c : ECfg) (asc : Bool) (items : VL) (ks : List (Except Err Value)) :
    Emb embS (sortKeyedL c Lim.off asc items (embK ks)) (Eval.sortKeyed asc items ks) := by
  unfold sortKeyedL Eval.sortKeyed
  split
  · rfl
  · rw [errsOfL_embK, oksOfL_embK, keyQuota_off, List.append_nil]
    cases Seq.keysComparable (Eval.oksOf ks) with
    | none =>
      simp only [List.append_nil]
      exact sortErr_emb _ _
    | some e0 =>
      rw [show List.map LErr.base (Eval.errsOf ks) ++ [LErr.base (Err.ofSeq e0)]
          = List.map LErr.base (Eval.errsOf ks ++ [Err.ofSeq e0]) by simp]
      exact sortErr_emb _ _

/-! ## operators -/

theorem withConv_off {res : R α} {conv : RL Unit} (h : conv = .ok ()) : withConv res conv = liftR res := by
  subst h
  unfold withConv
  cases res with
  | ok a => rfl
  | error e =>
    simp only
    split <;> rfl

theorem convBin_off (c : ECfg) (op : BinOp) (a b : Value) : convBin c Lim.off op a b = .ok () := by
  unfold convBin
  split <;> simp only [measure_off, limitLen_off, measureAll_off, ok_bind]

theorem binCall_off (c : ECfg) (op : BinOp) (a b : Value) : Emb id (binCall c Lim.off op a b) (Eval.binopV op a b) := by
  unfold binCall
  rw [withConv_off (convBin_off c op a b)]
  cases Eval.binopV op a b with
  | ok r => simp only [liftR, ok_bind, measure_off]; rfl
  | error e => rfl

theorem binopL_emb (c : ECfg) (op : BinOp) (x y : Obj) :
    Emb emb (binopL c Lim.off op (emb x) (emb y)) (Eval.binop op x y) := by
  have strict : ∀ x y : Obj,
      Emb emb
        (if (isLazyL (emb x) || isLazyL (emb y)) = true then .error (.base .outOfDomain)
          else do let a ← toVL (emb x); let b ← toVL (emb y); let r ← binCall c Lim.off op a b; pure (ObjL.val r))
        (if (Eval.isLazy x || Eval.isLazy y) = true then .error .outOfDomain
          else do let a ← Eval.toV x; let b ← Eval.toV y; let r ← Eval.binopV op a b; pure (.val r)) := by
    intro x y
    rw [isLazyL_emb, isLazyL_emb]
    refine ite_emb _ (Emb.err _) (Emb.bind (toVL_emb x) fun a => Emb.bind (toVL_emb y) fun b => ?_)
    exact Emb.bind (binCall_off c op a b) fun r => Emb.pure rfl
  cases x with
  | ctx cx => cases op <;> rfl
  | val vx =>
    cases y with
    | ctx cy => cases op <;> rfl
    | val vy => exact strict (.val vx) (.val vy)
    | lazy ys e => exact strict (.val vx) (.lazy ys e)
    | ordered ys e => exact strict (.val vx) (.ordered ys e)
  | lazy xs d =>
    cases y with
    | ctx cy => cases op <;> rfl
    | val vy => exact strict (.lazy xs d) (.val vy)
    | lazy ys e => exact strict (.lazy xs d) (.lazy ys e)
    | ordered ys e => exact strict (.lazy xs d) (.ordered ys e)
  | ordered xs d =>
    cases y with
    | ctx cy => cases op <;> rfl
    | val vy => exact strict (.ordered xs d) (.val vy)
    | lazy ys e => exact strict (.ordered xs d) (.lazy ys e)
    | ordered ys e => exact strict (.ordered xs d) (.ordered ys e)

theorem unopL_emb (c : ECfg) (op : UnOp) (x : Obj) : Emb emb (unopL c Lim.off op (emb x)) (Eval.unop op x) := by
  cases x with
  | val v =>
    cases op with
    | not =>
      refine ite_emb (Eval.hasIter v = true) (Emb.err _) ?_
      rw [measure_off]
      rfl
    | neg =>
      have other : Emb emb (if Eval.hasIter v = true then .error (.base .outOfDomain) else .error (.base .noFunction))
          (if Eval.hasIter v = true then .error .outOfDomain else .error .noFunction) :=
        ite_emb _ (Emb.err _) (Emb.err _)
      cases v with
      | int i => rfl
      | flt b => rfl
      | _ => exact other
  | lazy xs e => cases op <;> rfl
  | ordered xs e => cases op <;> rfl
  | ctx cx => cases op <;> rfl

theorem indexer_eq (r : Obj) (vs : VL) : Eval.indexer r vs = (indexerV (emb r) vs >>= fun v => pure (Obj.val v)) := by
  have seqCase : ∀ (l : VL) (k : Value),
      (match Eval.intOfIndex k with
        | some i => do let v ← Eval.liftSeq (Seq.pyIndex l i); pure (Obj.val v)
        | none => (.error .noFunction : R Obj))
      = ((match Eval.intOfIndex k with
        | some i => Eval.liftSeq (Seq.pyIndex l i)
        | none => (.error .noFunction : R Value)) >>= fun v => pure (Obj.val v)) := by
    intro l k
    cases Eval.intOfIndex k <;> rfl
  cases r with
  | val v =>
    cases v with
    | tuple l | list l =>
      match vs with
      | [] => rfl
      | [k] => exact seqCase l k
      | _ :: _ :: _ => rfl
    | dict d =>
      match vs with
      | [] => rfl
      | [k] =>
        show (if hashable k = true then _ else _) = ((if hashable k = true then _ else _) >>= _)
        split
        · cases Seq.dGet d k <;> rfl
        · rfl
      | [k, dflt] =>
        show (if hashable k = true then _ else _) = ((if hashable k = true then _ else _) >>= _)
        split <;> rfl
      | _ :: _ :: _ :: _ => rfl
    | _ => rfl
  | lazy xs e => rfl
  | ordered xs e => rfl
  | ctx cx => rfl

theorem indexerL_emb (c : ECfg) (r : Obj) (vs : VL) : Emb emb (indexerL c Lim.off (emb r) vs) (Eval.indexer r vs) := by
  unfold indexerL Emb
  rw [withConv_off (by rw [measure_off]; exact measureEach_off _), indexer_eq]
  cases indexerV (emb r) vs <;> rfl

/-- the element kinds that are neither a collection nor (in `Eval`) projected element by element -/
theorem memberFlatL_emb (c : ECfg) (name : Name) (x : Value) : Emb id (memberFlatL c Lim.off name x) (Eval.memberV name x) := by
  unfold memberFlatL
  split
  · next h =>
    rw [measure_off, h]
    rfl
  ·
    rw [withConv_off (measure_off _)]
    cases Eval.memberV name x with
    | ok v => rw [liftR, ok_bind, measure_off]; rfl
    | error e => rfl

theorem memberV_nested_emb (c : ECfg) (name : Name) (l : VL)
    (ih : Emb embS (memberVLs c Lim.off name l) (Eval.memberVL name l)) :
    Emb id (do
        let s ← memberVLs c Lim.off name l
        let v ← toVL (ObjL.lazy s.1 s.2)
        EvalLimits.measure Lim.off (sizeofV c v)
        pure v)
      (do let s ← Eval.memberVL name l; Eval.toV (.lazy s.1 s.2)) := by
  refine Emb.bind ih (fun s => ?_)
  have h := Emb.bind (g := id) (toVL_emb (.lazy s.1 s.2))
    (kL := fun v => do EvalLimits.measure Lim.off (sizeofV c v); pure v) (k := pure)
    fun v => by rw [measure_off]; exact Emb.pure rfl
  rwa [bind_pure] at h

mutual
theorem memberVL_emb (c : ECfg) (name : Name) : ∀ x : Value, Emb id (memberVL c Lim.off name x) (Eval.memberV name x)
  | .tuple l | .list l => by
    rw [memberVL, Eval.memberV]
    simp only [measure_off, limitLen_off, ok_bind]
    exact memberV_nested_emb c name l (memberVLs_emb c name l)
  | .iter l => by
    rw [memberVL, Eval.memberV]
    simp only [measure_off, limitLazy_off, ok_bind]
    exact memberV_nested_emb c name l (memberVLs_emb c name l)
  | .null | .bool _ | .int _ | .flt _ | .str _ | .dict _ | .set _ | .host _ => by
    rw [memberVL]; exact memberFlatL_emb c name _
theorem memberVLs_emb (c : ECfg) (name : Name) : ∀ l : VL, Emb embS (memberVLs c Lim.off name l) (Eval.memberVL name l)
  | [] => by rw [memberVLs, Eval.memberVL]; rfl
  | x :: xs => by
    rw [memberVLs, Eval.memberVL]
    refine Emb.bind (capture_emb (memberVL_emb c name x)) (fun r => ?_)
    cases r with
    | error er => exact Emb.pure rfl
    | ok v => exact Emb.bind (memberVLs_emb c name xs) (fun s => Emb.pure rfl)
end

theorem memberOfL_emb (c : ECfg) (r : Obj) (name : Name) : Emb emb (memberOfL c Lim.off (emb r) name) (Eval.memberOf r name) := by
  have iter :
      Emb emb (match toIterL (emb r) with
        | some _ => do
          let (items, err) ← bindIter c Lim.off (emb r)
          let s ← EvalLimits.mapL (memberVL c Lim.off name) items err
          pure (ObjL.lazy s.1 s.2)
        | none => do
          EvalLimits.measure Lim.off (objSz c (emb r))
          .error (.base .unknownFunction))
      (match Eval.toIter r with
        | some (items, err) => do let s ← Eval.mapL (Eval.memberV name) items err; pure (.lazy s.1 s.2)
        | none => .error .unknownFunction) := by
    rw [toIterL_emb]
    cases h : Eval.toIter r with
    | none => simp only [Option.map_none, measure_off, ok_bind]; rfl
    | some s =>
      obtain ⟨xs, e⟩ := s
      simp only [Option.map_some]
      rw [bindIter_off c r h]
      show Emb emb (do let s ← EvalLimits.mapL (memberVL c Lim.off name) xs (embT e); pure (ObjL.lazy s.1 s.2))
        (do let s ← Eval.mapL (Eval.memberV name) xs e; pure (.lazy s.1 s.2))
      exact Emb.bind (mapL_emb (memberVL_emb c name) xs e) (fun s => Emb.pure rfl)
  cases r with
  | val v =>
    cases v with
    | dict d =>
      show Emb emb (do EvalLimits.measure Lim.off _; match Seq.dGet d (.str name) with | some v => pure (.val v) | none => .error (.base .key)) _
      rw [measure_off]
      show Emb emb (match Seq.dGet d (.str name) with | some v => pure (ObjL.val v) | none => .error (.base .key))
        (match Seq.dGet d (.str name) with | some v => .ok (.val v) | none => .error .key)
      cases Seq.dGet d (.str name) <;> rfl
    | set l => rfl
    | _ => exact iter
  | _ => exact iter

theorem mkDictL_emb (ps : KV) : Emb emb (mkDictL ps) (Eval.mkDict ps) := by
  unfold mkDictL Eval.mkDict
  split <;> rfl

/-! ## `list(...)` without limits -/

mutual
theorem recV_off : ∀ v : Value, recV Lim.off v = (Seq.listRecV v, none)
  | .iter l => by unfold recV Seq.listRecV; exact recItems_off l
  | .null | .bool _ | .int _ | .flt _ | .str _ | .tuple _ | .list _ | .dict _ | .set _ | .host _ => rfl
theorem recItems_off : ∀ xs : VL, recItems Lim.off none xs = (Seq.listRecL xs, none)
  | [] => rfl
  | x :: xs => by
    rw [recItems_cons Lim.off none (by intro h; cases h), recV_off x]
    show catS _ (recItems Lim.off none xs) = _
    rw [recItems_off xs]
    rfl
end

theorem catS_drain (s t : VL × Option LErr) :
    EvalLimits.drain (catS s t) = (do let a ← EvalLimits.drain s; let b ← EvalLimits.drain t; pure (a ++ b)) := by
  obtain ⟨s1, s2⟩ := s
  obtain ⟨t1, t2⟩ := t
  cases s2 with
  | some e => rfl
  | none => cases t2 <;> rfl

theorem listArgL_drain (o : Obj) : Emb id (EvalLimits.drain (listArgL Lim.off (emb o))) (Eval.listArg o) := by
  cases o with
  | val v => show Emb id (EvalLimits.drain (recV Lim.off v)) _; rw [recV_off]; rfl
  | lazy xs e =>
    show Emb id (EvalLimits.drain (catS (recItems Lim.off none xs) ([], embT e))) _
    rw [recItems_off]
    cases e with
    | none => show Emb id (.ok (Seq.listRecL xs ++ [])) _; rw [List.append_nil]; rfl
    | some er => rfl
  | ordered xs e => rfl
  | ctx cx => rfl

theorem listFn_emb : ∀ os : List Obj,
    Emb List.flatten (EvalLimits.drain (catStreams ((os.map emb).map (listArgL Lim.off)))) (os.mapM Eval.listArg)
  | [] => rfl
  | o :: os => by
    simp only [List.map_cons, List.mapM_cons, catStreams]
    rw [catS_drain]
    apply Emb.bind (listArgL_drain o); intro a
    apply Emb.bind (listFn_emb os); intro b
    exact Emb.pure (by simp)

/-! ## `dict(items)` without limits -/

def pairOfE (it : Value) : R (Value × Value) :=
  match it with
  | .tuple (k :: v :: _) | .list (k :: v :: _) => .ok (k, v)
  | .tuple _ | .list _ => .error .stopIteration
  | _ => .error .outOfDomain

theorem pairOf_emb (it : Value) : Emb id (pairOf it) (pairOfE it) := by
  cases it with
  | tuple l =>
    match l with
    | [] => rfl
    | [_] => rfl
    | _ :: _ :: _ => rfl
  | list l =>
    match l with
    | [] => rfl
    | [_] => rfl
    | _ :: _ :: _ => rfl
  | _ => rfl

theorem dictItemsL_off (c : ECfg) : ∀ (xs : VL) (acc : KV), Emb id (dictItemsL c Lim.off acc xs) (xs.mapM pairOfE)
  | [], acc => rfl
  | it :: r, acc => by
    unfold dictItemsL
    simp only [List.mapM_cons]
    apply Emb.bind (pairOf_emb it); intro p
    rw [measure_off]
    simp only [ok_bind]
    exact Emb.bind (dictItemsL_off c r _) (fun rest => Emb.pure rfl)

/-! ## the evaluator's plumbing -/

/-- the recursive call of `stepL` is the embedding of that of `Eval.step` -/
def EmbEv (evL : EvL) (ev : Ev) : Prop := ∀ C e, Emb emb (evL C e) (ev C e)

theorem evalListL_emb {evL : EvL} {ev : Ev} (h : EmbEv evL ev) (C : Ctx) :
    ∀ es, Emb id (evalListL evL C es) (Eval.evalList ev C es)
  | [] => rfl
  | e :: es => by
    unfold evalListL Eval.evalList
    apply Emb.bind (h C e); intro o
    apply Emb.bind (toVL_emb o); intro v
    exact Emb.bind (evalListL_emb h C es) (fun vs => Emb.pure rfl)

theorem evalObjsL_emb {evL : EvL} {ev : Ev} (h : EmbEv evL ev) (C : Ctx) :
    ∀ es, Emb (List.map emb) (evalObjsL evL C es) (Eval.evalObjs ev C es)
  | [] => rfl
  | e :: es => by
    unfold evalObjsL Eval.evalObjs
    apply Emb.bind (h C e); intro o
    exact Emb.bind (evalObjsL_emb h C es) (fun os => Emb.pure rfl)

theorem evalPairsL_emb {evL : EvL} {ev : Ev} (h : EmbEv evL ev) (C : Ctx) :
    ∀ ps, Emb id (evalPairsL evL C ps) (Eval.evalPairs ev C ps)
  | [] => rfl
  | (k, v) :: r => by
    unfold evalPairsL Eval.evalPairs
    apply Emb.bind (h C k); intro ko
    apply Emb.bind (toVL_emb ko); intro kv
    apply Emb.bind (h C v); intro vo
    apply Emb.bind (toVL_emb vo); intro vv
    exact Emb.bind (evalPairsL_emb h C r) (fun rest => Emb.pure rfl)

theorem lamVL_emb {evL : EvL} {ev : Ev} (h : EmbEv evL ev) (D : Ctx) (b : Expr) (args : VL) :
    Emb id (lamVL evL D b args) (Eval.lamV ev D b args) :=
  Emb.bind (h _ _) (fun o => toVL_emb o)

theorem lamBL_emb {evL : EvL} {ev : Ev} (h : EmbEv evL ev) (D : Ctx) (b : Expr) (args : VL) :
    Emb id (lamBL evL D b args) (Eval.lamB ev D b args) :=
  Emb.bind (h _ _) (fun o => Emb.pure (truthyObjL_emb o))

theorem lamManyL_emb {evL : EvL} {ev : Ev} (h : EmbEv evL ev) (D : Ctx) (b : Expr) (x : Value) :
    Emb embS (lamManyL evL D b x) (Eval.lamMany ev D b x) := by
  unfold lamManyL Eval.lamMany
  apply Emb.bind (h _ _); intro o
  cases o with
  | val v => cases v <;> rfl
  | lazy xs e => rfl
  | ordered xs e => rfl
  | ctx cx => rfl

theorem withIter_off {β : Type} (c : ECfg) (bad : Err) (r : Obj) (pre : RL β) (k : β → VL × Option LErr → RL ObjL) :
    withIter c Lim.off bad (emb r) pre k =
      match Eval.toIter r with
      | none => .error (.base bad)
      | some s => pre >>= fun a => k a (embS s) := by
  unfold withIter
  rw [toIterL_emb]
  cases h : Eval.toIter r with
  | none => rfl
  | some s => simp only [Option.map_some, bindIter_off c r h, ok_bind]

theorem withIter_off_unit (c : ECfg) (bad : Err) (r : Obj) (k : Unit → VL × Option LErr → RL ObjL) :
    withIter c Lim.off bad (emb r) (pure ()) k =
      match Eval.toIter r with
      | none => .error (.base bad)
      | some s => k () (embS s) := withIter_off c bad r _ k

/-- a method that runs one generator, search or fold `G` over the receiver and wraps what it returns -/
theorem withIter_emb (c : ECfg) (bad : Err) (r : Obj) {h : α → β} {GL : VL → Option LErr → RL β}
    {G : VL → Option Err → R α} (hG : ∀ xs e, Emb h (GL xs (embT e)) (G xs e)) {fL : β → ObjL} {f : α → Obj}
    (hf : ∀ a, fL (h a) = emb (f a)) :
    Emb emb (withIter c Lim.off bad (emb r) (pure ()) fun _ s => do let t ← GL s.1 s.2; pure (fL t))
      (match Eval.toIter r with | none => .error bad | some (xs, e) => do let t ← G xs e; pure (f t)) := by
  rw [withIter_off_unit]
  match Eval.toIter r with
  | none => rfl
  | some (xs, e) => exact Emb.bind (hG xs e) fun a => Emb.pure (hf a)

theorem withIter_pre_emb {β : Type} (c : ECfg) (bad : Err) (r : Obj) {preL : RL β} {kL : β → VL × Option LErr → RL ObjL}
    {k : VL → Option Err → R Obj} (hk : ∀ xs e, Emb emb (preL >>= fun a => kL a (xs, embT e)) (k xs e)) :
    Emb emb (withIter c Lim.off bad (emb r) preL kL)
      (match Eval.toIter r with | none => .error bad | some (xs, e) => k xs e) := by
  rw [withIter_off]
  match Eval.toIter r with
  | none => rfl
  | some (xs, e) => exact hk xs e

theorem intArgK_emb {g : α → β} (bad : Err) (no : Obj) {kL : Int → RL β} {k : Int → R α} (hk : ∀ i, Emb g (kL i) (k i)) :
    Emb g (intArg bad (emb no) >>= kL)
      (match no with
        | .val (.int i) => k i
        | .val (.bool _) => .error .outOfDomain
        | _ => if Eval.isLazy no then .error .outOfDomain else .error bad) := by
  have other : Emb g ((if isLazyL (emb no) = true then .error (.base .outOfDomain) else .error (.base bad)) >>= kL)
      (if Eval.isLazy no = true then .error .outOfDomain else .error bad) := by
    rw [isLazyL_emb]
    split <;> rfl
  cases no with
  | val v =>
    cases v with
    | int i => exact hk i
    | bool b => rfl
    | _ => exact other
  | _ => exact other

theorem intArg_emb (bad : Err) (no : Obj) :
    Emb id (intArg bad (emb no)) (match no with
      | .val (.int k) => (.ok k : R Int)
      | .val (.bool _) => .error .outOfDomain
      | _ => if Eval.isLazy no then .error .outOfDomain else .error bad) := by
  have h := intArgK_emb (g := id) bad no (kL := pure) (k := pure) fun _ => Emb.pure rfl
  rwa [bind_pure] at h

theorem lamNotBL_emb {evL : EvL} {ev : Ev} (h : EmbEv evL ev) (D : Ctx) (b : Expr) (args : VL) :
    Emb id (do let x ← lamBL evL D b args; pure (!x)) (do let x ← Eval.lamB ev D b args; pure (!x)) :=
  Emb.bind (lamBL_emb h D b args) (fun _ => Emb.pure rfl)

/-- `unpack` raises what is pending in its source only if it has to read that far -/
theorem pending_emb (p : Prop) [Decidable p] (d : Option Err) {xL : RL ObjL} {x : R Obj} (hx : Emb emb xL x) :
    Emb emb (match (if p then embT d else none) with | some er => .error er | none => xL)
      (match (if p then d else none) with | some er => .error er | none => x) := by
  by_cases h : p
  · rw [if_pos h, if_pos h]
    cases d with
    | none => exact hx
    | some er => rfl
  · rw [if_neg h, if_neg h]
    exact hx

/-- `orderBy` / `orderByDescending`: a source that raises gives an empty ordering that raises -/
theorem orderBy_emb (c : ECfg) {evL : EvL} {ev : Ev} (hev : EmbEv evL ev) (C : Ctx) (bad : Err) (r : Obj) (l : Expr)
    (asc : Bool) :
    Emb emb
      (withIter c Lim.off bad (emb r) (pure ()) fun _ s =>
        match s.2 with
        | some er => pure (.ordered [] (some er))
        | none => do
          let ks ← if s.1.length ≤ 1 then pure [] else EvalLimits.keysL (fun x => lamVL evL C l [x]) s.1
          let t ← sortKeyedL c Lim.off asc s.1 ks
          pure (.ordered t.1 t.2))
      (match Eval.toIter r with
        | none => .error bad
        | some (_, some e) => .ok (.ordered [] (some e))
        | some (xs, none) => do
          let ks ← if xs.length ≤ 1 then pure [] else Eval.keysL (fun x => Eval.lamV ev C l [x]) xs
          let s ← Eval.sortKeyed asc xs ks
          pure (.ordered s.1 s.2)) := by
  rw [withIter_off_unit]
  match Eval.toIter r with
  | none => rfl
  | some (xs, some e) => rfl
  | some (xs, none) =>
    have sort : ∀ ks, Emb emb (do let t ← sortKeyedL c Lim.off asc xs (embK ks); pure (ObjL.ordered t.1 t.2))
        (do let s ← Eval.sortKeyed asc xs ks; pure (Obj.ordered s.1 s.2)) :=
      fun ks => Emb.bind (sortKeyedL_emb c asc xs ks) fun _ => Emb.pure rfl
    exact ite_emb (xs.length ≤ 1) (Emb.bind (Emb.pure rfl) sort)
      (Emb.bind (keysL_emb (fun x => lamVL_emb hev _ _ _) xs) sort)

/-- `aggregate(f)` / `sum()` without a seed: `reduce` of an empty collection raises -/
theorem reduce_emb (c : ECfg) (bad : Err) (r : Obj) {fL : Value → Value → RL Value} {f : Value → Value → R Value}
    (hf : ∀ a x, Emb id (fL a x) (f a x)) :
    Emb emb
      (withIter c Lim.off bad (emb r) (pure ()) fun _ s =>
        match s.1, s.2 with
        | [], none => .error (.base .type)
        | [], some er => .error er
        | x :: xs, e => do let v ← EvalLimits.foldL fL x xs e; pure (.val v))
      (match Eval.toIter r with
        | none => .error bad
        | some ([], none) => .error .type
        | some ([], some e) => .error e
        | some (x :: xs, e) => do let v ← Eval.foldL f x xs e; pure (.val v)) := by
  rw [withIter_off_unit]
  match Eval.toIter r with
  | none => rfl
  | some ([], none) => rfl
  | some ([], some e) => rfl
  | some (x :: xs, e) => exact Emb.bind (foldL_emb hf x xs e) fun _ => Emb.pure rfl

/-- `aggregate(f, seed)` / `sum(init)`: the seed is evaluated before the receiver is converted -/
theorem reduceSeed_emb (c : ECfg) {evL : EvL} {ev : Ev} (hev : EmbEv evL ev) (C : Ctx) (bad : Err) (r : Obj) (seed : Expr)
    {fL : Value → Value → RL Value} {f : Value → Value → R Value} (hf : ∀ a x, Emb id (fL a x) (f a x)) :
    Emb emb
      (withIter c Lim.off bad (emb r) (do let so ← evL C seed; toVL so) fun sd s => do
        EvalLimits.measure Lim.off (sizeofV c sd)
        let v ← EvalLimits.foldL fL sd s.1 s.2
        pure (.val v))
      (match Eval.toIter r with
        | none => .error bad
        | some (xs, e) => do
          let so ← ev C seed
          let sd ← Eval.toV so
          let v ← Eval.foldL f sd xs e
          pure (.val v)) := by
  refine withIter_pre_emb c bad r (fun xs e => ?_)
  simp only [bind_assoc]
  refine Emb.bind (hev C seed) (fun so => Emb.bind (toVL_emb so) (fun sd => ?_))
  simp only [id, measure_off, ok_bind]
  exact Emb.bind (foldL_emb hf sd xs e) (fun _ => Emb.pure rfl)

/-! ## methods -/

theorem callMethodL_emb (c : ECfg) {evL : EvL} {ev : Ev} (hev : EmbEv evL ev) (C : Ctx) (bad : Err) (r : Obj) (f : Fn)
    (args : List Expr) : Emb emb (callMethodL c Lim.off evL C bad (emb r) f args) (Eval.callMethod ev C bad r f args) := by
  cases f with
  | let_ | with_ | def_ | list | dict => rfl
  | select =>
    match args with
    | [l] => exact withIter_emb c bad r (mapL_emb fun x => lamVL_emb hev _ _ _) fun _ => rfl
    | [] | _ :: _ :: _ => rfl
  | where_ =>
    match args with
    | [l] => exact withIter_emb c bad r (filterL_emb fun x => lamBL_emb hev _ _ _) fun _ => rfl
    | [] | _ :: _ :: _ => rfl
  | selectMany =>
    match args with
    | [l] => exact withIter_emb c bad r (flatMapL_emb fun x => lamManyL_emb hev _ _ _) fun _ => rfl
    | [] | _ :: _ :: _ => rfl
  | takeWhile =>
    match args with
    | [l] => exact withIter_emb c bad r (takeWhileL_emb fun x => lamBL_emb hev _ _ _) fun _ => rfl
    | [] | _ :: _ :: _ => rfl
  | skipWhile =>
    match args with
    | [l] => exact withIter_emb c bad r (dropWhileL_emb fun x => lamBL_emb hev _ _ _) fun _ => rfl
    | [] | _ :: _ :: _ => rfl
  | orderBy =>
    match args with
    | [l] => exact orderBy_emb c hev C bad r l true
    | [] | _ :: _ :: _ => rfl
  | orderByDescending =>
    match args with
    | [l] => exact orderBy_emb c hev C bad r l false
    | [] | _ :: _ :: _ => rfl
  | any =>
    match args with
    | [] => exact withIter_emb c bad r (findL_emb (fun _ => Emb.ok rfl) 0) fun _ => rfl
    | [l] => exact withIter_emb c bad r (findL_emb (fun x => lamBL_emb hev _ _ _) 0) fun _ => rfl
    | _ :: _ :: _ => rfl
  | all =>
    match args with
    | [] => exact withIter_emb c bad r (findL_emb (fun _ => Emb.ok rfl) 0) fun _ => rfl
    | [l] => exact withIter_emb c bad r (findL_emb (fun x => lamNotBL_emb hev C l [x]) 0) fun _ => rfl
    | _ :: _ :: _ => rfl
  | indexWhere =>
    match args with
    | [l] => exact withIter_emb c bad r (findL_emb (fun x => lamBL_emb hev _ _ _) 0) fun _ => rfl
    | [] | _ :: _ :: _ => rfl
  | toDict =>
    match args with
    | [k] => exact withIter_emb c bad r (toDictL_emb c (fun x => lamVL_emb hev _ _ _) (fun _ => Emb.ok rfl) []) fun _ => rfl
    | [k, v] =>
      exact withIter_emb c bad r (toDictL_emb c (fun x => lamVL_emb hev _ _ _) (fun x => lamVL_emb hev _ _ _) []) fun _ => rfl
    | [] | _ :: _ :: _ :: _ => rfl
  | aggregate =>
    match args with
    | [l] => exact reduce_emb c bad r fun a b => lamVL_emb hev _ _ _
    | [l, seed] => exact reduceSeed_emb c hev C bad r seed fun a b => lamVL_emb hev _ _ _
    | [] | _ :: _ :: _ :: _ => rfl
  | sum =>
    match args with
    | [] => exact reduce_emb c bad r (binCall_off c .add)
    | [init] => exact reduceSeed_emb c hev C bad r init (binCall_off c .add)
    | _ :: _ :: _ => rfl
  | first =>
    match args with
    | [] =>
      -- the reference interpreter matches on the converted receiver with nested patterns here: expose its arms
      -- by computation (unfolding and simplifying the forty-arm matches is slow to check)
      show Emb emb (withIter _ _ _ _ _ _) _
      rw [withIter_off_unit]
      conv => arg 3; whnf
      match Eval.toIter r with
      | none => rfl
      | some ([], none) => rfl
      | some ([], some e) => rfl
      | some (x :: xs, e) => rfl
    | [d] =>
      refine withIter_pre_emb c bad r (fun xs e => ?_)
      refine Emb.bind (hev C d) (fun dobj => ?_)
      simp only [measure_off, ok_bind]
      match xs, e with
      | [], none => rfl
      | [], some e => rfl
      | x :: xs, e => rfl
    | _ :: _ :: _ => rfl
  | toList =>
    match args with
    | [] =>
      show Emb emb (withIter _ _ _ _ _ _) _
      rw [withIter_off_unit]
      conv => arg 3; whnf
      cases Eval.toIter r with
      | none => rfl
      | some s => exact Emb.bind (drain_emb s) (fun _ => Emb.pure rfl)
    | _ :: _ => rfl
  | take =>
    match args with
    | [n] =>
      refine withIter_pre_emb c bad r (fun xs e => ?_)
      simp only [bind_assoc]
      refine Emb.bind (hev C n) (fun no => intArgK_emb bad no (fun k => ?_))
      simp only [measure_off, ok_bind]
      exact ite_emb _ (Emb.err _) (Emb.pure (congrArg _ (apply_ite embT _ none e).symm))
    | [] | _ :: _ :: _ => rfl
  | skip =>
    match args with
    | [n] =>
      refine withIter_pre_emb c bad r (fun xs e => ?_)
      simp only [bind_assoc]
      refine Emb.bind (hev C n) (fun no => intArgK_emb bad no (fun k => ?_))
      simp only [measure_off, ok_bind]
      exact ite_emb _ (Emb.err _) (Emb.pure rfl)
    | [] | _ :: _ :: _ => rfl
  | unpack =>
    refine withIter_pre_emb c bad r (fun xs e => ?_)
    unfold unpackNames
    refine ite_bind_emb (Emb.err _) ?_
    simp only [bind_assoc]
    refine Emb.bind (evalListL_emb hev C args) (fun ns => ite_bind_emb (Emb.err _) ?_)
    simp only [id, pure_bind, measureEach_off, ok_bind]
    exact pending_emb _ e (ite_emb _ (Emb.pure rfl) (ite_emb _ (Emb.err _) (Emb.pure rfl)))
  | len =>
    match args with
    | [] =>
      cases r with
      | val v => cases v <;> rfl
      | lazy xs e => cases e <;> rfl
      | _ => rfl
    | _ :: _ => rfl
  | get =>
    match args with
    | [k] =>
      cases r with
      | val v =>
        cases v with
        | dict d =>
          refine Emb.bind (hev C k) (fun ko => Emb.bind (toVL_emb ko) (fun kv => ?_))
          simp only [id, measure_off, ok_bind]
          exact ite_emb _ (Emb.pure rfl) (Emb.err _)
        | _ => rfl
      | _ => rfl
    | [k, dflt] =>
      cases r with
      | val v =>
        cases v with
        | dict d =>
          refine Emb.bind (hev C k) (fun ko => Emb.bind (toVL_emb ko) (fun kv => ?_))
          refine Emb.bind (hev C dflt) (fun dobj => Emb.bind (toVL_emb dobj) (fun dv => ?_))
          simp only [id, measure_off, ok_bind]
          exact ite_emb _ (Emb.pure rfl) (Emb.err _)
        | _ => rfl
      | _ => rfl
    | [] | _ :: _ :: _ :: _ => rfl

/-! ## functions, nodes, the interpreter -/

theorem fnAsMethod_emb (c : ECfg) {evL : EvL} {ev : Ev} (hev : EmbEv evL ev) (C : Ctx) (b : Bool) (recv : Expr) (f : Fn)
    (rest : List Expr) :
    Emb emb
      (if (!b) = true then .error (.base .noFunction)
        else do let r ← evL C recv; callMethodL c Lim.off evL C .noFunction r f rest)
      (if (!b) = true then .error .noFunction
        else do let r ← ev C recv; Eval.callMethod ev C .noFunction r f rest) := by
  cases b with
  | false => rfl
  | true =>
    simp only [Bool.not_true, Bool.false_eq_true, if_false]
    apply Emb.bind (hev C _); intro r
    exact callMethodL_emb c hev C _ r _ _

theorem dictItems_eq (xs : VL) :
    xs.mapM (fun it => match it with
      | .tuple (k :: v :: _) | .list (k :: v :: _) => (.ok (k, v) : R (Value × Value))
      | .tuple _ | .list _ => .error .stopIteration
      | _ => .error .outOfDomain) = xs.mapM pairOfE := rfl

theorem callFnL_emb (c : ECfg) {evL : EvL} {ev : Ev} (hev : EmbEv evL ev) (C : Ctx) (f : Fn) (args : List Expr)
    (kw : List (Expr × Expr)) : Emb emb (callFnL c Lim.off evL C f args kw) (Eval.callFn ev C f args kw) := by
  cases f with
  | let_ =>
    apply Emb.bind (Emb.liftR _); intro names
    apply Emb.bind (evalListL_emb hev C _); intro vs
    apply Emb.bind (evalListL_emb hev C _); intro kvs
    simp only [id, measureEach_off, ok_bind]
    exact Emb.pure rfl
  | with_ =>
    refine ite_emb _ ?_ ?_
    · exact Emb.bind (Emb.liftR _) (fun _ => Emb.err _)
    · apply Emb.bind (evalListL_emb hev C _); intro vs
      simp only [id, measureEach_off, ok_bind]
      exact Emb.pure rfl
  | def_ =>
    refine ite_emb _ (Emb.err _) ?_
    match args with
    | [] => rfl
    | [_] => rfl
    | [nameE, body] =>
      apply Emb.bind (hev C _); intro no
      have other : Emb emb (if isLazyL (emb no) = true then .error (.base .outOfDomain) else .error (.base .noFunction))
          (if Eval.isLazy no = true then .error .outOfDomain else .error .noFunction) := by
        rw [isLazyL_emb]
        exact ite_emb _ (Emb.err _) (Emb.err _)
      cases no with
      | val v =>
        cases v with
        | str name => simp only [emb, measure_off, ok_bind]; rfl
        | _ => exact other
      | _ => exact other
    | _ :: _ :: _ :: _ => rfl
  | list =>
    refine ite_emb _ (Emb.err _) ?_
    apply Emb.bind (evalObjsL_emb hev C _); intro os
    simp only [measureEach_off, measure_off, ok_bind, limitLazy_off]
    exact Emb.bind (listFn_emb os) (fun parts => Emb.pure rfl)
  | dict =>
    match args, kw with
    | [], kw =>
      apply Emb.bind (evalPairsL_emb hev C _); intro ps
      simp only [id, measureAll_off, ok_bind]
      exact mkDictL_emb ps
    | [e], [] =>
      apply Emb.bind (hev C _); intro o
      rw [toIterL_emb]
      cases h : Eval.toIter o with
      | none => rfl
      | some s =>
        obtain ⟨xs, e⟩ := s
        simp only [Option.map_some, bindIter_off c o h, ok_bind]
        cases e with
        | some er => rfl
        | none =>
          show Emb emb (do let ps ← dictItemsL c Lim.off [] xs; mkDictL ps)
            (do let ps ← xs.mapM pairOfE; Eval.mkDict ps)
          exact Emb.bind (dictItemsL_off c xs []) (fun ps => mkDictL_emb ps)
    | [_], _ :: _ => rfl
    | _ :: _ :: _, _ => rfl
  | len | any | all =>
    refine ite_emb _ (Emb.err _) ?_
    match args with
    | [] => rfl
    | recv :: rest => exact fnAsMethod_emb c hev C _ recv _ rest
  | _ => rfl

theorem readVarL_emb (C : Ctx) (x : Name) : Emb emb (readVarL C x) (Eval.readVar C x) := by
  unfold readVarL Eval.readVar
  cases C.get x with
  | none => rfl
  | some v =>
    dsimp only
    split <;> rfl

theorem rawL_emb (c : ECfg) {evL : EvL} {ev : Ev} (hev : EmbEv evL ev) (C : Ctx) (e : Expr) :
    Emb emb (rawL c Lim.off evL C e) (Eval.step ev C e) := by
  cases e with
  | lit v => rfl
  | kw s => rfl
  | var x => exact readVarL_emb C x
  | list es =>
    apply Emb.bind (evalListL_emb hev C es); intro vs
    simp only [id, measureEach_off, measureAll_off, ok_bind]
    exact Emb.pure rfl
  | map kvs =>
    apply Emb.bind (evalPairsL_emb hev C kvs); intro ps
    simp only [id, measureAll_off, ok_bind]
    exact mkDictL_emb ps
  | index e args =>
    refine ite_emb _ ?_ (Emb.err _)
    apply Emb.bind (hev C e); intro r
    apply Emb.bind (evalListL_emb hev C args); intro vs
    exact indexerL_emb c r vs
  | un op e =>
    apply Emb.bind (hev C e); intro r
    exact unopL_emb c op r
  | bin op a b =>
    cases op with
    | and =>
      apply Emb.bind (hev C a); intro x
      rw [truthyObjL_emb]
      exact ite_emb _ (hev C b) (Emb.pure rfl)
    | or =>
      apply Emb.bind (hev C a); intro x
      rw [truthyObjL_emb]
      exact ite_emb _ (Emb.pure rfl) (hev C b)
    | _ =>
      refine ite_emb _ ?_ (Emb.err _)
      apply Emb.bind (hev C a); intro x
      apply Emb.bind (hev C b); intro y
      exact binopL_emb c _ x y
  | arrow l r =>
    apply Emb.bind (hev C l); intro cx
    cases cx with
    | ctx C' =>
      simp only [emb, measure_off, ok_bind]
      exact hev C' r
    | _ => rfl
  | member e name =>
    apply Emb.bind (hev C e); intro r
    exact memberOfL_emb c r name
  | call f args kw => exact callFnL_emb c hev C f args kw
  | ucall f args kw =>
    unfold rawL Eval.step
    dsimp only
    cases C.getFun (Eval.fnKey f) with
    | none => rfl
    | some p =>
      obtain ⟨body, D⟩ := p
      apply Emb.bind (Emb.liftR _); intro names
      apply Emb.bind (evalListL_emb hev C _); intro vs
      apply Emb.bind (evalListL_emb hev C _); intro kvs
      simp only [id, measureEach_off, ok_bind]
      exact hev _ _
  | method e f args kw =>
    apply Emb.bind (hev C e); intro r
    refine ite_emb _ (Emb.err _) ?_
    simp only [measure_off, ok_bind]
    exact callMethodL_emb c hev C _ r f args
  | umethod e f =>
    apply Emb.bind (hev C e); intro r
    simp only [measure_off, ok_bind]
    rfl

theorem stepL_off (c : ECfg) (evL : EvL) (C : Ctx) (e : Expr) : stepL c Lim.off evL C e = rawL c Lim.off evL C e := by
  unfold stepL
  split
  · rfl
  · cases rawL c Lim.off evL C e with
    | ok o => simp only [ok_bind, measure_off]; rfl
    | error er => rfl

/-- **without limits the instrumented interpreter is the reference interpreter** -/
theorem evalL_off (c : ECfg) : ∀ (n : Nat), EmbEv (evalL c Lim.off n) (Eval.eval n)
  | 0 => fun _ _ => rfl
  | n + 1 => fun C e => by
    show Emb emb (stepL c Lim.off (evalL c Lim.off n) C e) (Eval.step (Eval.eval n) C e)
    rw [stepL_off]
    exact rawL_emb c (evalL_off c n) C e

/-! ## the finaliser without limits -/

mutual
theorem walkV_off (c : ECfg) : ∀ v : Value, walkV c Lim.off v = .ok ()
  | .tuple l => by unfold walkV; simp only [measure_off, limitLen_off, ok_bind]; exact walkL_off c l
  | .list l => by unfold walkV; simp only [measure_off, limitLen_off, ok_bind]; exact walkL_off c l
  | .set l => by unfold walkV; simp only [measure_off, limitLen_off, ok_bind]; exact walkL_off c l
  | .iter l => by unfold walkV; simp only [measure_off, ok_bind]; exact walkL_off c l
  | .dict kvs => by unfold walkV; simp only [limitLen_off, ok_bind]; exact walkP_off c kvs
  | .null | .bool _ | .int _ | .flt _ | .str _ | .host _ => rfl
theorem walkL_off (c : ECfg) : ∀ xs : VL, walkL c Lim.off none xs = .ok ()
  | [] => rfl
  | x :: xs => by
    rw [walkL_cons c Lim.off none (by intro h; cases h), walkV_off c x]
    exact walkL_off c xs
theorem walkP_off (c : ECfg) : ∀ kvs : List (Value × Value), walkP c Lim.off kvs = .ok ()
  | [] => rfl
  | (k, v) :: r => by
    unfold walkP
    rw [walkV_off c k, walkV_off c v]
    exact walkP_off c r
end

theorem finVal_off (c : ECfg) (v : Value) :
    Emb id (finVal c Lim.off v) (if Seq.finOk v = true then .ok (Final.data v) else .error .type) := by
  unfold finVal
  simp only [measure_off, walkV_off, afterWalk, ok_bind]
  split <;> rfl

theorem finaliseL_off (c : ECfg) (o : Obj) : Emb id (finaliseL c Lim.off (emb o)) (Eval.finalise o) := by
  have iter : ∀ s : VL × Option Err, Eval.toIter o = some s →
      Emb id (do EvalLimits.measure Lim.off (objSz c (emb o)); let s ← bindIter c Lim.off (emb o); finIter c Lim.off s)
        (do let xs ← Eval.drain s; if Seq.finOkL xs then pure (Final.data (.list xs)) else .error .type) := by
    intro s h
    obtain ⟨xs, e⟩ := s
    rw [measure_off, bindIter_off c o h]
    simp only [ok_bind]
    cases e with
    | some er => rfl
    | none =>
      show Emb id (finIter c Lim.off (xs, none)) _
      unfold finIter
      simp only [walkL_off, afterWalk, measure_off, ok_bind]
      exact ite_emb _ (Emb.pure rfl) (Emb.err _)
  cases o with
  | ctx cx => show Emb id (do EvalLimits.measure Lim.off _; pure Final.context) _; rw [measure_off]; rfl
  | lazy xs e | ordered xs e => exact iter (xs, e) rfl
  | val v =>
    cases v with
    | tuple l | list l | iter l => exact iter (l, none) rfl
    | _ => exact finVal_off c _

/-- the whole run: `runL` without limits is `Eval.run` -/
theorem runL_off (c : ECfg) (fuel : Nat) (doc : Value) (e : Expr) :
    Emb id (runL c Lim.off fuel doc e) (Eval.run fuel doc e) := by
  unfold runL Eval.run
  apply Emb.bind (evalL_off c fuel _ _); intro o
  exact finaliseL_off c o

end Yaql.Props.C08Eval
