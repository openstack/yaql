import Yaql.Model.Context
/-!
C17 - context trees resolve variables and functions layer by layer.

Spec: a context denotes a list of *layers* (nearest first).  The theorems show
that every read of the code-shaped model (`Yaql.Context`) is the corresponding
read of that layer list, for every shape and every cell table, and that the
two composite constructors build exactly the layer lists the statement gives.
-/
namespace Yaql.Props.C17
open Yaql.Context

/-- one layer of the flattened reference -/
structure Layer where
  data  : Name → Option Val
  funcs : Name → List Fid
  excl  : Name → Bool

def cellLayer (c : Cell) : Layer :=
  { data := fun n => alookup n c.data, funcs := cellFuncs c, excl := fun n => c.excl.contains n }

/-- merge of two layers: data - first wins; functions - union; exclusive - any -/
def Layer.merge (a b : Layer) : Layer :=
  { data := fun n => match a.data n with | some v => some v | none => b.data n,
    funcs := fun n => unionF (a.funcs n) (b.funcs n),
    excl := fun n => a.excl n || b.excl n }

def Layer.empty : Layer := { data := fun _ => none, funcs := fun _ => [], excl := fun _ => false }

def mergeAll : List Layer → Layer
  | [] => Layer.empty
  | l :: ls => l.merge (mergeAll ls)

mutual
/-- the first (own) layer of a context -/
def ownLayer (cs : Cells) : Shape → Layer
  | .plain c _ => cellLayer (cs.get c)
  | .multi ms _ => ownLayerL cs ms
  | .linked t _ => ownLayer cs t
def ownLayerL (cs : Cells) : List Shape → Layer
  | [] => Layer.empty
  | m :: ms => (ownLayer cs m).merge (ownLayerL cs ms)
end

mutual
/-- all layers of a context: its own, then those of its `parent` -/
def layers (cs : Cells) : Shape → List Layer
  | .plain c p => cellLayer (cs.get c) :: layersO cs p
  | .multi ms p => ownLayerL cs ms :: layersO cs p
  | .linked t p => ownLayer cs t :: layersO cs p
def layersO (cs : Cells) : Option Shape → List Layer
  | none => []
  | some s => layers cs s
end

/-- nearest layer that defines `n` -/
def firstDefined (n : Name) : List Layer → Option Val
  | [] => none
  | l :: ls => match l.data n with | some v => some v | none => firstDefined n ls

/-- overloads layer by layer, nearest first, empty layers dropped, stopping
    after a layer that registered the name exclusively -/
def collectSpec (n : Name) : List Layer → List (List Fid)
  | [] => []
  | l :: ls =>
      let rest := if l.excl n then [] else collectSpec n ls
      if (l.funcs n).isEmpty then rest else l.funcs n :: rest

/-! ## reads refine the layer list -/

mutual
theorem getLocal_own (cs : Cells) (n : Name) : ∀ s, getLocal cs n s = (ownLayer cs s).data n
  | .plain c p => by simp [getLocal, ownLayer, cellLayer]
  | .multi ms p => by simp [getLocal, ownLayer, getLocalL_own cs n ms]
  | .linked t p => by simp [getLocal, ownLayer, getLocal_own cs n t]
theorem getLocalL_own (cs : Cells) (n : Name) :
    ∀ ms, getLocalL cs n ms = (ownLayerL cs ms).data n
  | [] => by simp [getLocalL, ownLayerL, Layer.empty]
  | m :: ms => by
      simp only [getLocalL, ownLayerL, Layer.merge, getLocal_own cs n m, getLocalL_own cs n ms]
      cases (ownLayer cs m).data n <;> rfl
end

mutual
theorem walk_refines (cs : Cells) (n : Name) :
    ∀ s, walk cs n s = firstDefined n (layers cs s)
  | .plain c p => by
      simp only [walk, layers, firstDefined, cellLayer, walkParents_refines cs n p]
      cases alookup n (cs.get c).data <;> rfl
  | .multi ms p => by
      simp only [walk, layers, firstDefined, getLocalL_own, walkParents_refines cs n p]
      cases (ownLayerL cs ms).data n <;> rfl
  | .linked t p => by
      simp only [walk, layers, firstDefined, getLocal_own, walkParents_refines cs n p]
      cases (ownLayer cs t).data n <;> rfl
theorem walkParents_refines (cs : Cells) (n : Name) :
    ∀ o, walkParents cs n o = firstDefined n (layersO cs o)
  | none => by simp [walkParents, layersO, firstDefined]
  | some s => by simp [walkParents, layersO, walk_refines cs n s]
end

/-- reading a variable returns the value from the nearest layer that defines
    it, null if none -/
theorem get_data_refines (cs : Cells) (s : Shape) (name : Name) :
    getData cs s name = (firstDefined (normName name) (layers cs s)).getD none := by
  simp [getData, walkParents, walk_refines]

mutual
theorem contains_own' (cs : Cells) (n : Name) :
    ∀ s, contains cs n s = ((ownLayer cs s).data n).isSome
  | .plain c p => by simp [contains, ownLayer, cellLayer]
  | .multi ms p => by simp [contains, ownLayer, containsL_own' cs n ms]
  | .linked t p => by simp [contains, ownLayer, contains_own' cs n t]
theorem containsL_own' (cs : Cells) (n : Name) :
    ∀ ms, containsL cs n ms = ((ownLayerL cs ms).data n).isSome
  | [] => by simp [containsL, ownLayerL, Layer.empty]
  | m :: ms => by
      simp only [containsL, ownLayerL, Layer.merge, contains_own' cs n m, containsL_own' cs n ms]
      cases (ownLayer cs m).data n <;> simp
end

/-- membership reflects only the context's own (first) layer -/
theorem contains_own (cs : Cells) (s : Shape) (name : Name) :
    containsName cs s name = ((ownLayer cs s).data (normName name)).isSome := by
  simp [containsName, contains_own']

theorem alookup_isSome_iff {α} (k : Name) : ∀ (l : List (Name × α)),
    (alookup k l).isSome ↔ k ∈ l.map (·.1)
  | [] => by simp [alookup]
  | (k', v) :: r => by
      simp only [alookup, List.map_cons, List.mem_cons, ← alookup_isSome_iff k r]
      by_cases h : k' = k
      · simp [h]
      · simp [h, Ne.symm h]

theorem mem_dedupAppend (k : Name) : ∀ (ks acc : List Name),
    k ∈ dedupAppend acc ks ↔ k ∈ acc ∨ k ∈ ks
  | [], acc => by simp [dedupAppend]
  | x :: ks, acc => by
      simp only [dedupAppend]
      split
      · rename_i h
        rw [mem_dedupAppend k ks acc]
        have hx : x ∈ acc := by simpa using h
        constructor
        · rintro (h | h) <;> simp [h]
        · rintro (h | h)
          · exact Or.inl h
          · rcases List.mem_cons.mp h with rfl | h
            · exact Or.inl hx
            · exact Or.inr h
      · rw [mem_dedupAppend k ks (acc ++ [x])]
        simp [or_assoc]

mutual
theorem mem_keys (cs : Cells) (k : Name) :
    ∀ s, k ∈ keys cs s ↔ ((ownLayer cs s).data k).isSome = true
  | .plain c p => by
      simp only [keys, ownLayer, cellLayer]
      exact (alookup_isSome_iff k _).symm
  | .multi ms p => by
      simp only [keys, ownLayer]
      rw [mem_keysL cs k ms []]; simp
  | .linked t p => by simp only [keys, ownLayer]; exact mem_keys cs k t
theorem mem_keysL (cs : Cells) (k : Name) :
    ∀ ms acc, k ∈ keysL cs acc ms ↔ (k ∈ acc ∨ ((ownLayerL cs ms).data k).isSome = true)
  | [], acc => by simp [keysL, ownLayerL, Layer.empty]
  | m :: ms, acc => by
      simp only [keysL, ownLayerL, Layer.merge]
      rw [mem_keysL cs k ms, mem_dedupAppend, mem_keys cs k m]
      cases (ownLayer cs m).data k <;> simp
end

/-- key listing reflects only the context's own (first) layer -/
theorem keys_own (cs : Cells) (s : Shape) (k : Name) :
    k ∈ keys cs s ↔ ((ownLayer cs s).data k).isSome = true := mem_keys cs k s

mutual
theorem getFunctions_own (cs : Cells) (n : Name) :
    ∀ s, getFunctions cs n s = ((ownLayer cs s).funcs n, (ownLayer cs s).excl n)
  | .plain c p => by simp [getFunctions, ownLayer, cellLayer]
  | .multi ms p => by simp [getFunctions, ownLayer, getFunctionsL_own cs n ms]
  | .linked t p => by simp [getFunctions, ownLayer, getFunctions_own cs n t]
theorem getFunctionsL_own (cs : Cells) (n : Name) :
    ∀ ms, getFunctionsL cs n ms = ((ownLayerL cs ms).funcs n, (ownLayerL cs ms).excl n)
  | [] => by simp [getFunctionsL, ownLayerL, Layer.empty]
  | m :: ms => by
      simp [getFunctionsL, ownLayerL, Layer.merge, getFunctions_own cs n m,
        getFunctionsL_own cs n ms]
end

mutual
theorem collectAt_refines (cs : Cells) (n : Name) :
    ∀ s, collectAt cs n s = collectSpec n (layers cs s)
  | .plain c p => by
      simp [collectAt, layers, collectSpec, cellLayer, collectFrom_refines cs n p]
  | .multi ms p => by
      simp [collectAt, layers, collectSpec, getFunctionsL_own, collectFrom_refines cs n p]
  | .linked t p => by
      simp [collectAt, layers, collectSpec, getFunctions_own, collectFrom_refines cs n p]
theorem collectFrom_refines (cs : Cells) (n : Name) :
    ∀ o, collectFrom cs n o = collectSpec n (layersO cs o)
  | none => by simp [collectFrom, layersO, collectSpec]
  | some s => by simp [collectFrom, layersO, collectAt_refines cs n s]
end

/-- function collection returns the overloads of each layer from nearest to
    farthest, stopping after a layer that registered the name exclusively -/
theorem collect_refines (cs : Cells) (s : Shape) (name : Name) :
    collectFunctions cs s name = collectSpec (rstripUnderscore name) (layers cs s) := by
  simp [collectFunctions, collectFrom, collectAt_refines]


/-! ## the composite constructors build the layer lists of the statement -/

theorem layers_eq (cs : Cells) (s : Shape) :
    layers cs s = ownLayer cs s :: layersO cs s.parent := by
  cases s <;> simp [layers, ownLayer, Shape.parent]

theorem layersO_some (cs : Cells) (s : Shape) :
    layersO cs (some s) = ownLayer cs s :: layersO cs s.parent := by
  simp [layersO, layers_eq]

theorem size_parent_lt {s p : Shape} (h : s.parent = some p) : p.size < s.size := by
  cases s <;> simp [Shape.parent] at h <;> subst h <;> simp [Shape.size, Shape.sizeO] <;> omega

@[simp] theorem layersO_some' (cs : Cells) (s : Shape) : layersO cs (some s) = layers cs s := by
  simp [layersO]

/-- a linked context is its linked chain followed by its own parent chain -/
theorem linked_layers_aux (cs : Cells) (p : Option Shape) :
    ∀ (fuel : Nat) (t : Shape), t.size ≤ fuel →
      layers cs (mkLinkedF fuel p t) = layers cs t ++ layersO cs p
  | 0, t, h => by cases t <;> simp [Shape.size] at h <;> omega
  | fuel + 1, t, h => by
      unfold mkLinkedF
      cases hp : t.parent with
      | none => simp [layers, layers_eq cs t, hp, layersO]
      | some tp =>
          have hlt := size_parent_lt hp
          have ih := linked_layers_aux cs p fuel tp (by omega)
          simp [layers, layers_eq cs t, hp, ih]

theorem linked_is_concat (cs : Cells) (p : Option Shape) (t : Shape) :
    layers cs (mkLinked p t) = layers cs t ++ layersO cs p :=
  linked_layers_aux cs p _ t (Nat.le_refl _)

/-- layer `d` of the merge of several chains: the merge of the `d`-th layers
    of the chains that are that long -/
def mergeAt (d : Nat) (chains : List (List Layer)) : Option Layer :=
  match chains.filterMap (·[d]?) with
  | [] => none
  | ls => some (mergeAll ls)

theorem merge_empty (l : Layer) : l.merge Layer.empty = l := by
  cases l with
  | mk d f e =>
    simp only [Layer.merge, Layer.empty, unionF, List.foldl_nil, Bool.or_false]
    congr
    funext n
    cases d n <;> rfl

theorem ownLayerL_eq (cs : Cells) : ∀ ms, ownLayerL cs ms = mergeAll (ms.map (ownLayer cs))
  | [] => by simp [ownLayerL, mergeAll]
  | m :: ms => by simp [ownLayerL, mergeAll, ownLayerL_eq cs ms]

theorem mkMultiF_shape (fuel : Nat) (ms : List Shape) :
    ∃ p, mkMultiF fuel ms = .multi ms p := by
  cases fuel with
  | zero => exact ⟨_, rfl⟩
  | succ f =>
      unfold mkMultiF
      split <;> exact ⟨_, rfl⟩

theorem sizeL_parents (ms : List Shape) :
    Shape.sizeL (ms.filterMap Shape.parent) + ms.length ≤ Shape.sizeL ms := by
  induction ms with
  | nil => simp [Shape.sizeL]
  | cons m ms ih =>
      cases hp : m.parent with
      | none =>
          have : 1 ≤ m.size := by cases m <;> simp [Shape.size] <;> omega
          simp only [List.filterMap_cons, hp, Shape.sizeL, List.length_cons]; omega
      | some p =>
          have := size_parent_lt hp
          simp only [List.filterMap_cons, hp, Shape.sizeL, List.length_cons]; omega

theorem heads_layers (cs : Cells) (ms : List Shape) :
    (ms.map (layers cs)).filterMap (·[0]?) = ms.map (ownLayer cs) := by
  induction ms with
  | nil => rfl
  | cons m ms ih => simp [layers_eq, ih]

theorem tails_layers (cs : Cells) (d : Nat) (ms : List Shape) :
    (ms.map (layers cs)).filterMap (·[d + 1]?) =
      ((ms.filterMap Shape.parent).map (layers cs)).filterMap (·[d]?) := by
  induction ms with
  | nil => rfl
  | cons m ms ih =>
      rw [List.map_cons, List.filterMap_cons, ih, layers_eq, List.getElem?_cons_succ]
      cases hp : m.parent with
      | none => simp [layersO, hp]
      | some p =>
          simp only [List.filterMap_cons, hp, List.map_cons]
          rfl

theorem mergeAt_zero (cs : Cells) (ms : List Shape) (hne : ms ≠ []) :
    mergeAt 0 (ms.map (layers cs)) = some (ownLayerL cs ms) := by
  unfold mergeAt
  rw [heads_layers, ownLayerL_eq]
  cases ms with
  | nil => exact absurd rfl hne
  | cons m ms => rfl

theorem mergeAt_succ (cs : Cells) (d : Nat) (ms : List Shape) :
    mergeAt (d + 1) (ms.map (layers cs)) = mergeAt d ((ms.filterMap Shape.parent).map (layers cs)) := by
  unfold mergeAt
  rw [tails_layers]

theorem mergeAt_singleton (d : Nat) (ch : List Layer) : mergeAt d [ch] = ch[d]? := by
  unfold mergeAt
  cases h : ch[d]? <;> simp [h, mergeAll, merge_empty]

/-- Induction on the depth `d`: layer 0 is the merge of the members' own layers; layer `d + 1` of
    `mkMulti ms` is layer `d` of its parent, which `mkMultiF` builds as the multi-context of the members'
    parents (`mergeAt_succ` shifts the members' chains accordingly) - none, the single parent itself, or a
    recursive call that `sizeL_parents` shows the fuel suffices for. -/
theorem multi_layers_aux (cs : Cells) :
    ∀ (d fuel : Nat) (ms : List Shape), ms ≠ [] → Shape.sizeL ms ≤ fuel →
      (layers cs (mkMultiF fuel ms))[d]? = mergeAt d (ms.map (layers cs))
  | 0, fuel, ms, hne, _ => by
      obtain ⟨p, hp⟩ := mkMultiF_shape fuel ms
      rw [hp, mergeAt_zero cs ms hne]
      rfl
  | d + 1, fuel, ms, hne, hf => by
      have hsz := sizeL_parents ms
      have hlen : 0 < ms.length := List.length_pos_iff.mpr hne
      obtain ⟨fuel, rfl⟩ : ∃ k, fuel = k + 1 := ⟨fuel - 1, by omega⟩
      rw [mergeAt_succ]
      unfold mkMultiF
      split
      · rename_i hps; simp [layers, layersO, hps, mergeAt]
      · rename_i p hps; simp [layers, layersO, hps, mergeAt_singleton]
      · rename_i hps _
        simp only [layers, layersO, List.getElem?_cons_succ]
        exact multi_layers_aux cs d fuel _ hps (by omega)

/-- a multi-context behaves as the layer-wise merge of its members -/
theorem multi_is_merge (cs : Cells) (ms : List Shape) (hne : ms ≠ []) (d : Nat) :
    (layers cs (mkMulti ms))[d]? = mergeAt d (ms.map (layers cs)) :=
  multi_layers_aux cs d _ ms hne (Nat.le_refl _)

/-! ## names -/

/-- `$`, `$1`, the empty name and `1` are one variable -/
theorem name_norm (cs : Cells) (s : Shape) :
    getData cs s ['$'] = getData cs s ['$', '1'] ∧ getData cs s [] = getData cs s ['$', '1'] ∧
    getData cs s ['1'] = getData cs s ['$', '1'] :=
  ⟨rfl, rfl, rfl⟩


/-! ## children and writes -/

/-- a fresh child context (its own cell still empty) sees exactly what its parent sees -/
theorem child_sees_parent (cs : Cells) (s : Shape) (fresh : Nat) (name : Name)
    (hfresh : (cs.get fresh).data = []) :
    getData cs (.plain fresh (some s)) name = getData cs s name := by
  simp [getData, walkParents, walk, hfresh, alookup]

theorem get_modify_ne (cs : Cells) (c c' : Nat) (f : Cell → Cell) (h : c' ≠ c) :
    (modifyCell cs c f).get c' = cs.get c' := by
  unfold modifyCell Cells.get
  split
  · simp [List.getD_eq_getElem?_getD, List.getElem?_set_ne (Ne.symm h)]
  · rfl

theorem get_modify_eq (cs : Cells) (c : Nat) (f : Cell → Cell) (h : c < cs.length) :
    (modifyCell cs c f).get c = f (cs.get c) := by
  unfold modifyCell Cells.get
  simp [h, List.getD_eq_getElem?_getD]

theorem get_modify (cs : Cells) (c k : Nat) (f : Cell → Cell) :
    (modifyCell cs c f).get k = if k = c ∧ c < cs.length then f (cs.get k) else cs.get k := by
  by_cases hk : k = c
  · subst hk
    by_cases hl : k < cs.length
    · simp [hl, get_modify_eq cs k f hl]
    · simp [hl, modifyCell]
  · simp [hk, get_modify_ne cs c k f hk]

/-- a write changes only one cell: the first layer's - for a multi-context the
    first member's, for a linked context the target's -/
theorem write_local (cs : Cells) (s : Shape) (name : Name) (v : Val) (c' : Nat)
    (h : writeCell s ≠ some c') : (setData cs s name v).get c' = cs.get c' := by
  unfold setData
  cases hw : writeCell s with
  | none => rfl
  | some c =>
      have : c' ≠ c := by intro e; subst e; exact h hw
      simp [get_modify_ne _ _ _ _ this]

theorem alookup_aset {α} (k : Name) (v : α) (l : List (Name × α)) :
    alookup k (aset k v l) = some v := by
  induction l with
  | nil => simp [aset, alookup]
  | cons p r ih =>
      obtain ⟨k', v'⟩ := p
      by_cases h : (k' == k) = true
      · simp [aset, alookup, h]
      · simp [aset, alookup, h, ih]

theorem alookup_aset_ne {α} (k m : Name) (v : α) (h : m ≠ k) : ∀ (l : List (Name × α)),
    alookup m (aset k v l) = alookup m l
  | [] => by simp [aset, alookup, Ne.symm h]
  | (k', v') :: r => by
      by_cases hk : k' = k
      · subst hk; simp [aset, alookup, Ne.symm h]
      · simp [aset, alookup, hk, alookup_aset_ne k m v h r]

theorem aset_aset {α} (k : Name) (v v' : α) : ∀ (l : List (Name × α)),
    aset k v' (aset k v l) = aset k v' l
  | [] => by simp [aset]
  | (k', x) :: r => by
      by_cases hk : (k' == k) = true
      · simp [aset, hk]
      · simp [aset, hk, aset_aset k v v' r]

theorem getLocal_written (cs : Cells) (n : Name) (v : Val) (c : Nat)
    (hc : alookup n (cs.get c).data = some v) :
    ∀ s, writeCell s = some c → getLocal cs n s = some v
  | .plain c' p, h => by
      simp only [writeCell, Option.some.injEq] at h; subst h; simpa [getLocal] using hc
  | .multi [] p, h => by simp [writeCell] at h
  | .multi (m :: ms) p, h => by
      simp only [writeCell] at h
      simp [getLocal, getLocalL, getLocal_written cs n v c hc m h]
  | .linked t p, h => by
      simp only [writeCell] at h
      simp [getLocal, getLocal_written cs n v c hc t h]

/-- after `ctx[name] = v`, `ctx[name]` is `v` -/
theorem write_then_read (cs : Cells) (s : Shape) (name : Name) (v : Val) (c : Nat)
    (hw : writeCell s = some c) (hc : c < cs.length) :
    getData (setData cs s name v) s name = v := by
  have hcell : alookup (normName name) ((setData cs s name v).get c).data = some v := by
    simp [setData, hw, get_modify_eq _ _ _ hc, alookup_aset]
  have hl := getLocal_written (setData cs s name v) (normName name) v c hcell s hw
  rw [getLocal_own] at hl
  simp [get_data_refines, layers_eq, firstDefined, hl]

/-! ## deletion -/

def eraseCells (n : Name) (l : List Nat) (cs : Cells) : Cells :=
  l.foldl (fun cs c => modifyCell cs c fun cell => { cell with data := aerase n cell.data }) cs

theorem alookup_aerase_self {α} (n : Name) (l : List (Name × α)) : alookup n (aerase n l) = none := by
  induction l with
  | nil => simp [aerase, alookup]
  | cons p r ih =>
      obtain ⟨k, v⟩ := p
      by_cases h : (k == n) = true
      · simpa [aerase, h] using ih
      · simp only [aerase] at ih
        simp [aerase, h, alookup, ih]

theorem alookup_aerase_ne {α} (n m : Name) (h : m ≠ n) (l : List (Name × α)) :
    alookup m (aerase n l) = alookup m l := by
  induction l with
  | nil => simp [aerase, alookup]
  | cons p r ih =>
      obtain ⟨k, v⟩ := p
      simp only [aerase] at ih
      by_cases hk : k = n
      · subst hk; simp [aerase, alookup, Ne.symm h, ih]
      · simp [aerase, hk, alookup, ih]

theorem lookup_eraseOne (n m : Name) (cs : Cells) (c c' : Nat) :
    alookup m ((modifyCell cs c fun cell => { cell with data := aerase n cell.data }).get c').data =
      if c' = c ∧ m = n then none else alookup m (cs.get c').data := by
  rw [get_modify]
  by_cases hcc : c' = c
  · subst hcc
    by_cases hlen : c' < cs.length
    · by_cases hm : m = n
      · subst hm; simp [hlen, alookup_aerase_self]
      · simp [hlen, hm, alookup_aerase_ne n m hm]
    · have h2 : cs.get c' = {} := by
        simp [Cells.get, List.getD_eq_getElem?_getD, List.getElem?_eq_none (Nat.le_of_not_lt hlen)]
      simp [hlen, h2, alookup]
  · simp [hcc]

theorem lookup_eraseCells (n m : Name) (c' : Nat) : ∀ (l : List Nat) (cs : Cells),
    alookup m ((eraseCells n l cs).get c').data =
      if c' ∈ l ∧ m = n then none else alookup m (cs.get c').data
  | [], cs => by simp [eraseCells]
  | c :: l, cs => by
      have ih := lookup_eraseCells n m c' l
        (modifyCell cs c fun cell => { cell with data := aerase n cell.data })
      simp only [eraseCells, List.foldl_cons] at ih ⊢
      rw [ih, lookup_eraseOne]
      by_cases h1 : c' = c <;> by_cases h2 : c' ∈ l <;> by_cases h3 : m = n <;> simp [h1, h2, h3]

mutual
theorem contains_iff (cs : Cells) (n : Name) :
    ∀ s, contains cs n s = true ↔ ∃ c ∈ delCells s, (alookup n (cs.get c).data).isSome = true
  | .plain c p => by simp [contains, delCells]
  | .multi ms p => by simp only [contains, delCells]; exact containsL_iff cs n ms
  | .linked t p => by simp only [contains, delCells]; exact contains_iff cs n t
theorem containsL_iff (cs : Cells) (n : Name) :
    ∀ ms, containsL cs n ms = true ↔ ∃ c ∈ delCellsL ms, (alookup n (cs.get c).data).isSome = true
  | [] => by simp [containsL, delCellsL]
  | m :: ms => by
      simp only [containsL, delCellsL, Bool.or_eq_true, contains_iff cs n m, containsL_iff cs n ms,
        List.mem_append]
      constructor
      · rintro (⟨c, hc, h⟩ | ⟨c, hc, h⟩)
        · exact ⟨c, Or.inl hc, h⟩
        · exact ⟨c, Or.inr hc, h⟩
      · rintro ⟨c, hc | hc, h⟩
        · exact Or.inl ⟨c, hc, h⟩
        · exact Or.inr ⟨c, hc, h⟩
end

theorem delData_eq {cs cs' : Cells} {s : Shape} {name : Name} (h : delData cs s name = some cs') :
    cs' = eraseCells (normName name) (delCells s) cs := by
  simp only [delData] at h
  split at h
  · exact (Option.some.inj h).symm
  · cases h

/-- deleting a variable from a context (plain, multi or linked) whose own
    layer defines it succeeds and removes it from that (merged) layer -/
theorem delete_multi (cs : Cells) (s : Shape) (name : Name)
    (h : containsName cs s name = true) :
    ∃ cs', delData cs s name = some cs' ∧ containsName cs' s name = false := by
  unfold containsName at h
  refine ⟨eraseCells (normName name) (delCells s) cs, ?_, ?_⟩
  · simp [delData, h, eraseCells]
  · unfold containsName
    cases hc : contains (eraseCells (normName name) (delCells s) cs) (normName name) s with
    | false => rfl
    | true =>
        obtain ⟨c, hmem, hsome⟩ := (contains_iff _ _ s).mp hc
        rw [lookup_eraseCells] at hsome
        simp [hmem] at hsome

/-- deleting a variable the own layer does not define is a `KeyError` -/
theorem delete_absent (cs : Cells) (s : Shape) (name : Name)
    (h : containsName cs s name = false) : delData cs s name = none := by
  unfold containsName at h
  simp [delData, h]

/-- deletion leaves every other variable of every cell untouched -/
theorem delete_frame (cs cs' : Cells) (s : Shape) (name m : Name) (c : Nat)
    (h : delData cs s name = some cs') (hm : m ≠ normName name) :
    alookup m (cs'.get c).data = alookup m (cs.get c).data := by
  rw [delData_eq h, lookup_eraseCells]
  simp [hm]

/-! ## non-vacuity: concrete instances of the hypotheses -/

/-- two plain contexts with different parents, for a multi-context (`exM`) and a linked one over them -/
def exCells : Cells :=
  [ { data := [(['$', 'x'], some 1)] }, { data := [(['$', 'y'], some 2)] },
    { data := [(['$', 'x'], some 3), (['$', 'z'], some 4)], funcs := [(['f'], 7)], excl := [['f']] },
    { funcs := [(['f'], 8)] } ]
def exA : Shape := .plain 0 (some (.plain 2 none))
def exB : Shape := .plain 1 (some (.plain 3 none))
def exM : Shape := mkMulti [exA, exB]

example : getData exCells exM ['x'] = some 1 ∧ getData exCells exM ['z'] = some 4 ∧
    containsName exCells exM ['y'] = true ∧ containsName exCells exM ['z'] = false ∧
    collectFunctions exCells exM ['f'] = [[7, 8]] ∧
    writeCell exM = some 0 ∧ 0 < exCells.length := by decide +kernel

example : (layers exCells (mkLinked (some exB) exA)).length = 4 := by decide +kernel

end Yaql.Props.C17
