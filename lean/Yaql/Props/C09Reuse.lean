import Yaql.Model.GroupAgg
/-!
# C09 - a prepared context can be reused: state hidden in a registered function

The context-level theorems (`Props/C09Ctx.lean`: `reeval_pool`) speak about the variables and function sets of
the host's chain.  The one stateful object of the standard library, `groupBy`'s `GroupAggregator`, is modelled
in `Model/GroupAgg.lean` with the two lifetimes its state can have.
-/
namespace Yaql.Props.C09
open Yaql Yaql.GroupAgg

/-- **per call** (the code): in a pool of `groupBy` statements evaluated in any order, any number of times,
    against one prepared context, every evaluation returns what the statement returns alone - by
    construction, the aggregator object does not outlive the call -/
theorem perCall_pool_independent (allow : Bool) (pool : List Stmt) (i : Nat) (h : i < pool.length) :
    (poolPerCall allow pool)[i]'(by simpa [poolPerCall] using h) = evalPerCall allow pool[i] := by
  simp [poolPerCall]

/-- ... and re-evaluating gives the same result again, whatever ran before and in between -/
theorem perCall_reeval (allow : Bool) (s : Stmt) (pre mid : List Stmt) :
    poolPerCall allow (pre ++ [s] ++ mid ++ [s]) =
      poolPerCall allow pre ++ [evalPerCall allow s] ++ poolPerCall allow mid ++ [evalPerCall allow s] := by
  simp [poolPerCall]

/-- an aggregator in the current syntax that works on every list of values -/
def NewStyle (agg : Agg) : Prop := ∀ vs, ∃ r, agg (.list vs) = .ok r

/-- as long as no new-style attempt has failed, a new-style aggregator's results do not depend on the flag -/
theorem run_newStyle (agg : Agg) (h : NewStyle agg) : ∀ (groups : List (Value × List Value)) (st : St),
    st.failure = none →
    (run agg st groups).1 = (run agg (St.fresh true) groups).1 ∧ (run agg st groups).2.failure = none
  | [], st, hf => ⟨rfl, hf⟩
  | (k, vs) :: rest, st, hf => by
    obtain ⟨r, hr⟩ := h vs
    have hc : ∀ s : St, s.failure = none →
        call agg s k vs = (.ok (.tuple [k, r]), if looksOld vs r then s else { s with allowFallback := false }) := by
      intro s hs
      simp [call, hs, hr]
    have h1 := hc st hf
    have h2 := hc (St.fresh true) rfl
    have hf1 : (if looksOld vs r then st else { st with allowFallback := false }).failure = none := by
      split <;> simp [hf]
    have hf2 : (if looksOld vs r then St.fresh true else { St.fresh true with allowFallback := false }).failure = none := by
      split <;> rfl
    have ih1 := run_newStyle agg h rest _ hf1
    have ih2 := run_newStyle agg h rest _ hf2
    simp only [run, h1, h2]
    generalize run agg (if looksOld vs r then st else { st with allowFallback := false }) rest = p1 at ih1 ⊢
    generalize run agg (if looksOld vs r then St.fresh true else { St.fresh true with allowFallback := false }) rest
      = p2 at ih1 ih2 ⊢
    obtain ⟨a1, s1⟩ := p1
    obtain ⟨a2, s2⟩ := p2
    have e : a1 = a2 := ih1.1.trans ih2.1.symm
    subst e
    cases a1 <;> exact ⟨rfl, ih1.2⟩

/-- **why a shared aggregator object goes unnoticed**: a pool of statements that all use the current syntax
    successfully (what every test of the library does within one context) gives, with ONE aggregator object
    shared by all evaluations, exactly the per-call results -/
theorem shared_harmless_newStyle : ∀ (pool : List Stmt) (st : St), st.failure = none →
    (∀ s ∈ pool, NewStyle s.agg) → poolShared st pool = poolPerCall true pool
  | [], _, _, _ => rfl
  | s :: rest, st, hf, hp => by
    have h := run_newStyle s.agg (hp s (by simp)) s.groups st hf
    simp only [poolShared, poolPerCall, List.map_cons, evalPerCall]
    rw [h.1]
    congr 1
    exact shared_harmless_newStyle rest _ h.2 (fun t ht => hp t (by simp [ht]))

/-- the aggregator `$.sum()`-like: works on a list of values, does not match a `[key, values]` pair -/
def aggNew : Agg
  | .list vs => .ok (.int vs.length)
  | _ => .error (.resolution 1)

/-- the aggregator `[$[0], $[1].sum()]`-like (1.1.1 syntax): works on the pair, raises on a bare list of values -/
def aggOld : Agg
  | .tuple [k, .list vs] => .ok (.tuple [k, .int vs.length])
  | _ => .error (.resolution 2)

def dataAB : List (Value × List Value) := [(.str ['a'], [.int 1, .int 2]), (.str ['b'], [.int 3])]

/-- **one aggregator object per registered function breaks the reuse of a prepared context**: after a
    statement in the current syntax has succeeded, a statement in the 1.1.1 syntax - fine on its own, fine per
    call - raises; and after a 1.1.1 statement, the new-style one raises the stale exception of the EARLIER
    evaluation.  Per call both pools return what the statements return alone. -/
theorem shared_breaks_reuse :
    evalPerCall true ⟨aggOld, dataAB⟩ = .ok [.tuple [.str ['a'], .int 2], .tuple [.str ['b'], .int 1]] ∧
    evalPerCall true ⟨aggNew, dataAB⟩ = .ok [.tuple [.str ['a'], .int 2], .tuple [.str ['b'], .int 1]] ∧
    poolShared (St.fresh true) [⟨aggNew, dataAB⟩, ⟨aggOld, dataAB⟩] =
      [.ok [.tuple [.str ['a'], .int 2], .tuple [.str ['b'], .int 1]], .error (.resolution 2)] ∧
    poolShared (St.fresh true) [⟨aggOld, dataAB⟩, ⟨aggNew, dataAB⟩, ⟨aggNew, dataAB⟩] =
      [.ok [.tuple [.str ['a'], .int 2], .tuple [.str ['b'], .int 1]], .error (.resolution 2), .error (.resolution 2)] ∧
    poolPerCall true [⟨aggNew, dataAB⟩, ⟨aggOld, dataAB⟩, ⟨aggNew, dataAB⟩] =
      [evalPerCall true ⟨aggNew, dataAB⟩, evalPerCall true ⟨aggOld, dataAB⟩, evalPerCall true ⟨aggNew, dataAB⟩] := by
  refine ⟨rfl, rfl, rfl, rfl, rfl⟩

end Yaql.Props.C09
