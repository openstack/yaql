import Yaql.Model.Parse
import Yaql.Props.C03Lex
import Yaql.Props.C03Parse
/-!
C03 - parsing is total: a statement or a YAQL parsing error, nothing else.

`parseText` is a total function by construction (structural recursion over the text, then over the
token list; no fuel): termination for every input is part of its being a Lean definition.  The
theorems say what its value can be and where a reported position can lie, for EVERY character
classification (`CharCfg`), every operator table and every text.
-/
namespace Yaql.Props.C03
open Yaql.Lexer Yaql.Syntax Yaql.Parse Yaql.Props.C03Lex Yaql.Props.C03Parse

/-! ### `lexPrefix` is `lexAll` that remembers the tokens before the error -/

theorem lexGo_eq_prefix (cfg : LexCfg) : ∀ (l : List Char) (k : Nat) (pw : Bool) (pos : Nat),
    lexGo cfg k pw l pos =
      match lexPrefixGo cfg k pw l pos with
      | (ts, none) => .ok ts
      | (_, some e) => .error e
  | [], _, _, _ => by simp [lexGo, lexPrefixGo]
  | c :: r, k + 1, pw, pos => by
      simp only [lexGo, lexPrefixGo]
      exact lexGo_eq_prefix cfg r k _ _
  | c :: r, 0, pw, pos => by
      simp only [lexGo, lexPrefixGo]
      split
      · exact lexGo_eq_prefix cfg r 0 _ _
      · cases ruleAt cfg pw (c :: r) pos with
        | err e => rfl
        | tok t len =>
            simp only [lexGo_eq_prefix cfg r (len - 1)]
            rcases lexPrefixGo cfg (len - 1) (cfg.chars.isWord c) r (pos + 1) with ⟨ts, _ | e⟩ <;> rfl

theorem lexPrefixGo_ok (cfg : LexCfg) (l : List Char) (k : Nat) (pw : Bool) (pos : Nat) (ts : List Token) :
    lexGo cfg k pw l pos = .ok ts ↔ lexPrefixGo cfg k pw l pos = (ts, none) := by
  rw [lexGo_eq_prefix]
  rcases lexPrefixGo cfg k pw l pos with ⟨a, _ | e⟩ <;> simp

theorem lexPrefixGo_err (cfg : LexCfg) (l : List Char) (k : Nat) (pw : Bool) (pos : Nat) (e : LexErr)
    (h : (lexPrefixGo cfg k pw l pos).2 = some e) : lexGo cfg k pw l pos = .error e := by
  rw [lexGo_eq_prefix]
  generalize lexPrefixGo cfg k pw l pos = x at h
  rcases x with ⟨a, _ | e'⟩ <;> simp_all

theorem lexPrefix_ok (cfg : LexCfg) (text : List Char) (ts : List Token) :
    lexAll cfg text = .ok ts ↔ lexPrefix cfg text = (ts, none) :=
  lexPrefixGo_ok cfg text 0 false 0 ts

theorem lexPrefixGo_origin (cfg : LexCfg) (l : List Char) (k : Nat) (pw : Bool) (pos : Nat) (t : Token)
    (ht : t ∈ (lexPrefixGo cfg k pw l pos).1) :
    ∃ i pw' len, i < l.length ∧ ruleAt cfg pw' (l.drop i) (pos + i) = .tok t len := by
  have next : ∀ {c : Char} {r : List Char} {pos : Nat},
      (∃ i pw' len, i < r.length ∧ ruleAt cfg pw' (r.drop i) (pos + 1 + i) = .tok t len) →
      ∃ i pw' len, i < (c :: r).length ∧ ruleAt cfg pw' ((c :: r).drop i) (pos + i) = .tok t len :=
    fun ⟨i, p, len, hi, h⟩ => ⟨i + 1, p, len, Nat.succ_lt_succ hi, by rw [← h, Nat.add_right_comm]; rfl⟩
  fun_induction lexPrefixGo cfg k pw l pos with
  | case1 => simp at ht
  | case2 _ _ _ _ _ ih => exact next (ih ht)
  | case3 _ _ _ _ _ ih => exact next (ih ht)
  | case4 pw c r pos _ t' len hr ih =>
      rcases List.mem_cons.mp ht with rfl | ht
      · exact ⟨0, pw, len, by simp, hr⟩
      · exact next (ih ht)
  | case5 => simp at ht

theorem lexPrefixGo_tokens_inside (cfg : LexCfg) (l : List Char) (k : Nat) (pw : Bool) (pos : Nat) (t : Token)
    (h : t ∈ (lexPrefixGo cfg k pw l pos).1) : pos ≤ t.pos ∧ t.pos < pos + l.length := by
  obtain ⟨i, pw', len, hi, hr⟩ := lexPrefixGo_origin cfg l k pw pos t h
  rw [List.drop_eq_getElem_cons hi] at hr
  have hp := ruleAt_spec cfg pw' l[i] (l.drop (i + 1)) (pos + i)
  rw [hr] at hp
  have := hp.1
  omega

theorem lexPrefix_tokens_inside (cfg : LexCfg) (text : List Char) (t : Token)
    (h : t ∈ (lexPrefix cfg text).1) : t.pos < text.length := by
  have := lexPrefixGo_tokens_inside cfg text 0 false 0 t h
  omega

/-- the five ways `parseText` comes to its outcome: the automaton rejects a token; the lexer stops (two kinds)
    after the automaton took all tokens before; the text ends and `finish` accepts or rejects -/
theorem parseText_cases (lc : LexCfg) (pc : Cfg) (text : List Char) :
    (∃ p, run pc {} (lexPrefix lc text).1 = .error (.grammar p) ∧ parseText lc pc text = .grammar p) ∨
    (∃ v p, (lexPrefix lc text).2 = some (.lexical v p) ∧ parseText lc pc text = .lexical v p) ∨
    (∃ p, (lexPrefix lc text).2 = some (.surrogate p) ∧ parseText lc pc text = .surrogate p) ∨
    (∃ st t, run pc {} (lexPrefix lc text).1 = .ok st ∧ finish pc st = .ok t ∧ parseText lc pc text = .ok t) ∨
    (∃ st p, run pc {} (lexPrefix lc text).1 = .ok st ∧ finish pc st = .error (.grammar p) ∧
      parseText lc pc text = .grammar p) := by
  unfold parseText
  rcases lexPrefix lc text with ⟨toks, stop⟩
  simp only
  cases hr : run pc {} toks with
  | error e => cases e with
    | grammar p => exact .inl ⟨p, rfl, rfl⟩
  | ok st =>
    cases stop with
    | some e => cases e with
      | lexical v p => exact .inr (.inl ⟨v, p, rfl, rfl⟩)
      | surrogate p => exact .inr (.inr (.inl ⟨p, rfl, rfl⟩))
    | none =>
      cases hf : finish pc st with
      | ok t => exact .inr (.inr (.inr (.inl ⟨st, t, rfl, hf, by simp only [hf]⟩)))
      | error e => cases e with
        | grammar p => exact .inr (.inr (.inr (.inr ⟨st, p, rfl, hf, by simp only [hf]⟩)))

/-- **total and classified**: for every text the outcome is a tree, a lexical error, a grammar
    error with a position, a grammar error at end of input - or the model's own report that the
    text spells a lone surrogate.  (That `parseText` is defined at all is its termination.) -/
theorem total_classified (lc : LexCfg) (pc : Cfg) (text : List Char) :
    (∃ t, parseText lc pc text = .ok t) ∨ (∃ v p, parseText lc pc text = .lexical v p) ∨
    (∃ p, parseText lc pc text = .grammar (some p)) ∨ parseText lc pc text = .grammar none ∨
    (∃ p, parseText lc pc text = .surrogate p) := by
  generalize parseText lc pc text = o
  rcases o with t | ⟨v, p⟩ | (_ | p) | p
  · exact .inl ⟨t, rfl⟩
  · exact .inr (.inl ⟨v, p, rfl⟩)
  · exact .inr (.inr (.inr (.inl rfl)))
  · exact .inr (.inr (.inl ⟨p, rfl⟩))
  · exact .inr (.inr (.inr (.inr ⟨p, rfl⟩)))

/-- **a lexical error points into the text**: the position is inside the text and the reported
    value is a non-empty piece of the text standing exactly there -/
theorem lexical_position_inside (lc : LexCfg) (pc : Cfg) (text v : List Char) (p : Nat)
    (h : parseText lc pc text = .lexical v p) :
    p < text.length ∧ v ≠ [] ∧ v <+: text.drop p := by
  rcases parseText_cases lc pc text with ⟨_, _, h'⟩ | ⟨v', p', hstop, h'⟩ | ⟨_, _, h'⟩ | ⟨_, _, _, _, h'⟩ | ⟨_, _, _, _, h'⟩ <;>
    rw [h'] at h <;> cases h
  exact lexAll_error_inside lc text (lexPrefixGo_err lc text 0 false 0 _ hstop)

/-- **a grammar error points at a token of the text**: the position is the start of a token the
    lexer produced from this text, hence inside the text -/
theorem grammar_position_inside (lc : LexCfg) (pc : Cfg) (text : List Char) (p : Nat)
    (h : parseText lc pc text = .grammar (some p)) : p < text.length := by
  rcases parseText_cases lc pc text with ⟨q, hr, h'⟩ | ⟨_, _, _, h'⟩ | ⟨_, _, h'⟩ | ⟨_, _, _, _, h'⟩ | ⟨_, q, _, hf, h'⟩ <;>
    rw [h'] at h <;> cases h
  ·
    obtain ⟨pre, t, post, st', htoks, _, _, hp⟩ := run_err _ {} _ hr
    have := lexPrefix_tokens_inside lc text t (by rw [htoks]; simp)
    simp only [PErr.grammar.injEq, Option.some.injEq] at hp
    omega
  ·
    cases finish_err hf

/-- for a text without lexical error the interleaved run is the batch parser of C02 on `lexAll` -/
theorem parseText_eq_parse (lc : LexCfg) (pc : Cfg) (text : List Char) (toks : List Token)
    (h : lexAll lc text = .ok toks) :
    parseText lc pc text = (match parse pc toks with
      | .ok t => .ok t
      | .error (.grammar p) => .grammar p) := by
  have hp := (lexPrefix_ok lc text toks).mp h
  unfold parseText parse
  rw [hp]
  simp only
  cases hr : run pc {} toks with
  | error e => cases e; rfl
  | ok st => rfl

/-- the first error in text order wins: a grammar error at a token is reported even when the
    lexer would choke on something behind it -/
theorem grammar_before_later_lexical (lc : LexCfg) (pc : Cfg) (text : List Char) (p : Option Nat)
    (h : run pc {} (lexPrefix lc text).1 = .error (.grammar p)) :
    parseText lc pc text = .grammar p := by
  unfold parseText
  cases hl : lexPrefix lc text with
  | mk toks stop =>
    rw [hl] at h
    simp only at h
    simp [h]

end Yaql.Props.C03
