import Yaql.Props.C04
import Yaql.Props.C09Ctx
/-!
# C09 x C04 - the evaluator model `Model/Eval.lean` as a statement of `Model/Effects.lean`

C04's contexts are **immutable frame chains** (`Eval.Ctx = List Frame`): creating a child and writing into
it is `frame :: C`, `eval` returns a value and no store, and `C04.frame` shows that a context an
evaluation hands back consists of new frames on top of (a non-empty suffix of) the context it started in.
In the vocabulary of this property that is an evaluator whose context-API trace **writes to no
pre-existing cell at all**: embedded as a `Stmt`, its write trace on the host's store is empty, and what
it computes is a function of the frame chain read off the host's cells (`readCtx`).  Both hypotheses of
`reeval_pool` / `context_clause_partial` then hold for *every expression of the C04 fragment and every
fuel* (`eval_C09_full`), so the pool theorem and `only_dollar` apply to it without further assumptions.

What this does **not** prove: that the *Python* evaluator's trace is the empty / fresh-only one - that is
C04's representation argument (a Python context object is written only by the call that created it),
tied to the code by C04's differential runs and, here, by the trace oracle of harness/props/c09.py
(`ctx` cases: every context-API call of the real evaluator is checked against `NoHostWrite`).
Domain of the embedding: chains of plain contexts whose values are ints / None (the C17 value domain);
multi / linked host contexts read as the empty chain.
-/
namespace Yaql.Props.C09
open Yaql.Context Yaql.Effects

def valOf : Val → Yaql.Value
  | none => .null
  | some i => .int i

mutual
/-- the host's chain as C04 sees it: one frame per plain context, innermost first -/
def readCtx (cs : Cells) : Shape → Yaql.Eval.Ctx
  | .plain c p => { vars := (cs.get c).data.map fun nv => (nv.1, valOf nv.2) } :: readCtxO cs p
  | .multi _ _ => []
  | .linked _ _ => []
def readCtxO (cs : Cells) : Option Shape → Yaql.Eval.Ctx
  | none => []
  | some s => readCtx cs s
end

mutual
theorem readCtx_congr (cs cs' : Cells) : ∀ (s : Shape), (∀ c ∈ cellsOf s, cs.get c = cs'.get c) →
    readCtx cs s = readCtx cs' s
  | .plain c p, h => by
      simp only [readCtx]
      rw [h c (by simp [cellsOf]), readCtxO_congr cs cs' p (fun c hc => h c (by simp [cellsOf, hc]))]
  | .multi _ _, _ => rfl
  | .linked _ _, _ => rfl
theorem readCtxO_congr (cs cs' : Cells) : ∀ (p : Option Shape), (∀ c ∈ cellsOfO p, cs.get c = cs'.get c) →
    readCtxO cs p = readCtxO cs' p
  | none, _ => rfl
  | some s, h => by
      simp only [readCtxO]
      exact readCtx_congr cs cs' s (fun c hc => h c (by simpa [cellsOfO] using hc))
end

/-- `engine(text)` for an expression of the C04 fragment, evaluated with `fuel`: no write to the host's
    store, result = C04's `eval` on the chain read off the store, finalised -/
def stmtOfEval (fuel : Nat) (e : Yaql.Eval.Expr) : Stmt (Yaql.Eval.R Yaql.Eval.Final) where
  prog cs s := ([], (Yaql.Eval.eval fuel (readCtx cs s) e).bind Yaql.Eval.finalise)

theorem stmtOfEval_local (fuel : Nat) (e : Yaql.Eval.Expr) : (stmtOfEval fuel e).Local := by
  intro cs cs' s h
  simp only [stmtOfEval]
  rw [readCtx_congr cs cs' s h]

theorem stmtOfEval_disciplined (fuel : Nat) (e : Yaql.Eval.Expr) : (stmtOfEval fuel e).Disciplined := by
  intro cs s x hx
  simp [stmtOfEval] at hx

/-- **C09.eval_C09_full**: the full context clause holds for C04's evaluator, every expression, every fuel -/
theorem eval_C09_full (fuel : Nat) : C09_full (stmtOfEval fuel) :=
  fun e => ⟨stmtOfEval_local fuel e, stmtOfEval_disciplined fuel e⟩

/-- **C09.eval_reeval_pool**: for the C04 evaluator, unconditionally - expressions of the core fragment
    evaluated in any order, any number of times, with any data against one shared chain of plain host
    contexts: every existing cell ends up as `context['$'] = v` alone leaves it, and every evaluation returns
    what it returns alone on the initial store. -/
theorem eval_reeval_pool (fuel : Nat) (cs : Cells) (s : Shape) (hs : ∀ c ∈ cellsOf s, c < cs.length) :
    (∀ (e : Yaql.Eval.Expr) (v : Val) (c : Nat), c < cs.length →
        (evalStmt cs s (stmtOfEval fuel e) v).1.get c = (setData cs s dollar v).get c) ∧
    (∀ pool : List (Yaql.Eval.Expr × Val),
        (runPool s cs (pool.map fun p => (stmtOfEval fuel p.1, p.2))).2
          = pool.map fun p => (evalStmt cs s (stmtOfEval fuel p.1) p.2).2) :=
  context_clause_partial (stmtOfEval fuel) (eval_C09_full fuel) cs s hs

/-- `C04.frame` in this vocabulary: a context object an expression hands back (`let`, `with`, `def`, ..)
    is made of new frames on top of the host's chain (or of an ancestor of it); the host's frames occur in
    it as they were read -/
theorem eval_extends_host (fuel : Nat) (cs : Cells) (s : Shape) (e : Yaql.Eval.Expr) (C' : Yaql.Eval.Ctx)
    (h : Yaql.Eval.eval fuel (readCtx cs s) e = .ok (.ctx C')) : Yaql.Props.C04.Extends (readCtx cs s) C' :=
  Yaql.Props.C04.frame fuel (readCtx cs s) e C' h

/-- non-vacuity: `$` on a two-layer host chain, data 5 then 7 then 5 - results 5, 7, 5; `let(a => 1)` hands
    back a context whose tail is the host's chain -/
example :
    let cs : Cells := [{ data := [(['$', 'y'], some 1)] }, {}]
    let s : Shape := .plain 0 (some (.plain 1 none))
    ((runPool s cs [(stmtOfEval 3 (.var ['$']), some 5), (stmtOfEval 3 (.var ['$']), some 7),
                    (stmtOfEval 3 (.var ['$']), some 5)]).2.map fun r =>
        match r with | .ok (.data (.int i)) => some i | _ => none) = [some 5, some 7, some 5] := by
  decide

end Yaql.Props.C09
