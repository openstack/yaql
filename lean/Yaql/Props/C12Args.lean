import Yaql.Props.C02
import Yaql.Model.ArgShape
/-!
C12, parser half (`arglist_grammar`): which argument lists the parser accepts, stated over the
shift/reduce model of `parser.py` (`Yaql.Syntax.parse`) for EVERY operator table without a
suffix/binary symbol and EVERY argument list of EVERY length, the argument values being arbitrary
precedence-correct expressions.

An argument list is a list of *slots*: a value (`pos`), nothing (`empty`: the slot between two
commas - it becomes `utils.NO_VALUE`) or `name => value` (`named`).  The readable rule (`shapeOK`):

* the empty list is an argument list;
* otherwise the last slot is not empty (no trailing comma), positional / empty slots come first and
  named slots last, and the first named slot may follow a value directly, follow a value and ONE
  empty slot, or be the very first slot - it may not follow two empty slots nor an empty first slot.

`argsOK_iff_shape` shows that the condition `argsOK` of `C02.WF` (read off the grammar rules
`arglist / incomplete_arglist / named_arglist`) is this rule; `arglist_grammar` then says the parser
returns `f(slots)` for the tokens spelling it iff the rule holds (and the slot values are
precedence-correct), `arglist_only_shaped` that NO token list whatsoever makes the parser return a
call / list / map / index node whose slots break the rule, and `empty_slot_no_tokens` that an empty
slot is spelled by no token at all and stands for `NO_VALUE`.
-/
namespace Yaql.Props.C12Args
open Yaql.Syntax Yaql.OpTable Yaql.Props.C02 Yaql.ArgShape

def slotOf : Ast → Slot
  | .noValue => .empty
  | .mappingRule _ _ => .named
  | _ => .pos

/-- the budget of `Frame.args` that corresponds to a gap state -/
def Gap.budget : Gap → Nat
  | .start => 1
  | .afterValue => 2
  | .valueEmpty => 1
  | .far => 0

theorem slot_cases (a : Ast) : a = .noValue ∨ (∃ s d, a = .mappingRule s d) ∨
    (isValue a = true ∧ slotOf a = .pos) := by
  cases a <;> simp [isValue, slotOf]

theorem shapeFrom_pos (g : Gap) (r : List Slot) :
    shapeFrom g (.pos :: r) = (r.isEmpty || shapeFrom .afterValue r) := by
  cases r <;> rfl

theorem shapeFrom_empty (g : Gap) (r : List Slot) :
    shapeFrom g (.empty :: r) = (!r.isEmpty && shapeFrom (g.next .empty) r) := by
  cases r <;> rfl

theorem budget_next_empty (g : Gap) : Gap.budget (g.next .empty) = Gap.budget g - 1 := by
  cases g <;> rfl

theorem namedMayStart_eq (g : Gap) : g.namedMayStart = decide (Gap.budget g ≥ 1) := by
  cases g <;> rfl

theorem slotsOK_named_tail (b : Nat) : ∀ as : List Ast,
    (as.isEmpty || slotsOK b true as) = allNamed (as.map slotOf)
  | [] => rfl
  | a :: rest => by
      rcases slot_cases a with rfl | ⟨s, d, rfl⟩ | ⟨hv, hs⟩
      · rfl
      · simpa [slotsOK, slotOf, allNamed] using slotsOK_named_tail 0 rest
      · simp [slotsOK_value hv, hs, allNamed]

theorem slotsOK_eq_shapeFrom : ∀ (as : List Ast) (g : Gap),
    slotsOK (Gap.budget g) false as = shapeFrom g (as.map slotOf)
  | [], _ => rfl
  | a :: rest, g => by
      rcases slot_cases a with rfl | ⟨s, d, rfl⟩ | ⟨hv, hs⟩
      · rw [List.map_cons, slotOf, shapeFrom_empty, ← slotsOK_eq_shapeFrom rest, budget_next_empty]
        simp [slotsOK]
      · rw [List.map_cons, slotOf, shapeFrom, namedMayStart_eq, ← slotsOK_named_tail 0]
        simp [slotsOK]
      · rw [List.map_cons, hs, shapeFrom_pos, ← slotsOK_eq_shapeFrom rest, slotsOK_value hv]
        simp [Gap.budget]

/-- the grammar condition of `C02.WF` on a slot list is the readable rule -/
theorem argsOK_iff_shape (as : List Ast) : argsOK as = shapeOK (as.map slotOf) := by
  rw [argsOK, shapeOK, ← slotsOK_eq_shapeFrom as .start]
  simp [Gap.budget]

theorem shaped_of_argsOK {as : List Ast} (h : argsOK as = true) : shapeOK (as.map slotOf) = true :=
  argsOK_iff_shape as ▸ h

/-- **C12 `arglist_grammar`.**  For every table without a suffix/binary symbol, every name and every
slot list whose values are precedence-correct expressions: the parser returns the call `f(slots)`
for the tokens that spell it exactly when the slots follow the rule; and whenever the parser returns
a call for ANY token list, its slots follow the rule. -/
theorem arglist_grammar (c : Cfg) (hna : NoAmb c) (n : TokVal) (as : List Ast) (hw : WFL c as) :
    parse c (yield c (.func n as)) = .ok (.func n as) ↔ shapeOK (as.map slotOf) = true := by
  rw [← argsOK_iff_shape]
  exact ⟨fun h => (parse_sound c _ _ h).1.2.1, fun h => parse_roundtrip c hna _ ⟨rfl, h, hw⟩⟩

/-- when the slots break the rule the spelled tokens are NOT parsed into that call (the parser raises
a grammar error or - never, by `parse_sound` - returns some other tree spelling the same tokens) -/
theorem arglist_rejected (c : Cfg) (n : TokVal) (as : List Ast) (h : shapeOK (as.map slotOf) = false)
    (toks : List Token) : parse c toks ≠ .ok (.func n as) := by
  intro hp
  have := shaped_of_argsOK (parse_sound c _ _ hp).1.2.1
  rw [h] at this
  cases this

mutual
/-- every argument list anywhere inside a precedence-correct tree follows the rule -/
def AllShaped : Ast → Prop
  | .binary _ _ l r => AllShaped l ∧ AllShaped r
  | .unary _ _ x => AllShaped x
  | .index b as => AllShaped b ∧ shapeOK (as.map slotOf) = true ∧ AllShapedL as
  | .list as => shapeOK (as.map slotOf) = true ∧ AllShapedL as
  | .map as => shapeOK (as.map slotOf) = true ∧ AllShapedL as
  | .func _ as => shapeOK (as.map slotOf) = true ∧ AllShapedL as
  | .call f as => AllShaped f ∧ shapeOK (as.map slotOf) = true ∧ AllShapedL as
  | .wrap e => AllShaped e
  | .mappingRule s d => AllShaped s ∧ AllShaped d
  | _ => True
def AllShapedL : List Ast → Prop
  | [] => True
  | a :: as => AllShaped a ∧ AllShapedL as
end

mutual
theorem allShaped_of_WFn (c : Cfg) : ∀ (t : Ast), WFn c t → AllShaped t
  | .const _ _, _ => trivial
  | .keywordConst _, _ => trivial
  | .getContextValue _, _ => trivial
  | .noValue, _ => trivial
  | .binary _ _ l r, h => by
      obtain ⟨_, _, _, _, _, _, hl, hr, _⟩ := h
      exact ⟨allShaped_of_WFn c l hl, allShaped_of_WFn c r hr⟩
  | .unary _ _ x, h => by
      obtain ⟨_, _, _, _, _, hx, _⟩ := h
      exact allShaped_of_WFn c x hx
  | .index b as, h =>
      ⟨allShaped_of_WFn c b h.2.1, shaped_of_argsOK h.2.2.2.1, allShapedL_of_WFL c as h.2.2.2.2⟩
  | .list as, h => ⟨shaped_of_argsOK h.1, allShapedL_of_WFL c as h.2⟩
  | .map as, h => ⟨shaped_of_argsOK h.1, allShapedL_of_WFL c as h.2⟩
  | .func _ as, h => ⟨shaped_of_argsOK h.1, allShapedL_of_WFL c as h.2⟩
  | .call f as, h =>
      ⟨allShaped_of_WFn c f h.2.2.1, shaped_of_argsOK h.2.2.2.2.1, allShapedL_of_WFL c as h.2.2.2.2.2⟩
  | .wrap e, h => allShaped_of_WFn c e h.2
  | .mappingRule s d, h => ⟨allShaped_of_WFn c s h.2.2.1, allShaped_of_WFn c d h.2.2.2⟩
theorem allShapedL_of_WFL (c : Cfg) : ∀ (as : List Ast), WFL c as → AllShapedL as
  | [], _ => trivial
  | a :: as, h => ⟨allShaped_of_WFn c a h.1, allShapedL_of_WFL c as h.2⟩
end

/-- **whatever the parser returns, for any token list and any table, every argument list in it (of a
call, a method call, a list / map literal, an indexer, a delegate call, at any depth) follows the
rule** - trailing commas, empty named slots, positional slots after named ones and named slots after
two empty slots never get through -/
theorem arglist_only_shaped (c : Cfg) (toks : List Token) (t : Ast) (h : parse c toks = .ok t) : AllShaped t :=
  allShaped_of_WFn c t (parse_sound c toks t h).1.2

/-- an empty slot is spelled by no token at all (it is what lies between two commas) and is the tree
`NO_VALUE`; a slot list is spelled by its slots separated by single commas -/
theorem empty_slot_no_tokens (c : Cfg) : yield c .noValue = [] := by simp [yield]

theorem slots_comma_separated (c : Cfg) (a b : Ast) (rest : List Ast) :
    yieldL c (a :: b :: rest) = yield c a ++ tLit ',' :: yieldL c (b :: rest) := by
  simp [yieldL]

/-! ### the rule on examples (non-vacuity; `decide` evaluates the rule, `rfl` the parser) -/

example : shapeOK [] = true := by decide
example : shapeOK [.pos, .empty, .pos] = true := by decide                   -- f(1,,2)
example : shapeOK [.pos, .empty, .named] = true := by decide                 -- f(1,,a=>2)
example : shapeOK [.named, .named] = true := by decide                       -- f(a=>1,b=>2)
example : shapeOK [.empty, .pos] = true := by decide                         -- f(,1)
example : shapeOK [.empty, .empty, .pos, .named] = true := by decide         -- f(,,1,a=>2)
example : shapeOK [.pos, .empty] = false := by decide                        -- f(1,)   trailing comma
example : shapeOK [.empty] = false := by decide                              -- f(,)
example : shapeOK [.named, .pos] = false := by decide                        -- f(a=>1,2)
example : shapeOK [.named, .empty, .named] = false := by decide              -- f(a=>1,,b=>2)
example : shapeOK [.pos, .empty, .empty, .named] = false := by decide        -- f(1,,,a=>2)
example : shapeOK [.empty, .named] = false := by decide                      -- f(,a=>1)

/-- `f(1, , $a => 1)` is accepted with `NO_VALUE` in the middle ... -/
example : parse demoCfg [tok .func (.text ['f']), tok .number (.int 1), tLit ',', tLit ',',
      tok .dollar (.text ['$', 'a']), tok .mapping, tok .number (.int 1), tLit ')'] =
    .ok (.func (.text ['f']) [n1, .noValue, .mappingRule va n1]) := by rfl
/-- ... `f(1,)` and `f($a => 1, 1)` are grammar errors, both reported at the closing parenthesis -/
example : parse demoCfg [tok .func (.text ['f']), tok .number (.int 1), tLit ',', ⟨.lit ')', .none, 5⟩] =
    .error (.grammar (some 5)) := by rfl
example : parse demoCfg [tok .func (.text ['f']), tok .dollar (.text ['$', 'a']), tok .mapping,
      tok .number (.int 1), tLit ',', tok .number (.int 1), ⟨.lit ')', .none, 12⟩] = .error (.grammar (some 12)) := by rfl
/-- the hypotheses of `arglist_grammar` are satisfiable by a non-trivial instance -/
example : WFL demoCfg [n1, .noValue, .mappingRule va n1] ∧
    shapeOK ([n1, .noValue, .mappingRule va n1].map slotOf) = true := by
  refine ⟨?_, by decide⟩
  simp [WFL, WFn, n1, va, isValue]

end Yaql.Props.C12Args
