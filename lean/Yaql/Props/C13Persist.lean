import Yaql.Props.C13Bind
/-!
C13, persistent updates: `insert`, `insertMany`, `delete`, `deleteAll`, `set`, `replace`, `replaceMany`, `remove`, `add`,
`mergeWith`, `+` ... return a new collection and leave their operand as it was.  In the model every `runOp` is a function of
its operand, so the law holds by construction; these theorems state what a program that OBSERVES the operand after the
update must return (`Obs` / `runObserve` of Model/SeqRun.lean) - the correspondence check generates such programs over the
results of all other operators and over unconverted input and compares the real results with them.
-/
namespace Yaql.Props.C13Persist
open Yaql Yaql.Value Yaql.Seq

/-- the let-shapes: the operand is bound to a variable and read again after the update -/
def Obs.isLet : Obs → Bool
  | .letPair _ | .letTwice _ _ | .letChain _ _ => true
  | _ => false

theorem letPair_parts (opts : Opts) (u : Op) (o : Obj) (r : List Obj ⊕ Obj)
    (h : runObs opts (.letPair u) o = .ok r) :
    ∃ a, runOp opts u o = .ok a ∧ r = .inl [a, o] := by
  rw [runObs] at h
  obtain ⟨a, ha, h⟩ := R.bind_ok (R.guard_ok h)
  cases h
  exact ⟨a, ha, rfl⟩

theorem letTwice_parts (opts : Opts) (u1 u2 : Op) (o : Obj) (r : List Obj ⊕ Obj)
    (h : runObs opts (.letTwice u1 u2) o = .ok r) :
    ∃ a b, runOp opts u1 o = .ok a ∧ runOp opts u2 o = .ok b ∧ r = .inl [a, b, o] := by
  rw [runObs] at h
  obtain ⟨a, ha, h⟩ := R.bind_ok (R.guard_ok h)
  obtain ⟨b, hb, h⟩ := R.bind_ok h
  cases h
  exact ⟨a, b, ha, hb, rfl⟩

theorem letChain_parts (opts : Opts) (u1 u2 : Op) (o : Obj) (r : List Obj ⊕ Obj)
    (h : runObs opts (.letChain u1 u2) o = .ok r) :
    ∃ y b, runOp opts u1 o = .ok y ∧ runOp opts u2 y = .ok b ∧ r = .inl [b, y, o] := by
  rw [runObs] at h
  obtain ⟨y, hy, h⟩ := R.bind_ok (R.guard_ok h)
  obtain ⟨b, hb, h⟩ := R.bind_ok (R.guard_ok h)
  cases h
  exact ⟨y, b, hy, hb, rfl⟩

theorem let_parts (opts : Opts) (obs : Obs) (o : Obj) (r : List Obj ⊕ Obj) (hl : Obs.isLet obs = true)
    (h : runObs opts obs o = .ok r) : ∃ init, r = .inl (init ++ [o]) := by
  cases obs with
  | letPair u => obtain ⟨a, _, rfl⟩ := letPair_parts opts u o _ h; exact ⟨[a], rfl⟩
  | letTwice u1 u2 => obtain ⟨a, b, _, _, rfl⟩ := letTwice_parts opts u1 u2 o _ h; exact ⟨[a, b], rfl⟩
  | letChain u1 u2 => obtain ⟨y, b, _, _, rfl⟩ := letChain_parts opts u1 u2 o _ h; exact ⟨[b, y], rfl⟩
  | selPair u => cases hl
  | memPair u => cases hl

/-- PERSISTENCE, on the run-time objects: whatever the update (and whatever a second update or observer), the last part of
    the observing program is the operand itself -/
theorem operand_unchanged (opts : Opts) (obs : Obs) (o : Obj) (parts : List Obj) (hl : Obs.isLet obs = true)
    (h : runObs opts obs o = .ok (.inl parts)) : parts.getLast? = some o := by
  obtain ⟨init, hr⟩ := let_parts opts obs o _ hl h
  cases hr
  simp

/-- the two updates of `[$x.u1(..), $x.u2(..), $x]` do not see each other: exchanging them exchanges the parts -/
theorem letTwice_order_irrelevant (opts : Opts) (u1 u2 : Op) (o : Obj) (a b : Obj)
    (h : runObs opts (.letTwice u1 u2) o = .ok (.inl [a, b, o])) :
    runObs opts (.letTwice u2 u1) o = .ok (.inl [b, a, o]) := by
  obtain ⟨a', b', h1, h2, hr⟩ := letTwice_parts opts u1 u2 o _ h
  simp at hr
  obtain ⟨rfl, rfl⟩ := hr
  simp only [runObs, bind, Except.bind, pure, Except.pure] at h ⊢
  split at h
  · simp at h
  · rename_i hre
    simp [hre, h1, h2]

theorem finaliseParts_ok {opts : Opts} {parts : List Obj} {v : Value} (h : finaliseParts opts parts = .ok v) :
    ∃ vs, parts.mapM (finalise opts) = .ok vs ∧ (v = list vs ∨ v = tuple vs) := by
  rw [finaliseParts] at h
  obtain ⟨vs, hvs, h⟩ := R.bind_ok (R.guard_ok h)
  cases h
  exact ⟨vs, hvs, by cases opts.convertOutput && opts.tuplesToLists <;> simp⟩

theorem finaliseParts_last (opts : Opts) (init : List Obj) (o : Obj) (v : Value)
    (h : finaliseParts opts (init ++ [o]) = .ok v) :
    ∃ vs w, (v = list vs ∨ v = tuple vs) ∧ vs.getLast? = some w ∧ finalise opts o = .ok w := by
  obtain ⟨vs, hvs, hv⟩ := finaliseParts_ok h
  rw [List.mapM_append] at hvs
  obtain ⟨r1, -, hvs⟩ := R.bind_ok hvs
  obtain ⟨r2, h2, hvs⟩ := R.bind_ok hvs
  rw [List.mapM_cons, List.mapM_nil] at h2
  obtain ⟨w, hw, h2⟩ := R.bind_ok h2
  cases h2
  cases hvs
  exact ⟨r1 ++ [w], w, hv, by simp, hw⟩

/-- PERSISTENCE, on programs: the last component of what an observing program `let(x => P) -> [$x.u(..), ..., $x]` returns
    is exactly what the pipeline `P` alone returns - under every option record, for every update, every pipeline, every
    document -/
theorem observed_operand_is_pipeline_result (opts : Opts) (binder : Option Op) (ops : List Op) (obs : Obs) (data : Value)
    (v : Value) (hl : Obs.isLet obs = true) (h : runObserve opts binder ops obs data = .ok v) :
    ∃ vs w, (v = list vs ∨ v = tuple vs) ∧ vs.getLast? = some w ∧ runPipeLet opts binder ops data = .ok w := by
  rw [runObserve] at h
  obtain ⟨o, hs, h⟩ := R.bind_ok h
  obtain ⟨r, ho, h⟩ := R.bind_ok h
  obtain ⟨init, rfl⟩ := let_parts opts obs o r hl ho
  have hrun : runPipeLet opts binder ops data = finalise opts o := by
    simp [runPipeLet, hs, bind, Except.bind]
  rw [hrun]
  exact finaliseParts_last opts init o v h

/-- ... and its first component is what the update returns without an observer: the value of `let(x => P) -> [$x.u(..), $x]`
    starts with the value of `P.u(..)` -/
theorem observed_update_is_unobserved_update (opts : Opts) (binder : Option Op) (ops : List Op) (u : Op) (data : Value)
    (v : Value) (hu : ∀ root o, runOpR opts root u o = runOp opts u o) (hf : u.functionStyleSet = false)
    (h : runObserve opts binder ops (.letPair u) data = .ok v) :
    ∃ w rest, (v = list (w :: rest) ∨ v = tuple (w :: rest)) ∧ runPipeLet opts binder (ops ++ [u]) data = .ok w := by
  rw [runObserve] at h
  obtain ⟨o, hs, h⟩ := R.bind_ok h
  obtain ⟨r, ho, h⟩ := R.bind_ok h
  obtain ⟨a, ha, rfl⟩ := letPair_parts opts u o _ ho
  have hany : (opts.noSets && ops.any Op.functionStyleSet) = false := by
    cases hc : (opts.noSets && ops.any Op.functionStyleSet) with
    | false => rfl
    | true =>
      simp only [runStages, hc, bind, Except.bind] at hs
      cases hroot : rootObj opts binder data <;> simp [hroot] at hs
  have hany2 : (opts.noSets && (ops ++ [u]).any Op.functionStyleSet) = false := by
    rw [List.any_append]
    simp only [List.any_cons, List.any_nil, hf, Bool.or_false]
    exact hany
  have hrun : runPipeLet opts binder (ops ++ [u]) data = finalise opts a := by
    simp only [runPipeLet, runStages, bind, Except.bind, hany, hany2] at hs ⊢
    cases hroot : rootObj opts binder data with
    | error e => simp [hroot] at hs
    | ok root =>
      simp only [hroot] at hs ⊢
      rw [List.foldlM_append]
      simp at hs
      simp [hs, bind, Except.bind, hu, ha, pure, Except.pure]
  rw [hrun]
  obtain ⟨vs, hvs, hv⟩ := finaliseParts_ok (parts := [a, o]) h
  rw [List.mapM_cons] at hvs
  obtain ⟨w, hw, hvs⟩ := R.bind_ok hvs
  obtain ⟨rest, -, hvs⟩ := R.bind_ok hvs
  cases hvs
  exact ⟨w, rest, hv, hw⟩

/-- rows `[f-part, x]` made element by element: the second members are the elements, in order; a failing application ends
    the result where it happens, after the rows before it -/
theorem mapM_rows (f : Value → R Value) (hf : ∀ x v, f x = .ok v → ∃ a, v = tuple [a, x]) (xs : VL) (e : Option Err) :
    (LSeq.mapM f xs e).items.length ≤ xs.length ∧
      ∀ i, i < (LSeq.mapM f xs e).items.length → ∃ a, (LSeq.mapM f xs e).items[i]? = some (tuple [a, xs[i]!]) := by
  induction xs with
  | nil => cases e <;> simp [LSeq.mapM]
  | cons x xs ih =>
    obtain ⟨hlen, hrow⟩ := ih
    cases hx : f x with
    | error er => simp [LSeq.mapM, hx]
    | ok v =>
      obtain ⟨a, rfl⟩ := hf x v hx
      refine ⟨by simp [LSeq.mapM, hx]; omega, ?_⟩
      intro i hi
      cases i with
      | zero => exact ⟨a, by simp [LSeq.mapM, hx]⟩
      | succ j =>
        simp only [LSeq.mapM, hx, List.length_cons, Nat.add_lt_add_iff_right] at hi
        obtain ⟨b, hb⟩ := hrow j hi
        exact ⟨b, by simpa [LSeq.mapM, hx] using hb⟩

/-- `P.select([$.u(..), $])`: the lambda argument is used twice; the second members of the rows are the elements of `P` -/
theorem selPair_rows (opts : Opts) (u : Op) (o : Obj) (s : LSeq) (r : LSeq) (hs : o.it opts = .ok s)
    (h : runObs opts (.selPair u) o = .ok (.inr (.lazy r))) :
    r.items.length ≤ s.items.length ∧ ∀ i, i < r.items.length → ∃ a, r.items[i]? = some (tuple [a, s.items[i]!]) := by
  simp only [runObs, hs, bind, Except.bind, pure, Except.pure] at h
  injection h with h
  injection h with h
  injection h with h
  subst h
  apply mapM_rows
  intro x v hv
  cases ha : updElem opts u x with
  | error er => simp [ha] at hv
  | ok a => simp [ha] at hv; exact ⟨a, hv.symm⟩

/-! ### the laws at work (evaluated on the model) -/

/-- `let(x => [1, 2, 3].insert(1, 9)) -> [$x.insert(0, 0), $x]`: the operand is itself the (mutable) result of `insert` -/
example : runObserve {} none [.insert 1 (int 9)] (.letPair (.insert 0 (int 0))) (list [int 1, int 2, int 3])
    = .ok (list [list [int 0, int 1, int 9, int 2, int 3], list [int 1, int 9, int 2, int 3]]) := by rfl
/-- `[$.insert(0, 0), $]` on the host's own list (`yaql.convertInputData` off) -/
example : runObserve { convertInput := false } none [] (.letPair (.insert 0 (int 0))) (list [int 1, int 2])
    = .ok (list [list [int 0, int 1, int 2], list [int 1, int 2]]) := by rfl
/-- `[a, b].enumerate().select([$.insert(2, z), $])`: the pairs made by `enumerate` are mutable lists -/
example : runObserve {} none [.enumerate none] (.selPair (.insert 2 (str ['z']))) (list [str ['a'], str ['b']])
    = .ok (list [list [list [int 0, str ['a'], str ['z']], list [int 0, str ['a']]],
                 list [list [int 1, str ['b'], str ['z']], list [int 1, str ['b']]]]) := by rfl
/-- `let(d => [1, 2].toDict($, $ * 2)) -> [$d.delete(2), $d.len(), $d]` -/
example : runObserve {} none [.toDict .arg (some (.mul .arg 2))] (.letTwice (.delete [int 2]) .len) (list [int 1, int 2])
    = .ok (list [dict [(int 1, int 2)], int 2, dict [(int 1, int 2), (int 2, int 4)]]) := by rfl
/-- `let(x => P) -> let(y => $x.insert(0, 7)) -> [$y.insert(0, 8), $y, $x]`: the update applied to its own result -/
example : runObserve {} none [] (.letChain (.insert 0 (int 7)) (.insert 0 (int 8))) (list [int 1])
    = .ok (list [list [int 8, int 7, int 1], list [int 7, int 1], list [int 1]]) := by rfl
/-- a one-shot iterator bound to a variable cannot be read twice: `runObs` leaves such operands outside the modelled
    domain (`outOfDomain`), and the check skips them -/
example : runObserve {} none [] (.letPair (.insert 0 (int 0))) (iter [int 1]) = .error .outOfDomain := by rfl
/-- instances of the hypotheses of `observed_update_is_unobserved_update` for the updating functions -/
example (opts : Opts) (p : Int) (v : Value) : ∀ root o, runOpR opts root (.insert p v) o = runOp opts (.insert p v) o := by
  intro _ _; rfl
example (p : Int) (v : Value) : (Op.insert p v).functionStyleSet = false := rfl
example (opts : Opts) (ks : VL) : ∀ root o, runOpR opts root (.deleteAll ks) o = runOp opts (.deleteAll ks) o := by
  intro _ _; rfl

end Yaql.Props.C13Persist
