import Yaql.Props.EvalStore
import Yaql.Props.C09Ctx
import Yaql.Props.C09Eval
/-!
C09 x the store-passing evaluator (`Model/EvalStore.lean`): the hypotheses `Local` / `Disciplined` of
`Props/C09Ctx.lean` discharged for an evaluator that really allocates and writes context cells.

`Props/C09Eval.lean` embedded C04's evaluator, whose contexts are immutable frame chains: its write trace on the
host's store is empty *by representation*.  Here the evaluator is `EvalStore.callS` (`Statement.__call__`:
`#finalize(expression)`): started on the store read off the host's chain (`hostCells`: one mutable cell per plain
context, root first, the context handed to `evaluate` last) it allocates a context per function call and writes
`$1..$n`, `let` / `with` / `unpack` bindings and `def` closures into them.  Its log, translated entry by entry into
the context-API steps of `Model/Effects.lean` (`stepOf`: context ID -> frame number, 0 = the handed context, the
`j`-th allocation = frame `j`), is the statement's trace:

* `stmtOfEvalS_disciplined` is `EvalStore.Sat.fresh` for `callS` (the evaluation and its finaliser) - no step of the
  trace writes through frame 0;
* `stmtOfEvalS_local`: the outcome is a function of the cells reachable from the context;

so `C09_full` holds for it (`evalS_C09_full`) and `frame` / `only_dollar` / `only_dollar_reads` / `reeval_pool`
apply with **no hypothesis left** (`evalS_context_frame`, `evalS_only_dollar`, `evalS_only_dollar_reads`,
`evalS_reeval_pool`), for every expression of the fragment, every fuel, every store and host chain.
Domain of the embedding as in `C09Eval`: chains of plain contexts holding ints / None (C17's value domain; other
values written by the evaluator are projected to None in the C17 trace, they only ever go to fresh cells);
a multi / linked host context reads as an empty root.
-/
namespace Yaql.Props.C09
open Yaql.Context Yaql.Effects

mutual
/-- the host's chain as a store of mutable cells: root first, the context itself last; parent = the cell before -/
def hostCells (cs : Cells) : Shape → List Yaql.EvalStore.Cell
  | .plain c p =>
      hostCellsO cs p ++ [{ data := (cs.get c).data.map fun nv => (nv.1, valOf nv.2),
                            parent := if (hostCellsO cs p).isEmpty then none else some ((hostCellsO cs p).length - 1) }]
  | .multi _ _ => [{}]
  | .linked _ _ => [{}]
def hostCellsO (cs : Cells) : Option Shape → List Yaql.EvalStore.Cell
  | none => []
  | some s => hostCells cs s
end

mutual
theorem hostCells_congr (cs cs' : Cells) : ∀ (s : Shape), (∀ c ∈ cellsOf s, cs.get c = cs'.get c) →
    hostCells cs s = hostCells cs' s
  | .plain c p, h => by
      simp only [hostCells]
      rw [h c (by simp [cellsOf]), hostCellsO_congr cs cs' p (fun c hc => h c (by simp [cellsOf, hc]))]
  | .multi _ _, _ => rfl
  | .linked _ _, _ => rfl
theorem hostCellsO_congr (cs cs' : Cells) : ∀ (p : Option Shape), (∀ c ∈ cellsOfO p, cs.get c = cs'.get c) →
    hostCellsO cs p = hostCellsO cs' p
  | none, _ => rfl
  | some s, h => by
      simp only [hostCellsO]
      exact hostCells_congr cs cs' s (fun c hc => h c (by simpa [cellsOfO] using hc))
end

/-- a value as C17's cells store it -/
def valProj : Yaql.Value → Val
  | .int i => some i
  | _ => none

/-- context ID -> frame number of `Model/Effects.lean`: the `k` host cells are frame 0 (only the last of them, the
    handed context, is ever referred to), the `j`-th context allocated by the evaluation is frame `j` -/
def frameOf (k i : Nat) : Nat := if i < k then 0 else i - k + 1

def stepOf (k : Nat) : Yaql.EvalStore.Entry → Step
  | .alloc _ p => .child (frameOf k p)
  | .set c n v => .set (frameOf k c) n (valProj v)
  | .reg c f _ _ => .reg (frameOf k c) f 0 false

/-- the state `Statement.__call__` starts in: the host's chain as cells, an empty log -/
def startOf (cs : Cells) (s : Shape) : Yaql.EvalStore.St := { cells := hostCells cs s, log := [] }

/-- `engine(text)` for an expression of the C04 fragment evaluated by the store-passing evaluator: its trace of
    context-API calls and its finalised result -/
def stmtOfEvalS (fuel : Nat) (e : Yaql.Eval.Expr) : Stmt (Yaql.Eval.R Yaql.Eval.Final) where
  prog cs s :=
    let r := Yaql.EvalStore.callS fuel ((hostCells cs s).length - 1) e (startOf cs s)
    (r.2.log.map (stepOf (hostCells cs s).length), r.1)

theorem stmtOfEvalS_local (fuel : Nat) (e : Yaql.Eval.Expr) : (stmtOfEvalS fuel e).Local := by
  intro cs cs' s h
  simp only [stmtOfEvalS, startOf]
  rw [hostCells_congr cs cs' s h]

/-- the discipline, from `EvalStore.Sat.callS` (`Sat.fresh`): every write of the evaluation and of its finaliser
    targets a context it allocated -/
theorem stmtOfEvalS_disciplined (fuel : Nat) (e : Yaql.Eval.Expr) : (stmtOfEvalS fuel e).Disciplined := by
  intro cs s x hx
  simp only [stmtOfEvalS, List.mem_map] at hx
  obtain ⟨en, hen, rfl⟩ := hx
  obtain ⟨d, hd, hfresh⟩ := (Yaql.Props.EvalStore.Sat.callS fuel ((hostCells cs s).length - 1) e).fresh (startOf cs s)
  have hlog : (startOf cs s).log = [] := rfl
  have hlen : (startOf cs s).cells.length = (hostCells cs s).length := rfl
  rw [hlog, List.nil_append] at hd
  rw [hlen] at hfresh
  rw [hd] at hen
  cases en with
  | alloc i p => simp [stepOf, Step.target]
  | _ =>
      have := hfresh _ hen _ rfl
      simp only [stepOf, Step.target, ne_eq, Option.some.injEq, frameOf]
      split <;> omega

/-- **C09.evalS_C09_full**: the full context clause holds for the store-passing evaluator - every expression,
    every fuel -/
theorem evalS_C09_full (fuel : Nat) : C09_full (stmtOfEvalS fuel) :=
  fun e => ⟨stmtOfEvalS_local fuel e, stmtOfEvalS_disciplined fuel e⟩

/-- **C09.evalS_context_frame** (`frame` without hypotheses): replaying the evaluator's trace on the host's store
    leaves every existing cell as it was -/
theorem evalS_context_frame (fuel : Nat) (e : Yaql.Eval.Expr) (cs : Cells) (s : Shape) :
    cs.length ≤ (run ⟨cs, [s]⟩ ((stmtOfEvalS fuel e).prog cs s).1).cells.length ∧
    ∀ c < cs.length, (run ⟨cs, [s]⟩ ((stmtOfEvalS fuel e).prog cs s).1).cells.get c = cs.get c :=
  context_frame cs s _ (stmtOfEvalS_disciplined fuel e cs s)

/-- **C09.evalS_only_dollar** (`only_dollar` without hypotheses): `statement.evaluate(data, context)` with the
    store-passing evaluator's trace as body - any store, any context shape, with or without data, with or without
    the `#finalize` wrapper: the store differs from the one before in the `$` binding only -/
theorem evalS_only_dollar (fuel : Nat) (e : Yaql.Eval.Expr) (cs cs1 : Cells) (s : Shape) (bound : Option Val) (fin : Fid) :
    let body := ((stmtOfEvalS fuel e).prog cs1 s).1
    cs.length ≤ (evaluate cs s bound fin body).length ∧
    (∀ c < cs.length, writeCell s ≠ some c → (evaluate cs s bound fin body).get c = cs.get c) ∧
    (bound = none → ∀ c < cs.length, (evaluate cs s bound fin body).get c = cs.get c) ∧
    (∀ v w, bound = some v → writeCell s = some w → w < cs.length →
      (evaluate cs s bound fin body).get w =
        { cs.get w with data := aset (normName dollar) v (cs.get w).data }) :=
  only_dollar cs s bound fin _ (stmtOfEvalS_disciplined fuel e cs1 s)

/-- **C09.evalS_only_dollar_reads**: ... and seen through the context API from any context of the host's forest -/
theorem evalS_only_dollar_reads (fuel : Nat) (e : Yaql.Eval.Expr) (cs cs1 : Cells) (s : Shape) (bound : Option Val)
    (fin : Fid) (t : Shape) (ht : ∀ c ∈ cellsOf t, c < cs.length) :
    let body := ((stmtOfEvalS fuel e).prog cs1 s).1
    (∀ name, normName name ≠ normName dollar →
      getData (evaluate cs s bound fin body) t name = getData cs t name ∧
      containsName (evaluate cs s bound fin body) t name = containsName cs t name) ∧
    (∀ f, collectFunctions (evaluate cs s bound fin body) t f = collectFunctions cs t f) ∧
    (∀ f, getFunctions (evaluate cs s bound fin body) f t = getFunctions cs f t) :=
  only_dollar_reads cs s bound fin _ (stmtOfEvalS_disciplined fuel e cs1 s) t ht

/-- **C09.evalS_reeval_pool** (`reeval_pool` without hypotheses): expressions of the core fragment evaluated by the
    store-passing evaluator in any order, any number of times, with any data against one shared chain of plain host
    contexts: every existing cell ends up as `context['$'] = v` alone leaves it, and every evaluation returns what
    it returns alone on the initial store. -/
theorem evalS_reeval_pool (fuel : Nat) (cs : Cells) (s : Shape) (hs : ∀ c ∈ cellsOf s, c < cs.length) :
    (∀ (e : Yaql.Eval.Expr) (v : Val) (c : Nat), c < cs.length →
        (evalStmt cs s (stmtOfEvalS fuel e) v).1.get c = (setData cs s dollar v).get c) ∧
    (∀ pool : List (Yaql.Eval.Expr × Val),
        (runPool s cs (pool.map fun p => (stmtOfEvalS fuel p.1, p.2))).2
          = pool.map fun p => (evalStmt cs s (stmtOfEvalS fuel p.1) p.2).2) :=
  context_clause_partial (stmtOfEvalS fuel) (evalS_C09_full fuel) cs s hs

/-! ### non-vacuity -/

/-- `let(x => $) -> $x` -/
def exLet : Yaql.Eval.Expr := .arrow (.call .let_ [] [(.kw ['x'], .var ['$'])]) (.var ['$', 'x'])

-- the trace is not empty: five contexts are created (`$`, `let`, `->`, `$x`, `#finalize`), `$x` is written to the
-- second of them (frame 2) - never through frame 0
example :
    let cs : Cells := [{ data := [(['$', 'y'], some 1), (['$', '1'], some 5)] }, {}]
    let s : Shape := .plain 0 (some (.plain 1 none))
    ((stmtOfEvalS 8 exLet).prog cs s).1.map (fun st => (st.target, match st with | .child p => p | _ => 99))
      = [(none, 0), (none, 0), (some 2, 99), (none, 0), (none, 2), (none, 0)] := by
  decide +kernel

-- a two-layer host chain, data 5 then 7 then 5: results 5, 7, 5; the host's cells keep `y`, only `$1` differs,
-- and the contexts the evaluations created pile up behind them
example :
    let cs : Cells := [{ data := [(['$', 'y'], some 1)] }, {}]
    let s : Shape := .plain 0 (some (.plain 1 none))
    ((runPool s cs [(stmtOfEvalS 8 exLet, some 5), (stmtOfEvalS 8 exLet, some 7), (stmtOfEvalS 8 exLet, some 5)]).2.map
        fun r => match r with | .ok (.data (.int i)) => some i | _ => none) = [some 5, some 7, some 5] ∧
    ((runPool s cs [(stmtOfEvalS 8 exLet, some 5), (stmtOfEvalS 8 exLet, some 7)]).1.get 0).data
      = [(['$', 'y'], some 1), (['$', '1'], some 7)] ∧
    (runPool s cs [(stmtOfEvalS 8 exLet, some 5), (stmtOfEvalS 8 exLet, some 7)]).1.length = 12 := by
  decide +kernel

end Yaql.Props.C09
