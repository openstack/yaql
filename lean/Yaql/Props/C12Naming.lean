import Yaql.Props.C12
import Yaql.Model.Naming
/-!
C12, the naming conventions and the keyword filter of `call()`.

* `rstrip_idempotent`, `toCamel_fixed`, `toCamel_idempotent`, `convertParameterName_settled`, `camel_of_python`: converting a
  converted name again changes nothing; the camelCase name of the PythonConvention name is the camelCase
  name of the python name.
* `filter_ignores_junk`, `call_filter_nonkeywords`: string keys of `kwargs` that are not keywords never
  change what `call(name, args, kwargs)` does; `call_keywords_pass`, `call_resolver_input`: keyword keys
  reach the resolver exactly as the direct spelling `f(args.., k => v ..)` does.
* `call_junk_invariant_full` is the statement for ALL keys that are not keywords, strings or not; proved
  (`call_junk_invariant`, `call_nonstring_key_dropped`) for the code since d6863d4 (before it a key that was not
  a string made `is_keyword` raise TypeError).
-/
namespace Yaql.Props.C12
open Yaql.Types Yaql.Resolve Yaql.Registry Yaql.Naming

-- core has no `DecidableEq (Except ε α)`; the test vectors below need it
deriving instance DecidableEq for Except

/-! ## conventions -/

theorem dropWhile_idem {α : Type} (p : α → Bool) : ∀ l : List α, (l.dropWhile p).dropWhile p = l.dropWhile p
  | [] => rfl
  | a :: r => by
      rw [List.dropWhile_cons]
      split
      · exact dropWhile_idem p r
      · next h => exact List.dropWhile_cons_of_neg h

/-- `name.rstrip('_').rstrip('_') == name.rstrip('_')` -/
theorem rstrip_idempotent (n : Name) : rstripUnderscore (rstripUnderscore n) = rstripUnderscore n := by
  simp [rstripUnderscore, dropWhile_idem]

/-- after the first character no underscore is followed by a word character: nothing is left for the
    camelCase rule to do -/
def settledRest : List Char → Bool
  | [] => true
  | c :: r => (!(c == '_') || match r with | [] => true | d :: _ => !isWordChar d) && settledRest r

def settled : List Char → Bool
  | [] => true
  | _ :: r => settledRest r

theorem camelGo_pending_stays : ∀ r : List Char, (match r with | [] => true | d :: _ => !isWordChar d) = true →
    camelGo true r = '_' :: camelGo false r
  | [], _ => rfl
  | d :: r, h => by
      have hw : isWordChar d = false := by simpa using h
      have hu : (d == '_') = false := by rw [isWordChar, Bool.or_eq_false_iff] at hw; exact hw.2
      simp [camelGo, hw, hu]

theorem camelGo_fixed : ∀ r : List Char, settledRest r = true → camelGo false r = r
  | [], _ => rfl
  | c :: r, h => by
      simp only [settledRest, Bool.and_eq_true, Bool.or_eq_true] at h
      obtain ⟨hc, hr⟩ := h
      rw [camelGo, camelGo_fixed r hr]
      split
      · next hcu =>
        rw [camelGo_pending_stays r (hc.resolve_left (by simp [hcu])), camelGo_fixed r hr, eq_of_beq hcu]
      · rfl

/-- a settled name is a fixed point of `CamelCaseConvention._to_camel_case` -/
theorem toCamel_fixed (n : Name) (h : settled n = true) : toCamel n = n := by
  cases n with
  | nil => rfl
  | cons c r => rw [toCamel, camelGo_fixed r h]

theorem toUpper_eq_underscore {c : Char} (h : c.toUpper = '_') : c = '_' := by
  unfold Char.toUpper at h
  split at h
  · next hl =>
    have := congrArg (·.val.toNat) h
    simp [UInt32.toNat_add, UInt32.le_iff_toNat_le] at this hl
    omega
  · exact h

theorem toUpper_ne_underscore (c : Char) (hc : (c == '_') = false) : (c.toUpper == '_') = false := by
  rw [beq_eq_false_iff_ne] at hc ⊢
  exact fun h => hc (toUpper_eq_underscore h)

/-- no two underscores in a row -/
def noDouble : List Char → Bool
  | [] => true
  | c :: r => (!(c == '_') || match r with | [] => true | d :: _ => !(d == '_')) && noDouble r

theorem settledRest_pending : ∀ r : List Char, (match r with | [] => true | d :: _ => !(d == '_')) = true →
    settledRest (camelGo true r) = settledRest (camelGo false r)
  | [], _ => rfl
  | d :: r, h => by
      have hu : (d == '_') = false := by simpa using h
      cases hw : isWordChar d
      · simp [camelGo, settledRest, hw, hu]
      · simp [camelGo, settledRest, hw, hu, toUpper_ne_underscore d hu]

theorem settledRest_camelGo : ∀ r : List Char, noDouble r = true → settledRest (camelGo false r) = true
  | [], _ => rfl
  | c :: r, h => by
      simp only [noDouble, Bool.and_eq_true, Bool.or_eq_true] at h
      obtain ⟨hc, hr⟩ := h
      rw [camelGo]
      split
      · next hcu =>
        rw [settledRest_pending r (hc.resolve_left (by simp [hcu]))]
        exact settledRest_camelGo r hr
      · next hcu =>
        simp [settledRest, hcu, settledRest_camelGo r hr]

/-- the camelCase name of a name without doubled underscores is settled ... -/
theorem settled_toCamel (n : Name) (h : noDouble n = true) : settled (toCamel n) = true := by
  cases n with
  | nil => rfl
  | cons c r =>
      simp only [noDouble, Bool.and_eq_true] at h
      exact settledRest_camelGo r h.2

/-- ... so `_to_camel_case` is idempotent on such names (it is not in general: `a__b -> a_b -> aB`) -/
theorem toCamel_idempotent (n : Name) (h : noDouble n = true) : toCamel (toCamel n) = toCamel n :=
  toCamel_fixed _ (settled_toCamel n h)

/-- the test for the empty name in `convert_parameter_name` changes nothing: stripping and converting
    leave the empty name empty -/
theorem convertParameterName_eq (n : Name) (c : Option Conv) :
    convertParameterName n c =
      match c with
      | none => rstripUnderscore n
      | some c => c.convertParameterName (rstripUnderscore n) := by
  cases n with
  | cons a r => rfl
  | nil => cases c with
    | none => rfl
    | some c => cases c <;> rfl

/-- a settled name without trailing underscores is a fixed point of `convert_parameter_name` under every
    convention (and without one) -/
theorem convertParameterName_settled (n : Name) (c : Option Conv) (hs : settled n = true)
    (hr : rstripUnderscore n = n) : convertParameterName n c = n := by
  rw [convertParameterName_eq, hr]
  cases c with
  | none => rfl
  | some c => cases c with
    | camel => exact toCamel_fixed n hs
    | python => rfl

/-- PythonConvention names are fixed points of the PythonConvention -/
theorem convertParameterName_python_idem (n : Name) :
    convertParameterName (convertParameterName n (some .python)) (some .python) = convertParameterName n (some .python) := by
  rw [convertParameterName_eq, convertParameterName_eq]
  exact rstrip_idempotent n

/-- the camelCase keyword of the snake_case (PythonConvention) keyword is the camelCase keyword of the
    python parameter name: the two conventions name the same parameter -/
theorem camel_of_python (n : Name) :
    convertParameterName (convertParameterName n (some .python)) (some .camel) = convertParameterName n (some .camel) := by
  rw [convertParameterName_eq, convertParameterName_eq, convertParameterName_eq]
  exact congrArg toCamel (rstrip_idempotent n)

example : convertParameterName ['k', 'e', 'y', '_', 's', 'e', 'l', 'e', 'c', 't', 'o', 'r', '_'] (some .camel) = ['k', 'e', 'y', 'S', 'e', 'l', 'e', 'c', 't', 'o', 'r'] ∧
    convertParameterName ['k', 'e', 'y', '_', 's', 'e', 'l', 'e', 'c', 't', 'o', 'r', '_'] (some .python) = ['k', 'e', 'y', '_', 's', 'e', 'l', 'e', 'c', 't', 'o', 'r'] ∧
    convertParameterName ['k', 'e', 'y', '_', 's', 'e', 'l', 'e', 'c', 't', 'o', 'r', '_'] none = ['k', 'e', 'y', '_', 's', 'e', 'l', 'e', 'c', 't', 'o', 'r'] ∧
    settled ['k', 'e', 'y', 'S', 'e', 'l', 'e', 'c', 't', 'o', 'r'] = true ∧ settled ['k', 'e', 'y', '_', 's', 'e', 'l', 'e', 'c', 't', 'o', 'r'] = false ∧
    -- NOT idempotent in general: a doubled underscore leaves one behind
    toCamel ['a', '_', '_', 'b'] = ['a', '_', 'b'] ∧ toCamel ['a', '_', 'b'] = ['a', 'B'] ∧
    convertFunctionName ['#', 'p', 'r', 'o', 'p', 'e', 'r', 't', 'y', '#', 't', 'i', 'm', 'e', '_', 'z', 'o', 'n', 'e'] (some .camel) = .ok ['#', 'p', 'r', 'o', 'p', 'e', 'r', 't', 'y', '#', 't', 'i', 'm', 'e', 'Z', 'o', 'n', 'e'] ∧
    convertFunctionName ['#', 'o', 'p', 'e', 'r', 'a', 't', 'o', 'r', '_', '+'] (some .camel) = .ok ['#', 'o', 'p', 'e', 'r', 'a', 't', 'o', 'r', '_', '+'] ∧
    convertFunctionName ['_', '_'] (some .python) = .error .indexError := by
  decide +kernel

/-! ## call(): the keyword filter -/

/-- a key that `filter_parameters_dict` is there to drop: not a string, or a string that is no keyword -/
def junk : DKey → Bool
  | .str s => !isKeyword s
  | .other _ => true

/-- `filter_parameters_dict` does not see keys that are no keywords, wherever they sit -/
theorem filter_ignores_junk {α : Type} : ∀ kws : List (DKey × α),
    filterParametersDict (kws.filter fun kv => !junk kv.1) = filterParametersDict kws
  | [] => rfl
  | (.other _, _) :: r => filter_ignores_junk r
  | (.str s, v) :: r => by
      have ih := filter_ignores_junk r
      have hj : junk (.str s) = !isKeyword s := rfl
      cases hk : isKeyword s
      · simp only [List.filter_cons, hj, hk, Bool.not_false, Bool.not_true, Bool.false_eq_true, if_false, ih,
          filterParametersDict]
      · simp only [List.filter_cons, hj, hk, Bool.not_true, Bool.not_false, if_true, filterParametersDict, ih]

/-- the statement for EVERY key that is not a keyword, strings or not: such keys - any number, anywhere in the
    dictionary - never change the outcome of `call(name, args, kwargs)` -/
def call_junk_invariant_full : Prop :=
  ∀ (L : Lattice) (layers : List Layer) (recv : Option Val) (args : List Val) (kwargs : List (DKey × Val)),
    callFunc L layers recv args kwargs =
      callFunc L layers recv args (kwargs.filter fun kv => match kv.1 with | .str s => isKeyword s | .other _ => false)

theorem call_filter_nonkeywords (L : Lattice) (layers : List Layer) (recv : Option Val) (args : List Val)
    (kwargs : List (DKey × Val)) :
    callFunc L layers recv args kwargs = callFunc L layers recv args (kwargs.filter fun kv => !junk kv.1) := by
  simp [callFunc, callHandOver, filter_ignores_junk]

/-- the full statement holds for the code as it is since d6863d4 -/
theorem call_junk_invariant : call_junk_invariant_full := by
  intro L layers recv args kwargs
  have h : (fun kv : DKey × Val => match kv.1 with | .str s => isKeyword s | .other _ => false) =
      (fun kv => !junk kv.1) := by
    funext kv
    cases kv.1 <;> simp [junk]
  rw [h]
  exact call_filter_nonkeywords L layers recv args kwargs

/-- one such key between any two parts of the dictionary -/
theorem call_filter_one (L : Lattice) (layers : List Layer) (recv : Option Val) (args : List Val)
    (a b : List (DKey × Val)) (k : DKey) (v : Val) (h : junk k = true) :
    callFunc L layers recv args (a ++ (k, v) :: b) = callFunc L layers recv args (a ++ b) := by
  rw [call_filter_nonkeywords L layers recv args (a ++ (k, v) :: b), call_filter_nonkeywords L layers recv args (a ++ b)]
  simp [List.filter_append, List.filter, h]

/-- a key that is not a string is dropped like any other key that is no keyword (before d6863d4 it made
    `is_keyword` raise TypeError) -/
theorem call_nonstring_key_dropped (L : Lattice) (layers : List Layer) (recv : Option Val) (args : List Val)
    (a b : List (DKey × Val)) (t : Nat) (v : Val) :
    callFunc L layers recv args (a ++ (.other t, v) :: b) = callFunc L layers recv args (a ++ b) :=
  call_filter_one L layers recv args a b (.other t) v rfl

def strKeys {α : Type} (kws : List (Name × α)) : List (DKey × α) := kws.map fun kv => (.str kv.1, kv.2)

/-- keys that are keywords all reach the resolver, in order -/
theorem filter_keeps_keywords {α : Type} : ∀ kws : List (Name × α), (kws.all fun kv => isKeyword kv.1) = true →
    filterParametersDict (strKeys kws) = kws
  | [], _ => rfl
  | (k, v) :: r, h => by
      simp only [List.all_cons, Bool.and_eq_true] at h
      have ih := filter_keeps_keywords r h.2
      simp only [strKeys, List.map_cons] at ih ⊢
      simp [filterParametersDict, ih, h.1]

theorem call_keywords_pass (args : List Val) (kws : List (Name × Val)) (h : (kws.all fun kv => isKeyword kv.1) = true) :
    callHandOver args (strKeys kws) = (args.map .value, kws.map fun kv => (kv.1, .value kv.2)) := by
  simp [callHandOver, filter_keeps_keywords kws h]

/-- `call(name, args, kwargs)` with keyword keys gives the resolver what the direct spelling
    `name(args.., k => v ..)` gives it (`call_equiv` after the filter) -/
theorem call_resolver_input (args : List Val) (kws : List (Name × Val)) (ek1 ek2 : Nat) (lit : Lit) (v : Val)
    (h : (kws.all fun kv => isKeyword kv.1) = true) (hd : distinct (kws.map (·.1)) = true) :
    translateArgs false (callHandOver args (strKeys kws)).1 (callHandOver args (strKeys kws)).2 =
      translateArgs false ((callHandOver args (strKeys kws)).1 ++
        asMappingRules (callHandOver args (strKeys kws)).2 ek1 ek2 lit v) [] := by
  rw [call_keywords_pass args kws h]
  have hpos : (args.map Arg.value).all noMapRule = true := by simp [noMapRule]
  have hd' : distinct ((kws.map fun kv => (kv.1, Arg.value kv.2)).map (·.1)) = true := by
    simpa [List.map_map, Function.comp_def] using hd
  have := call_equiv (args.map .value) (kws.map fun kv => (kv.1, .value kv.2)) ek1 ek2 lit v hpos hd'
  rw [this.1, this.2]

example : isKeyword ['a'] = true ∧ isKeyword ['_', 'x'] = true ∧ isKeyword ['a', ' ', 'b'] = true ∧
    isKeyword [] = false ∧ isKeyword ['_', '_', 'x'] = false ∧ isKeyword ['1', 'a'] = false ∧
    isKeyword [' ', 'a'] = false ∧
    filterParametersDict [(.str ['a'], 1), (.str ['_', '_', 'x'], 2), (.other 7, 5), (.str [], 3), (.str ['b'], 4)] =
      [(['a'], 1), (['b'], 4)] := by
  decide +kernel

/-! ## keyword names that bind to `**kwargs` are data

The name handed to `**kwargs` is the name that was written - under EVERY convention, for every
definition: the convention decides which keywords are parameters (`keywordName`), it never touches
the others. -/

theorem splitKeywords_eq_partition {α : Type} (c : Option Conv) (decl : List (Name × Option Name))
    (kw : List (Name × α)) :
    splitKeywords c decl kw = kw.partition fun kv => (decl.map fun d => keywordName c d.2 d.1).contains kv.1 := by
  have hid : (kw.map fun kv => (callSiteKeyword c kv.1, kv.2)) = kw := List.map_id' kw
  rw [splitKeywords, hid, List.partition_eq_filter_filter]
  rfl

/-- every pair handed to `**kwargs` is a pair that was written (name and value), for every convention -/
theorem starstar_names_verbatim {α : Type} (c : Option Conv) (decl : List (Name × Option Name))
    (kw : List (Name × α)) : ∀ p ∈ (splitKeywords c decl kw).2, p ∈ kw := by
  intro p hp
  rw [splitKeywords_eq_partition] at hp
  exact List.mem_partition.mpr (.inr hp)

/-- ... no written pair is lost or renamed: it is bound to the parameter of that name, or handed on as it is -/
theorem starstar_keywords_partition {α : Type} (c : Option Conv) (decl : List (Name × Option Name))
    (kw : List (Name × α)) : ∀ p ∈ kw, p ∈ (splitKeywords c decl kw).1 ∨ p ∈ (splitKeywords c decl kw).2 := by
  intro p hp
  rw [splitKeywords_eq_partition]
  exact List.mem_partition.mp hp

/-- a definition without named parameters (`let`, the wrappers `def` makes) receives ALL keywords as
    written, in the order written, whatever the convention of the context -/
theorem starstar_all_verbatim {α : Type} (c : Option Conv) (kw : List (Name × α)) :
    splitKeywords c [] kw = ([], kw) := by
  simp [splitKeywords_eq_partition]

/-- the convention changes WHICH keywords are parameters, never the name of a keyword that is none:
    `my_var` next to a parameter declared `my_var` is the parameter under PythonConvention and data
    under CamelCaseConvention - where the parameter is `myVar` -, and arrives as `my_var` in both -/
example : splitKeywords (some .camel) [(['m', 'y', '_', 'v', 'a', 'r'], none)]
      [(['m', 'y', '_', 'v', 'a', 'r'], 1), (['m', 'y', 'V', 'a', 'r'], 2), (['a', '_'], 3)] =
      ([(['m', 'y', 'V', 'a', 'r'], 2)], [(['m', 'y', '_', 'v', 'a', 'r'], 1), (['a', '_'], 3)]) ∧
    splitKeywords (some .python) [(['m', 'y', '_', 'v', 'a', 'r'], none)]
      [(['m', 'y', '_', 'v', 'a', 'r'], 1), (['m', 'y', 'V', 'a', 'r'], 2), (['a', '_'], 3)] =
      ([(['m', 'y', '_', 'v', 'a', 'r'], 1)], [(['m', 'y', 'V', 'a', 'r'], 2), (['a', '_'], 3)]) := by decide +kernel

/-- at the level of `get_delegate` (the model the spelling theorems are about): when nothing is
    passed twice, the payload's keyword dictionary is the one of the named keyword-only parameters
    (a function of the values they receive) plus EVERY keyword no named parameter takes, under the
    name written, with the argument written -/
theorem starstar_delegate_verbatim (L : Lattice) (ps : List Param) (hwf : wfDef ps = true)
    (args : List Arg) (kw : KwArgs) (hnc : noClash ps args kw = true) (b : Bound)
    (h : getDelegate L ps args kw = some b) :
    ∃ c : Core, bindLoop L (fun p => effective ps p args kw) (core0 ps) ps = some c ∧
      b.kw = (extraKw ps kw).foldl (fun acc kv => aset kv.1 (.arg kv.2) acc) c.kw := by
  rw [getDelegate_eq_of_received L ps hwf args kw hnc] at h
  obtain ⟨c, hc, hf⟩ := Option.bind_eq_some_iff.mp h
  exact ⟨c, hc, (finish_some hf).2.2⟩

/-- ... and a definition whose parameters are all hidden / `*` / `**` takes none of them away -/
theorem extraKw_pure (ps : List Param) (kw : KwArgs) (h : argNames ps = []) : extraKw ps kw = kw := by
  simp [extraKw, h]

end Yaql.Props.C12
