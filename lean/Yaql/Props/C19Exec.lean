import Yaql.Model.Regex
/-!
C19 - the executable matcher used by the driver is a well-behaved instance of the abstract
matcher: every match it returns starts at or after the search position, lies inside the string
and honours `mustAdvance`.  Hence the acceptance test inside the model's iteration (`step`)
never rejects one of its matches: for this instance `step` IS the matcher.
-/
namespace Yaql.Props.C19Exec
open Yaql.Strings Yaql.Regex

/-- every way of matching ends at or after its start and inside the string -/
def Bounded (len : Nat) (g : Nat → Marks → List (Nat × Marks)) : Prop :=
  ∀ pos mk pm, pos ≤ len → pm ∈ g pos mk → pos ≤ pm.1 ∧ pm.1 ≤ len

theorem bounded_self {len : Nat} : Bounded len fun pos mk => [(pos, mk)] := by
  intro pos mk pm hp hm
  cases List.mem_singleton.mp hm
  exact ⟨Nat.le_refl _, hp⟩

theorem bounded_test {len : Nat} {c : Nat → Bool} :
    Bounded len fun pos mk => if c pos then [(pos, mk)] else [] := by
  intro pos mk pm hp hm
  dsimp only at hm
  split at hm
  · exact bounded_self pos mk pm hp hm
  · cases hm

theorem bounded_char {s : Str} {c : Char → Bool} :
    Bounded s.length fun pos mk => match s[pos]? with
      | some d => if c d then [(pos + 1, mk)] else []
      | none => [] := by
  intro pos mk pm _ hm
  dsimp only at hm
  split at hm
  · next d hd =>
    have := bounded_test (c := fun _ => c d) (pos + 1) mk pm
      (Nat.succ_le_of_lt (List.getElem?_eq_some_iff.mp hd).1) hm
    exact ⟨Nat.le_of_succ_le this.1, this.2⟩
  · cases hm

theorem Bounded.greedy {len : Nat} {g : Bool} {l : Nat → Marks → List (Nat × Marks)} (hl : Bounded len l) :
    Bounded len fun pos mk => if g then l pos mk ++ [(pos, mk)] else (pos, mk) :: l pos mk := by
  intro pos mk pm hp hm
  cases g
  · exact (List.mem_cons.mp hm).elim (fun e => bounded_self pos mk pm hp (e ▸ List.mem_singleton_self _))
      (hl pos mk pm hp)
  · exact (List.mem_append.mp hm).elim (hl pos mk pm hp) (bounded_self pos mk pm hp)

theorem Bounded.flatMap {len : Nat} {g h : Nat → Marks → List (Nat × Marks)} (hg : Bounded len g)
    (hh : Bounded len h) : Bounded len fun pos mk => (g pos mk).flatMap fun pm => h pm.1 pm.2 := by
  intro pos mk pm hp hm
  obtain ⟨pm0, h0, h1⟩ := List.mem_flatMap.mp hm
  have ha := hg pos mk pm0 hp h0
  have hb := hh pm0.1 pm0.2 pm ha.2 h1
  exact ⟨Nat.le_trans ha.1 hb.1, hb.2⟩

theorem starLoop_bounded {len : Nat} (greedy : Bool) (body : Nat → Marks → List (Nat × Marks))
    (hb : Bounded len body) (fuel : Nat) : Bounded len (starLoop greedy body fuel) := by
  induction fuel with
  | zero => exact bounded_self
  | succ n ih =>
    refine Bounded.greedy fun pos => ?_
    refine hb.flatMap (h := fun a b => if a ≤ pos then [(a, b)] else starLoop greedy body n a b)
      (fun a b pm ha hm => ?_) pos
    dsimp only at hm
    split at hm
    · exact bounded_self a b pm ha hm
    · exact ih a b pm ha hm

theorem mRe_bounded (e : Env) (r : Re) : Bounded e.s.length (mRe e r) := by
  induction r with
  | eps => exact bounded_self
  | lit c => exact bounded_char
  | cls neg cs => exact bounded_char
  | dot => exact bounded_char
  | bol => exact bounded_test
  | eol => exact bounded_test
  | seq a b iha ihb => exact iha.flatMap ihb
  | alt a b iha ihb =>
    exact fun pos mk pm hp hm => (List.mem_append.mp hm).elim (iha pos mk pm hp) (ihb pos mk pm hp)
  | star g r ih => exact starLoop_bounded g _ ih _
  | plus g r ih => exact ih.flatMap (starLoop_bounded g _ ih _)
  | opt g r ih => exact ih.greedy
  | grp i r ih =>
    intro pos mk pm hp hm
    obtain ⟨pm0, h0, rfl⟩ := List.mem_map.mp hm
    exact ih pos mk pm0 hp h0

theorem firstOk_some {adv : Bool} {start : Nat} {l : List (Nat × Marks)} {pm : Nat × Marks}
    (h : firstOk adv start l = some pm) : pm ∈ l ∧ (adv = true → pm.1 ≠ start) := by
  fun_induction firstOk adv start l with
  | case1 => cases h
  | case2 a l hc ih => exact ⟨List.mem_cons_of_mem _ (ih h).1, (ih h).2⟩
  | case3 a l hc =>
    cases h
    exact ⟨List.mem_cons_self, fun ha e => hc (Bool.and_eq_true_iff.mpr ⟨ha, beq_iff_eq.mpr e⟩)⟩

theorem execSearch_sane {e : Env} {p : Pattern} {fuel st : Nat} {a : Bool} {m : Match}
    (h : execSearch e p fuel st a = some m) :
    st ≤ m.whole.start ∧ m.whole.start ≤ m.whole.stop ∧ m.whole.stop ≤ e.s.length ∧
      (a = true → st < m.whole.stop) := by
  fun_induction execSearch e p fuel st a with
  | case3 fuel st a hlen pm hpm =>
    cases h
    obtain ⟨hmem, hno⟩ := firstOk_some hpm
    have hb := mRe_bounded e p.re st _ pm (Nat.le_of_not_lt hlen) hmem
    exact ⟨Nat.le_refl _, hb.1, hb.2, fun ha => Nat.lt_of_le_of_ne hb.1 (hno ha).symm⟩
  | case4 fuel st a hlen hnone ih =>
    have h1 := ih h
    exact ⟨Nat.le_of_succ_le h1.1, h1.2.1, h1.2.2.1, fun _ => Nat.lt_of_lt_of_le h1.1 h1.2.1⟩
  | _ => cases h

/-- **execMatcher_sane**: the acceptance test of the model's iteration always succeeds on the
    executable matcher -/
theorem execMatcher_sane (fold : Char → Char) (p : Pattern) (f : Flags) (s : Str) (pos : Nat) (adv : Bool)
    (m : Match) (h : execMatcher fold p f s pos adv = some m) : m.sane s.length pos adv = true := by
  obtain ⟨h1, h2, h3, h4⟩ := execSearch_sane h
  rw [Match.sane, decide_eq_true h1, decide_eq_true h2, decide_eq_true h3]
  cases adv
  · rfl
  · rw [beq_eq_false_iff_ne.mpr (Nat.ne_of_gt (h4 rfl))]
    rfl

/-- so, for the executable matcher, one step of the iteration is one call of the matcher -/
theorem step_execMatcher (fold : Char → Char) (p : Pattern) (f : Flags) (s : Str) (pos : Nat) (adv : Bool) :
    step (execMatcher fold) p f s pos adv = execMatcher fold p f s pos adv := by
  unfold step
  cases h : execMatcher fold p f s pos adv with
  | none => rfl
  | some m => simp [execMatcher_sane fold p f s pos adv m h]

/-! ### the matcher on a few patterns whose outcome depends on the details of backtracking -/

def P (r : Re) (n : Nat := 0) (names : List (Str × Nat) := []) : Pattern := { re := r, ngroups := n, names := names }

/-- `(a*)*` on "b": one empty iteration, group 1 = '' -/
example : execMatcher id (P (.star true (.grp 1 (.star true (.lit 'a')))) 1) {} ['b'] 0 false =
    some { whole := ⟨0, 0⟩, groups := [some ⟨0, 0⟩] } := by decide +kernel
/-- `(a|b)*` on "ab": the group holds the last iteration -/
example : execMatcher id (P (.star true (.grp 1 (.alt (.lit 'a') (.lit 'b')))) 1) {} ['a', 'b'] 0 false =
    some { whole := ⟨0, 2⟩, groups := [some ⟨1, 2⟩] } := by decide +kernel
/-- `(?P<n>a)|b` on "xb": found at 1, the named group did not take part -/
example : execMatcher id (P (.alt (.grp 1 (.lit 'a')) (.lit 'b')) 1 [(['n'], 1)]) {} ['x', 'b'] 0 false =
    some { whole := ⟨1, 2⟩, groups := [none], names := [(['n'], 1)] } := by decide +kernel
/-- `|a` on "a" when the search has to advance: the empty alternative is skipped -/
example : execMatcher id (P (.alt .eps (.lit 'a'))) {} ['a'] 0 true = some { whole := ⟨0, 1⟩ } := by decide +kernel
/-- `a*?` is lazy, `^`/`$` under MULTILINE see the line breaks, `.` stops at a newline without DOTALL -/
example : execMatcher id (P (.seq (.star false (.lit 'a')) (.lit 'a'))) {} ['a', 'a'] 0 false =
    some { whole := ⟨0, 1⟩ } := by decide +kernel
example : execMatcher id (P (.seq .bol (.lit 'b'))) { multiLine := true } ['a', '\n', 'b'] 0 false =
    some { whole := ⟨2, 3⟩ } := by decide +kernel
example : execMatcher id (P (.seq .bol (.lit 'b'))) {} ['a', '\n', 'b'] 0 false = none := by decide +kernel
example : execMatcher id (P (.plus true .dot)) {} ['a', '\n', 'b'] 0 false = some { whole := ⟨0, 1⟩ } := by decide +kernel
example : execMatcher id (P (.plus true .dot)) { dotAll := true } ['a', '\n', 'b'] 0 false =
    some { whole := ⟨0, 3⟩ } := by decide +kernel
example : execMatcher asciiLower (P (.lit 'a')) { ignoreCase := true } ['x', 'A'] 0 false =
    some { whole := ⟨1, 2⟩ } := by decide +kernel

end Yaql.Props.C19Exec
