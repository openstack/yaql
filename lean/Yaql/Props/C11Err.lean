import Yaql.Props.C11
/-!
C11 on ERROR paths and for lazy values that NOTHING CONSUMES.

Part 4 (over `Yaql.EvalOrder.run`): an evaluation that ends in an exception has evaluated a PREFIX of what the same
expression evaluates when the failing call succeeds - every argument in front of the failure once, in order, nothing
behind it, nothing twice (`run_prefix`, `run_complete`, `run_of_noRaise`, `calls_prefix_of_probes`, `calls_nodup`);
the same for the one pass of `choose_overload` over arguments whose evaluation may raise (`evalPassE_prefix`,
`evalPassE_first_raise`).

Part 5: the per-element lambdas of a lazy value in a position that does not iterate it (truth / null test, condition or
branch of `switch` / `selectCase` / `coalesce`, element of a list or value of a dict that is dropped, argument handed on,
binding never read) are never applied (`unconsumed_never_fires`), and over `Yaql.PerElem`: a pipeline of ANY stages
over ANY source of which no result is asked for fires nothing (`not_consumed_no_application`), its first `k` results fire
what `take k` lets through (`consumed_prefix_only`).
-/
namespace Yaql.Props.C11
open Yaql.EvalOrder

/-! ## part 4: evaluations that end in an exception -/

/-- element-wise relation of two lists of the same length -/
inductive All2 {α β : Type} (P : α → β → Prop) : List α → List β → Prop
  | nil : All2 P [] []
  | cons {a b l m} : P a b → All2 P l m → All2 P (a :: l) (b :: m)

theorem app_sub {a a' b b' : List Nat} (h1 : a ⊆ a') (h2 : b ⊆ b') : a ++ b ⊆ a' ++ b' :=
  List.append_subset.2 ⟨List.subset_append_of_subset_left _ h1, List.subset_append_of_subset_right _ h2⟩

/-- `r` is an evaluation of something whose complete log would be `t`: it got through a prefix of `t`, and through
    all of it unless it ended in an exception -/
def Upto (r : R) (t : List Nat) : Prop := r.1 <+: t ∧ (r.2 = false → r.1 = t)

theorem Upto.ok (t : List Nat) : Upto (t, false) t := ⟨List.prefix_refl _, fun _ => rfl⟩

theorem Upto.failed {t u : List Nat} (h : t <+: u) : Upto (t, true) u := ⟨h, nofun⟩

theorem upto_left {a : R} {ta : List Nat} (tb : List Nat) (ha : Upto a ta) (hf : a.2 = true) : Upto a (ta ++ tb) :=
  ⟨ha.1.trans (List.prefix_append _ _), fun h' => by rw [hf] at h'; cases h'⟩

theorem thenR_upto {a b : R} {ta tb : List Nat} (ha : Upto a ta) (hb : Upto b tb) : Upto (thenR a b) (ta ++ tb) := by
  unfold thenR
  cases h : a.2 with
  | true => simpa only [if_true] using upto_left tb ha h
  | false =>
      simp only [Bool.false_eq_true, if_false]
      rw [ha.2 h]
      exact ⟨(List.prefix_append_right_inj _).2 hb.1, fun h' => congrArg _ (hb.2 h')⟩

/-- a relation between an evaluation and a complete log that holds of the complete evaluations and goes through
    sequencing.  Every operator of `run` puts the evaluations of its operands together with `thenR` exactly as the same
    operator of `trace` puts their logs together with `++`, so such a relation carries over from the operands to the
    operator (the lemmas below, one per operator, by unfolding both sides in step) and so from the probes to every
    expression (`Carries.run`). -/
structure Carries (Q : R → List Nat → Prop) : Prop where
  ok : ∀ t, Q (t, false) t
  app : ∀ {a b : R} {ta tb : List Nat}, Q a ta → Q b tb → Q (thenR a b) (ta ++ tb)

variable {Q : R → List Nat → Prop}

theorem Carries.seq (c : Carries Q) : ∀ {rs : List R} {ts : List (List Nat)}, All2 Q rs ts → Q (seqRun rs) ts.flatten
  | _, _, .nil => c.ok []
  | _, _, .cons h t => c.app h (c.seq t)

theorem Carries.upToFlag (c : Carries Q) : ∀ {rs : List R} {ts : List (List Nat)} (fs : List Bool), All2 Q rs ts →
    Q (untilFlagRun rs fs) (untilFlag ts fs)
  | _, _, _, .nil => c.ok []
  | _, _, [], .cons h t => c.app h (c.upToFlag [] t)
  | _, _, false :: fs, .cons h t => c.app h (c.upToFlag fs t)
  | _, _, true :: _, .cons h _ => h

theorem Carries.switch (c : Carries Q) : ∀ {cs : List R} {tc : List (List Nat)} (ts : List Bool) {vs : List R}
    {tv : List (List Nat)}, All2 Q cs tc → All2 Q vs tv → Q (switchRun cs ts vs) (switchTrace tc ts tv)
  | _, _, _, _, _, .nil, _ => c.ok []
  | _, _, [], _, _, .cons hc tc, .nil => c.app hc (c.switch [] tc .nil)
  | _, _, [], _, _, .cons hc tc, .cons _ tv => c.app hc (c.switch [] tc tv)
  | _, _, false :: ts, _, _, .cons hc tc, .nil => c.app hc (c.switch ts tc .nil)
  | _, _, true :: _, _, _, .cons hc _, .nil => hc
  | _, _, false :: ts, _, _, .cons hc tc, .cons _ tv => c.app hc (c.switch ts tc tv)
  | _, _, true :: _, _, _, .cons hc _, .cons hv _ => c.app hc hv

theorem Carries.calls (c : Carries Q) {b : R} {tb : List Nat} (hb : Q b tb) : ∀ (sl : List Bool) {os : List R}
    {tos : List (List Nat)}, All2 Q os tos → Q (callsRun b sl os) (callsTrace tb sl tos)
  | [], _, _, _ => c.ok []
  | true :: ps, _, _, ho => c.app hb (c.calls hb ps ho)
  | false :: ps, _, _, .nil => c.calls hb ps .nil
  | false :: ps, _, _, .cons h t => c.app h (c.calls hb ps t)

theorem Carries.getD (c : Carries Q) : ∀ {rs : List R} {ts : List (List Nat)} (i : Nat), All2 Q rs ts →
    Q (rs.getD i ([], false)) (ts.getD i [])
  | _, _, _, .nil => c.ok []
  | _, _, 0, .cons h _ => h
  | _, _, i + 1, .cons _ t => c.getD i t

def Cut (Q : R → List Nat → Prop) : Prop := ∀ {r : R} {t : List Nat}, Q r t → Q (thenR r ([], true)) t

mutual
theorem Carries.run (c : Carries Q) : ∀ (x : X), noRaise x = true ∨ Cut Q → Q (run x) (trace x)
  | .leaf, _ => c.ok []
  | .tick id a, h => c.app (c.run a h) (c.ok [id])
  | .eager ks, h => c.seq (c.runs ks h)
  | .and_ a b true, h => c.app (c.run a (h.imp_left and_l)) (c.run b (h.imp_left and_r))
  | .and_ a _ false, h => c.app (c.run a (h.imp_left and_l)) (c.ok [])
  | .or_ a _ true, h => c.app (c.run a (h.imp_left and_l)) (c.ok [])
  | .or_ a b false, h => c.app (c.run a (h.imp_left and_l)) (c.run b (h.imp_left and_r))
  | .elvis r true _, h => c.app (c.run r (h.imp_left and_l)) (c.ok [])
  | .elvis r false ks, h => c.app (c.run r (h.imp_left and_l)) (c.seq (c.runs ks (h.imp_left and_r)))
  | .switch cs ts vs, h => c.switch ts (c.runs cs (h.imp_left and_l)) (c.runs vs (h.imp_left and_r))
  | .selectCase ps ts, h => c.upToFlag ts (c.runs ps h)
  | .allCases ps, h => c.seq (c.runs ps h)
  | .switchCase c' none _, h => c.app (c.run c' (h.imp_left and_l)) (c.ok [])
  | .switchCase c' (some i) as, h => c.app (c.run c' (h.imp_left and_l)) (c.getD i (c.runs as (h.imp_left and_r)))
  | .coalesce as _, h => c.upToFlag _ (c.runs as h)
  | .defCalls b sl os, h => c.calls (c.run b (h.imp_left and_l)) sl (c.runs os (h.imp_left and_r))
  | .raise_ _, .inl h => (Bool.false_ne_true h).elim
  | .raise_ ks, .inr cut => cut (c.seq (c.runs ks (.inr cut)))
  | .lazy b _, h => c.seq (c.runs b h)
theorem Carries.runs (c : Carries Q) : ∀ (l : List X), noRaiseL l = true ∨ Cut Q → All2 Q (runs l) (traces l)
  | [], _ => .nil
  | x :: l, h => .cons (c.run x (h.imp_left and_l)) (c.runs l (h.imp_left and_r))
end

theorem upto_carries : Carries Upto := ⟨Upto.ok, thenR_upto⟩

/-- **the log of an evaluation, failing or not, against the log of the same expression when no call fails** -/
theorem run_upto (x : X) : Upto (run x) (trace x) :=
  upto_carries.run x <| .inr fun {_ t} h => List.append_nil t ▸ thenR_upto h (Upto.failed (List.prefix_refl []))

/-- **error paths**: whatever an evaluation that ends in an exception has logged is a prefix of the log of the same
    expression with the failing call succeeding - every probe in front of the failure fired as often and in the
    order it fires there (once each, left to right), none behind it, and none a second time -/
theorem run_prefix (x : X) : (run x).1 <+: trace x := (run_upto x).1

/-- an evaluation that does not end in an exception logs exactly `trace` -/
theorem run_complete (x : X) (h : (run x).2 = false) : (run x).1 = trace x := (run_upto x).2 h

/-! ### without a failing call there is no exception -/

theorem complete_carries : Carries fun r t => r = (t, false) :=
  ⟨fun _ => rfl, fun ha hb => by subst ha hb; rfl⟩

/-- the two evaluators agree wherever no call fails: `run` extends `trace` -/
theorem run_of_noRaise (x : X) (h : noRaise x = true) : run x = (trace x, false) :=
  complete_carries.run x (.inl h)

/-- a failing call fails: after its operands (unless one of them failed before) -/
theorem raise_fails (ks : List X) : (run (.raise_ ks)).2 = true := by
  simp only [run, thenR]
  split <;> simp_all

theorem raise_log (ks : List X) (h : noRaiseL ks = true) : (run (.raise_ ks)).1 = (traces ks).flatten := by
  simp [run, thenR, complete_carries.seq (complete_carries.runs ks (.inl h))]

/-! ### the fragment of calls with eager parameters: the log at the point of failure is a prefix of the
    left-to-right order of the probes, each once -/

mutual
theorem calls_trace : ∀ (x : X), callsOnly x = true → trace x = probes x
  | .leaf, _ => rfl
  | .tick id a, h => congrArg (· ++ [id]) (calls_trace a h)
  | .eager ks, h => congrArg List.flatten (calls_traceL ks h)
  | .raise_ ks, h => congrArg List.flatten (calls_traceL ks h)
theorem calls_traceL : ∀ (l : List X), callsOnlyL l = true → traces l = probesL l
  | [], _ => rfl
  | x :: r, h => by rw [traces, probesL, calls_trace x (and_l h), calls_traceL r (and_r h)]
end

/-- **eager arguments on an error path**: in an expression of calls with eager parameters, any of which may end in an
    exception, the log at the point of failure is a prefix of the probes in left-to-right (operand) order -/
theorem calls_prefix_of_probes (x : X) (h : callsOnly x = true) : (run x).1 <+: probes x := by
  rw [← calls_trace x h]; exact run_prefix x

/-- .. hence with numbered probes no probe fires twice, whether or not the evaluation ends in an exception -/
theorem calls_nodup (x : X) (h : callsOnly x = true) (hn : (probes x).Nodup) : (run x).1.Nodup :=
  hn.sublist (calls_prefix_of_probes x h).sublist

/-- the hypotheses are satisfiable, and the failure cuts the log where it should -/
example : run (.eager [.tick 1 .leaf, .raise_ [.tick 2 .leaf, .tick 3 .leaf], .tick 4 .leaf]) = ([1, 2, 3], true) := by decide
example : run (.eager [.tick 1 .leaf, .tick 5 (.raise_ []), .tick 4 .leaf]) = ([1], true) := by decide
example : trace (.eager [.tick 1 .leaf, .raise_ [.tick 2 .leaf, .tick 3 .leaf], .tick 4 .leaf]) = [1, 2, 3, 4] := by decide
example : callsOnly (.eager [.tick 1 .leaf, .raise_ [.tick 2 .leaf, .tick 3 .leaf], .tick 4 .leaf]) = true := by decide
/-- a failing call in an operand that is not selected is never reached -/
example : run (.and_ (.tick 1 .leaf) (.raise_ [.tick 2 .leaf]) false) = ([1], false) := by decide
example : run (.switch [.tick 1 .leaf, .tick 3 .leaf] [true, false] [.tick 2 (.raise_ []), .tick 4 .leaf]) = ([1], true) := by decide
example : run (.defCalls (.raise_ [.tick 1 .leaf]) [false, true, true] [.tick 2 .leaf]) = ([2, 1], true) := by decide
/-- an evaluation that is retried after the failure (what `run` excludes) would log `[1, 2, 1, 2]`: not a prefix -/
example : ¬ ([1, 2, 1, 2] <+: trace (.eager [.tick 1 .leaf, .raise_ [.tick 2 .leaf]])) := by decide

/-! ### the one pass of `choose_overload` over arguments whose evaluation may raise -/

open Yaql.Types Yaql.Resolve in
/-- `arg_evaluator` over the arguments left to right; `rs` says which arguments raise when they are evaluated (the
    `evalLog` of such an argument is what it logged before it raised) -/
def evalPassE : List Bool → List Arg → List Bool → List Nat × Bool
  | _, [], _ => ([], false)
  | lz, a :: r, rs =>
      if !lz.headD false && a.evaluable then
        (if rs.headD false then (a.evalLog, true) else thenR (a.evalLog, false) (evalPassE lz.tail r rs.tail))
      else evalPassE lz.tail r rs.tail

open Yaql.Types Yaql.Resolve in
/-- on an error path the log of the pass is a prefix of the log of the complete pass (`eager_once_in_order`: every eager
    non-constant argument once, left to right), and the whole of it when no argument raises -/
theorem evalPassE_prefix : ∀ (lz : List Bool) (args : List Arg) (rs : List Bool),
    Upto (evalPassE lz args rs) (eagerLog lz args)
  | _, [], _ => Upto.ok []
  | lz, a :: r, rs => by
      simp only [evalPassE, eagerLog]
      cases h : (!lz.headD false && a.evaluable)
      · simpa using evalPassE_prefix lz.tail r rs.tail
      · simp only [if_true]
        cases h2 : rs.headD false
        · simp only [Bool.false_eq_true, if_false]
          exact thenR_upto (Upto.ok _) (evalPassE_prefix lz.tail r rs.tail)
        · simp only [if_true]
          exact Upto.failed (List.prefix_append _ _)

open Yaql.Types Yaql.Resolve in
/-- .. and ends with the first eager argument that raises: nothing behind it is evaluated -/
theorem evalPassE_raise_at (a : Arg) (post : List Arg) (rs : List Bool) : ∀ (pre : List Arg) (lz : List Bool),
    (!(lz.drop pre.length).headD false && a.evaluable) = true →
      evalPassE lz (pre ++ a :: post) (List.replicate pre.length false ++ true :: rs) = (eagerLog lz pre ++ a.evalLog, true)
  | [], lz, hev => by
      simp only [List.length_nil, List.drop_zero] at hev
      simp only [List.length_nil, List.replicate_zero, List.nil_append, evalPassE, hev, if_true, List.headD_cons, eagerLog]
  | p :: ps, lz, hev => by
      have ih := evalPassE_raise_at a post rs ps lz.tail (by simpa [List.drop_tail] using hev)
      simp only [List.cons_append, List.length_cons, List.replicate_succ, evalPassE, eagerLog, List.headD_cons,
        List.tail_cons, Bool.false_eq_true, if_false, ih]
      split <;> simp [thenR]

open Yaql.Types Yaql.Resolve in
theorem evalPassE_first_raise (lz : List Bool) (pre : List Arg) (a : Arg) (post : List Arg) (rs : List Bool)
    (hpre : rs.take pre.length = List.replicate pre.length false) (hlen : pre.length < rs.length)
    (ha : rs.getD pre.length false = true) (hev : (!(lz.drop pre.length).headD false && a.evaluable) = true) :
    evalPassE lz (pre ++ a :: post) rs = (eagerLog lz pre ++ a.evalLog, true) := by
  have hn : rs[pre.length] = true := by simpa [List.getD_eq_getElem?_getD, hlen] using ha
  have hrs := List.take_append_drop pre.length rs
  rw [hpre, List.drop_eq_getElem_cons hlen, hn] at hrs
  rw [← hrs]
  exact evalPassE_raise_at a post _ pre lz hev


/-! ## part 5: lazy values that nothing consumes -/

variable {u : List Nat}

/-- the operators of `trace` add nothing of their own (here and in the three lemmas that follow) -/
theorem untilFlag_subset : ∀ (ts : List (List Nat)) (fs : List Bool), ts.flatten ⊆ u → untilFlag ts fs ⊆ u
  | [], _, _ => List.nil_subset _
  | _ :: r, fs, h => by
      have ⟨ht, hr⟩ := List.append_subset.1 h
      rw [untilFlag_cons]
      split
      · exact ht
      · exact List.append_subset.2 ⟨ht, untilFlag_subset r _ hr⟩

theorem switchTrace_subset : ∀ (cs : List (List Nat)) (ts : List Bool) (vs : List (List Nat)),
    cs.flatten ⊆ u → vs.flatten ⊆ u → switchTrace cs ts vs ⊆ u
  | [], _, _, _, _ => List.nil_subset _
  | _ :: cs, ts, vs, hc, hv => by
      have ⟨h1, hcs⟩ := List.append_subset.1 hc
      have ⟨hv0, hvs⟩ : vs.headD [] ⊆ u ∧ vs.tail.flatten ⊆ u := by
        cases vs
        · exact ⟨List.nil_subset _, hv⟩
        · exact List.append_subset.1 hv
      rw [switchTrace_cons]
      refine List.append_subset.2 ⟨h1, ?_⟩
      split
      · exact hv0
      · exact switchTrace_subset cs _ _ hcs hvs

theorem callsTrace_subset {b : List Nat} (hb : b ⊆ u) : ∀ (sl : List Bool) (os : List (List Nat)),
    os.flatten ⊆ u → callsTrace b sl os ⊆ u
  | [], _, _ => List.nil_subset _
  | true :: ps, os, ho => List.append_subset.2 ⟨hb, callsTrace_subset hb ps os ho⟩
  | false :: ps, [], ho => callsTrace_subset hb ps [] ho
  | false :: ps, _ :: os, ho =>
      have ⟨h1, hos⟩ := List.append_subset.1 ho
      List.append_subset.2 ⟨h1, callsTrace_subset hb ps os hos⟩

theorem getD_subset : ∀ (ts : List (List Nat)) (i : Nat), ts.flatten ⊆ u → ts.getD i [] ⊆ u
  | [], _, _ => List.nil_subset _
  | _ :: _, 0, h => (List.append_subset.1 h).1
  | _ :: r, i + 1, h => getD_subset r i (List.append_subset.1 h).2

theorem flatten_subset_flatten : ∀ {a b : List (List Nat)}, All2 (· ⊆ ·) a b → a.flatten ⊆ b.flatten
  | _, _, .nil => List.Subset.refl _
  | _, _, .cons h t => app_sub h (flatten_subset_flatten t)

mutual
/-- whatever fires is awake: a probe inside a per-element lambda of a lazy value that nothing iterates never fires -/
theorem trace_subset_awake : ∀ (x : X), trace x ⊆ awake x
  | .leaf => List.nil_subset _
  | .tick _ a => app_sub (trace_subset_awake a) (List.Subset.refl _)
  | .eager ks => flatten_subset_flatten (traces_subset_awake ks)
  | .and_ a b true => app_sub (trace_subset_awake a) (trace_subset_awake b)
  | .and_ a _ false => app_sub (trace_subset_awake a) (List.nil_subset _)
  | .or_ a _ true => app_sub (trace_subset_awake a) (List.nil_subset _)
  | .or_ a b false => app_sub (trace_subset_awake a) (trace_subset_awake b)
  | .elvis r true _ => app_sub (trace_subset_awake r) (List.nil_subset _)
  | .elvis r false ks => app_sub (trace_subset_awake r) (flatten_subset_flatten (traces_subset_awake ks))
  | .switch cs ts vs => switchTrace_subset _ ts _
      (List.subset_append_of_subset_left _ (flatten_subset_flatten (traces_subset_awake cs)))
      (List.subset_append_of_subset_right _ (flatten_subset_flatten (traces_subset_awake vs)))
  | .selectCase ps ts => untilFlag_subset _ ts (flatten_subset_flatten (traces_subset_awake ps))
  | .allCases ps => flatten_subset_flatten (traces_subset_awake ps)
  | .switchCase c none _ => app_sub (trace_subset_awake c) (List.nil_subset _)
  | .switchCase c (some i) as => app_sub (trace_subset_awake c) (getD_subset _ i (flatten_subset_flatten (traces_subset_awake as)))
  | .coalesce as _ => untilFlag_subset _ _ (flatten_subset_flatten (traces_subset_awake as))
  | .defCalls b sl os => callsTrace_subset (List.subset_append_of_subset_left _ (trace_subset_awake b)) sl _
      (List.subset_append_of_subset_right _ (flatten_subset_flatten (traces_subset_awake os)))
  | .raise_ ks => flatten_subset_flatten (traces_subset_awake ks)
  | .lazy b _ => flatten_subset_flatten (traces_subset_awake b)
theorem traces_subset_awake : ∀ (l : List X), All2 (· ⊆ ·) (traces l) (awakeL l)
  | [] => .nil
  | x :: r => .cons (trace_subset_awake x) (traces_subset_awake r)
end

/-- **not consumed -> no application**: if the probes inside the per-element lambdas of the lazy values have numbers
    of their own (no probe outside carries one of them), none of them is in the log of the expression - neither when
    the evaluation completes nor when it ends in an exception.  Truth and null tests (`and`, `or`, `not`, `bool`,
    conditions of `switch` / `selectCase` / `coalesce`, predicate results), lists and dicts that hold the value, calls
    that hand it on and `let` bindings are the operators of `X`: none of them iterates its operand. -/
theorem unconsumed_never_fires (x : X) (h : ∀ i ∈ dormant x, i ∉ awake x) :
    ∀ i ∈ dormant x, i ∉ trace x ∧ i ∉ (run x).1 := by
  intro i hi
  refine ⟨fun ht => h i hi (trace_subset_awake x ht), fun hr => ?_⟩
  exact h i hi (trace_subset_awake x ((run_prefix x).subset hr))

/-- `tick(1, [3, 1, 2]).orderBy(tick(2, $)) and tick(3, 5)`: the collection and the right operand, no key -/
example : trace (.and_ (.lazy [.tick 1 .leaf] [.tick 2 .leaf]) (.tick 3 .leaf) true) = [1, 3] := by decide
example : dormant (.and_ (.lazy [.tick 1 .leaf] [.tick 2 .leaf]) (.tick 3 .leaf) true) = [2] := by decide
example : ∀ i ∈ dormant (.and_ (.lazy [.tick 1 .leaf] [.tick 2 .leaf]) (.tick 3 .leaf) true),
    i ∉ awake (.and_ (.lazy [.tick 1 .leaf] [.tick 2 .leaf]) (.tick 3 .leaf) true) := by decide
/-- `switch(xs.where(tick(2, $)) => tick(3, xs.select(tick(4, $))))` stored in a list that is dropped -/
example : trace (.eager [.eager [.switch [.lazy [] [.tick 2 .leaf]] [true] [.tick 3 (.lazy [] [.tick 4 .leaf])], .tick 5 .leaf],
    .tick 6 .leaf]) = [3, 5, 6] := by decide

/-! ### the same over the stream model: results nobody asks for -/

open Yaql.PerElem

theorem runPipe_append (ms ns : List Stage) (I : Strm) : runPipe (ms ++ ns) I = runPipe ns (runPipe ms I) := by
  simp [runPipe, List.foldl_append]

/-- **a pipeline of ANY stages over ANY source of which no result is asked for fires nothing**: no element is pulled,
    so no per-element lambda (selector, predicate, key of an ordering, ..) is applied -/
theorem not_consumed_no_application (ms : List Stage) (I : Strm) :
    (runPipe (ms ++ [stageOf (.take 0)]) I).log = [] := by
  rw [runPipe_append]
  simp only [runPipe, List.foldl_cons, List.foldl_nil]
  exact take_zero_log _

theorem not_consumed_no_application_ops (ops : List Op) (src : Strm) : pipeLog (ops ++ [.take 0]) src = [] := by
  simp only [pipeLog, List.map_append, List.map_cons, List.map_nil]
  exact not_consumed_no_application _ _

/-- asking for k+1 results of a pipeline that has them fires what its first k+1 results carry, nothing of the rest -/
theorem consumed_prefix_only (ms : List Stage) (I : Strm) (k : Nat) (hk : k + 1 ≤ (runPipe ms I).outs.length) :
    (runPipe (ms ++ [stageOf (.take (k + 1))]) I).log = ((runPipe ms I).outs.take (k + 1)).flatten := by
  rw [runPipe_append]
  simp only [runPipe, List.foldl_cons, List.foldl_nil]
  exact take_log _ k hk

example : pipeLog [.select [.tick 1 .leaf, .tick 1 .leaf, .tick 1 .leaf], .filter [.tick 2 .leaf, .tick 2 .leaf, .tick 2 .leaf]
    [true, true, true], .take 0] (listSrc 3) = [] := by decide
example : pipeLog [.select [.tick 1 .leaf, .tick 1 .leaf, .tick 1 .leaf], .filter [.tick 2 .leaf, .tick 2 .leaf, .tick 2 .leaf]
    [true, true, true]] (listSrc 3) = [1, 2, 1, 2, 1, 2] := by decide

end Yaql.Props.C11
