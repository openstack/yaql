import Yaql.Props.C20
import Yaql.Props.FloatRound
/-!
C20, the float-valued results as the doubles the code returns.

`Props/C20.lean` states the laws of the unit properties and of `.timestamp` on exact rationals.  This file ties the
doubles the model returns (`tsHoursF`, `dtTimestampF`, `tsDivTsF` - what the harness compares bit for bit with the real
results) to those rationals through `Yaql.FloatRound.roundRat`, the correctly rounded conversion proved nearest /
ties-to-even / exact / monotone in `Props/FloatRound.lean`:

* `units_float` - `x.hours` is `float(x.microseconds) / 3600000000.0`: two correctly rounded steps, the first exact up
  to 2^53 microseconds; then (`tsUnitF_single`) the result IS `roundRat x 3600000000`, one rounding of the exact
  quotient; `tsUnitF_exact`: a whole number of units (`timespan(hours => k).hours`) is exactly `k`;
  `tsUnitF_mono`: monotone in `x`, for all `x` (both steps are monotone); `tsUnitF_value`: the general two-step value.
* `timestamp_float` - `.timestamp` is `roundRat microseconds 10^6` (one rounding: `timedelta.total_seconds()` divides two
  ints); `timestamp_float_roundtrip`: `datetime(s, o).timestamp` is the double `s` itself, bit for bit, whenever `s` is a
  whole number of microseconds.
* `tsDivTs_float` - `ts1 / ts2` is `float(us1) / float(us2)`, one rounding of `us1 / us2` below 2^53.
* `ts_scale_float` - `ts * n`, `ts / n` through the float steps the code performs (`tsMulNumF`, `tsDivNumF`: `int / int` or
  `float(int)` and one IEEE division / multiplication, then `timedelta(microseconds=<float>)`): exact for an int factor and for a
  division that comes out even, ZeroDivisionError for a zero divisor.
-/
namespace Yaql.Props.C20
open Yaql.DateTime Yaql.FloatRound Yaql.Props.FloatRound

/-- the five unit constants -/
def IsUnit (u : Int) : Prop := u = 1000 ∨ u = 1000000 ∨ u = 60000000 ∨ u = 3600000000 ∨ u = 86400000000

theorem IsUnit.bounds {u : Int} (h : IsUnit u) : 1 ≤ u ∧ u.natAbs ≤ 2 ^ 53 := by
  rcases h with h | h | h | h | h <;> subst h <;> decide

theorem IsUnit.pos {u : Int} (h : IsUnit u) : 0 < u := Int.lt_of_lt_of_le (by decide) h.bounds.1

theorem pyFloat_ok {i : Int} {w : UInt64} : pyFloat i = .ok w ↔ roundRat i 1 = .ok w := by
  unfold pyFloat
  rw [← floatOfInt_some]
  cases floatOfInt i <;> simp

/-- one IEEE division of `+0.0` by a positive double is `+0.0` -/
theorem divBits_zero (g : UInt64) (b : Int) (hg : decode g = .fin b) (hb : 0 < b) : divBits 0 g = 0 := by
  rw [divBits_pos_eq 0 g 0 b (by decide) hg hb]; rfl

theorem pyFloatDiv_int (f g : UInt64) (b : Int) (hg : decode g = .fin (b * scale)) (hb : b ≠ 0) :
    pyFloatDiv f g = .ok (divBits f g) := by
  unfold pyFloatDiv
  rw [if_neg]
  intro hz
  have := decode_zero_bits g hz
  rw [hg] at this
  injection this with this
  have hS := scale_posI
  rcases Int.mul_eq_zero.mp this with h | h <;> omega

/-- a rational of magnitude at most `B ≤ 2^53` does not overflow -/
theorem roundRat_bounded (num : Int) (den B : Nat) (hd : 0 < den) (hB : B ≤ 2 ^ 53) (h : num.natAbs ≤ B * den) :
    ∃ w, roundRat num den = .ok w := by
  have hBd : ((B * den : Nat) : Int) = (B : Int) * den := by push_cast; rfl
  obtain ⟨wp, hp1, hp2⟩ := roundRat_int_small (B : Int) (by simpa using hB)
  obtain ⟨wn, hn1, hn2⟩ := roundRat_int_small (-(B : Int)) (by simpa using hB)
  have up := roundRat_mono num B den 1 hd (by decide) (by omega)
  have lo := roundRat_mono (-(B : Int)) num 1 den (by decide) hd (by rw [Int.neg_mul]; omega)
  rw [hp1] at up
  rw [hn1] at lo
  simp only [Rounded.ext, hp2] at up
  simp only [Rounded.ext, hn2] at lo
  rcases roundRat_cases num hd with ⟨_, e⟩ | ⟨_, e⟩
  · exact ⟨_, e⟩
  · rw [e] at up lo
    generalize decide (num < 0) = neg at up lo
    cases neg
    · simp [Ext.le] at up
    · simp [Ext.le] at lo

theorem divBits_ints (a b : Int) (f g w : UInt64) (hb : 0 < b) (hf1 : roundRat a 1 = .ok f)
    (hf : decode f = .fin (a * scale)) (hg : decode g = .fin (b * scale)) (hw : roundRat a b.toNat = .ok w) :
    divBits f g = w := by
  have hS := scale_posI
  have hpos : 0 < b * scale := Int.mul_pos hb hS
  by_cases ha0 : a = 0
  · subst ha0
    rw [roundRat_zero _ (by decide)] at hf1
    injection hf1 with hf1
    rw [roundRat_zero _ (by omega)] at hw
    injection hw with hw
    rw [← hf1, ← hw]
    exact divBits_zero g _ hg hpos
  · apply divBits_pos_bits f g _ _ hf hg hpos
    · intro h0
      rcases Int.mul_eq_zero.mp h0 with h | h <;> omega
    · rw [← hw]
      apply roundRat_congr _ _ _ _ (by omega) (by omega)
      rw [Int.toNat_of_nonneg (Int.le_of_lt hpos), Int.toNat_of_nonneg (Int.le_of_lt hb)]; ring

/-! ## the unit properties -/

/-- the two steps of `microseconds(x) / <unit>.0`: both operands as doubles, then one division -/
theorem tsUnitF_steps (x u : Int) :
    tsUnitF x u = (do let f ← pyFloat x; let g ← pyFloat u; pyFloatDiv f g) := by
  unfold tsUnitF; rw [(units x).1]

theorem unit_float (u : Int) (hu : IsUnit u) :
    ∃ g, pyFloat u = .ok g ∧ decode g = .fin (u * scale) ∧ ∀ f, pyFloatDiv f g = .ok (divBits f g) := by
  obtain ⟨g, h1, h2⟩ := roundRat_int_small u hu.bounds.2
  exact ⟨g, pyFloat_ok.mpr h1, h2, fun f => pyFloatDiv_int f g u h2 (Int.ne_of_gt hu.pos)⟩

/-- **the value in general** (two roundings): the exact quotient of the double `float(x)` by the unit, rounded once -/
theorem tsUnitF_value (x u : Int) (hu : IsUnit u) (w : UInt64) (h : tsUnitF x u = .ok w) :
    ∃ f, pyFloat x = .ok f ∧ decode f = .fin (sval x 1) ∧
      decode w = (roundRat (sval x 1) (u * scale).toNat).ext := by
  rw [tsUnitF_steps] at h
  obtain ⟨g, hg1, hg2, hg3⟩ := unit_float u hu
  cases hf : pyFloat x with
  | error e => rw [hf] at h; cases h
  | ok f =>
    rw [hf, hg1] at h
    simp only [bind, Except.bind] at h
    rw [hg3 f] at h
    injection h with h
    have hdf : decode f = .fin (sval x 1) := roundRat_decode (pyFloat_ok.mp hf)
    have hpos : 0 < u * scale := Int.mul_pos hu.pos scale_posI
    refine ⟨f, rfl, hdf, ?_⟩
    rw [← h]
    exact divBits_pos f g _ _ hdf hg2 hpos

theorem tsUnitF_ints (a b : Int) (ha : a.natAbs ≤ 2 ^ 53) (hb : 0 < b) (hb2 : b.natAbs ≤ 2 ^ 53) :
    ∃ w, tsUnitF a b = .ok w ∧ roundRat a b.toNat = .ok w := by
  have hbpos : 0 < b.toNat := by omega
  obtain ⟨w, hw⟩ := roundRat_bounded a b.toNat (2 ^ 53) hbpos (Nat.le_refl _)
    (Nat.le_trans ha (Nat.le_mul_of_pos_right _ hbpos))
  refine ⟨w, ?_, hw⟩
  obtain ⟨f, hf1, hf2⟩ := roundRat_int_small a ha
  obtain ⟨g, hg1, hg2⟩ := roundRat_int_small b hb2
  rw [tsUnitF_steps, pyFloat_ok.mpr hf1, pyFloat_ok.mpr hg1]
  simp only [bind, Except.bind]
  rw [pyFloatDiv_int f g b hg2 (by omega), divBits_ints a b f g w hb hf1 hf2 hg2 hw]

/-- **one rounding below 2^53 microseconds** (285 years): `float(x)` is exact there, so the result is the exact
    quotient `x / unit` correctly rounded - `roundRat x unit`, bit for bit -/
theorem tsUnitF_single (x u : Int) (hu : IsUnit u) (hx : x.natAbs ≤ 2 ^ 53) :
    ∃ w, tsUnitF x u = .ok w ∧ roundRat x u.toNat = .ok w :=
  tsUnitF_ints x u hx hu.pos hu.bounds.2

/-- **exact on whole units**: `timespan(hours => k).hours` is the double `k`, exactly -/
theorem tsUnitF_exact (k u : Int) (hu : IsUnit u) (hk : (k * u).natAbs ≤ 2 ^ 53) :
    ∃ w, tsUnitF (k * u) u = .ok w ∧ decode w = .fin (k * scale) := by
  obtain ⟨w, h1, h2⟩ := tsUnitF_single (k * u) u hu hk
  have hu0 := hu.pos
  have hkk : k.natAbs ≤ 2 ^ 53 := by
    refine Nat.le_trans ?_ hk
    rw [Int.natAbs_mul]
    exact Nat.le_mul_of_pos_right _ (by omega)
  obtain ⟨w', h3, h4⟩ := roundRat_int_small k hkk
  have : roundRat (k * u) u.toNat = roundRat k 1 := by
    apply roundRat_congr _ _ _ _ (by omega) (by decide)
    rw [Int.toNat_of_nonneg (Int.le_of_lt hu0)]; simp
  rw [this, h3] at h2
  injection h2 with h2
  exact ⟨w, h1, h2 ▸ h4⟩

/-- **monotone in the timespan**, for all timespans (each of the two steps is monotone) -/
theorem tsUnitF_mono (x y u : Int) (hu : IsUnit u) (hxy : x ≤ y) (w1 w2 : UInt64)
    (h1 : tsUnitF x u = .ok w1) (h2 : tsUnitF y u = .ok w2) : Ext.le (decode w1) (decode w2) = true := by
  obtain ⟨_, _, _, e1⟩ := tsUnitF_value x u hu w1 h1
  obtain ⟨_, _, _, e2⟩ := tsUnitF_value y u hu w2 h2
  rw [e1, e2]
  have hpos : 0 < u * scale := Int.mul_pos hu.pos scale_posI
  have hm := sval_mono x y 1 1 (by decide) (by decide) (by omega)
  apply roundRat_mono _ _ _ _ (by omega) (by omega)
  exact Int.mul_le_mul_of_nonneg_right hm (by omega)

/-- **C20.units, float-valued form.**  Each unit property is `float(x.microseconds)` divided by its constant (two
    correctly rounded steps, named in `tsUnitF_steps`); with `x` up to 2^53 microseconds it is the exact quotient rounded
    once (`roundRat x unit`, hence nearest / ties to even / exact whenever the quotient is a double:
    `FloatRound.roundRat_nearest`, `roundRat_tie_even`, `roundRat_exact`). -/
theorem units_float (x : Int) :
    tsMillisecondsF x = tsUnitF x 1000 ∧ tsSecondsF x = tsUnitF x 1000000 ∧ tsMinutesF x = tsUnitF x 60000000 ∧
    tsHoursF x = tsUnitF x 3600000000 ∧ tsDaysF x = tsUnitF x 86400000000 ∧
    (x.natAbs ≤ 2 ^ 53 →
      (∃ w, tsMillisecondsF x = .ok w ∧ roundRat x 1000 = .ok w) ∧
      (∃ w, tsSecondsF x = .ok w ∧ roundRat x 1000000 = .ok w) ∧
      (∃ w, tsMinutesF x = .ok w ∧ roundRat x 60000000 = .ok w) ∧
      (∃ w, tsHoursF x = .ok w ∧ roundRat x 3600000000 = .ok w) ∧
      (∃ w, tsDaysF x = .ok w ∧ roundRat x 86400000000 = .ok w)) := by
  refine ⟨rfl, rfl, rfl, rfl, rfl, fun hx => ⟨?_, ?_, ?_, ?_, ?_⟩⟩
  · exact tsUnitF_single x 1000 (Or.inl rfl) hx
  · exact tsUnitF_single x 1000000 (Or.inr (Or.inl rfl)) hx
  · exact tsUnitF_single x 60000000 (Or.inr (Or.inr (Or.inl rfl))) hx
  · exact tsUnitF_single x 3600000000 (Or.inr (Or.inr (Or.inr (Or.inl rfl)))) hx
  · exact tsUnitF_single x 86400000000 (Or.inr (Or.inr (Or.inr (Or.inr rfl)))) hx

/-! ## `.timestamp` -/

/-- `a / b` on ints with a positive divisor is `roundRat a b`, OverflowError on overflow -/
theorem pyTrueDiv_pos (a : Int) (b : Nat) (hb : 0 < b) :
    pyTrueDiv a b = match roundRat a b with | .ok w => .ok w | _ => .error .overflowError := by
  unfold pyTrueDiv
  rw [if_neg (by omega)]
  by_cases ha : a = 0
  · subst ha
    rw [if_pos rfl, roundRat_zero _ hb, if_neg (by omega)]
  · rw [if_neg ha, if_neg (by omega), Int.natAbs_natCast]
    cases roundRat a b <;> rfl

/-- **C20.timestamp, float-valued form**: the double returned is the microsecond count over `10^6`, ONE correctly
    rounded division (so: nearest, ties to even, exact when representable, monotone in the instant) -/
theorem timestamp_float (c : PClass) (host : Int) (d : DT) (us : Int) (h : dtTimestamp c host d = .ok (us, 1000000)) :
    dtTimestampF c host d = match roundRat us 1000000 with | .ok w => .ok w | _ => .error .overflowError := by
  unfold dtTimestampF
  rw [h]
  exact pyTrueDiv_pos us 1000000 (by decide)

/-- **round trip on the doubles**: `datetime(s, o).timestamp` is the float `s` itself, bit for bit, whenever `s` (the
    double `w`, value `z / 2^1074`, not `-0.0`) is a whole number of microseconds -/
theorem timestamp_float_roundtrip (host : Int) (w : UInt64) (z o : Int) (e : DT)
    (hw : decode w = .fin z) (hnz : w ≠ 0x8000000000000000) (ho : validOff o = true)
    (hexact : (scale : Int) * secondsToUs (.flt z scale) = z * 1000000)
    (h : datetimeFromTimestamp (.flt z scale) o = .ok e) :
    dtTimestampF .conv host e = .ok w := by
  have h1 := (timestamp_of_datetime host (.flt z scale) o ho e h).1
  rw [timestamp_float .conv host e _ h1]
  have := roundRat_exact_int (secondsToUs (.flt z scale)) 1000000 (by decide) w z hw (by exact_mod_cast hexact) hnz
  rw [this]

/-- `ts1 / ts2` below 2^53 microseconds with a positive divisor: the exact quotient rounded once -/
theorem tsDivTs_float (a b : Int) (ha : a.natAbs ≤ 2 ^ 53) (hb : 0 < b) (hb2 : b.natAbs ≤ 2 ^ 53) :
    ∃ w, tsDivTsF a b = .ok w ∧ roundRat a b.toNat = .ok w := by
  have h : tsDivTsF a b = tsUnitF a b := by unfold tsDivTsF tsUnitF; rw [(units b).1]
  rw [h]; exact tsUnitF_ints a b ha hb hb2

/-! ## `ts * n`, `ts / n` with their float steps -/

/-- the timespan a double that is a whole number `k` of microseconds makes -/
theorem tsOfFloat_int (w : UInt64) (k : Int) (h : decode w = .fin (k * scale)) : tsOfFloat w = mkTs k := by
  unfold tsOfFloat
  rw [h]
  simp only [roundHalfEven_mul k scale (by exact_mod_cast scale_pos)]

/-- **`ts * n`, `ts / n` through the float steps the code performs**: an int factor multiplies exactly (OverflowError outside
    the timedelta range); `ts / 0` and `ts / 0.0` are ZeroDivisionError; a division that comes out even (`t = k * n`, `k` up
    to 2^53 microseconds) is exact although it goes through `int / int -> float -> timedelta(microseconds=<float>)` -/
theorem ts_scale_float (t n k : Int) :
    tsMulNumF t (.int n) = mkTs (t * n) ∧
    tsDivNumF t (.int 0) = .error .zeroDivisionError ∧
    (t.natAbs ≤ 2 ^ 53 → tsDivNumF t (.flt 0 1) = .error .zeroDivisionError) ∧
    (n ≠ 0 → k.natAbs ≤ 2 ^ 53 → tsDivNumF (k * n) (.int n) = mkTs k) := by
  refine ⟨?_, ?_, ?_, ?_⟩
  · simp [tsMulNumF, tsOfMicros, (units t).1]
  · simp [tsDivNumF, pyTrueDiv, bind, Except.bind]
  · intro ht
    obtain ⟨f, hf1, _⟩ := roundRat_int_small t ht
    have hz : roundRat 0 (1 : Int).toNat = .ok 0 := roundRat_zero _ (by decide)
    simp only [tsDivNumF, (units t).1, pyFloat_ok.mpr hf1, bitsOfNum, hz, bind, Except.bind, pyFloatDiv]
    rfl
  · intro hn hk
    simp only [tsDivNumF, (units (k * n)).1, bind, Except.bind]
    obtain ⟨w, hw1, hw2⟩ := roundRat_int_small k hk
    by_cases hk0 : k = 0
    · subst hk0
      simp only [Int.zero_mul, pyTrueDiv, if_neg hn, if_pos]
      have : tsOfFloat (if n < 0 then 0x8000000000000000 else 0) = mkTs 0 := by
        apply tsOfFloat_int
        rw [Int.zero_mul]
        split <;> decide
      simpa using this
    · have hkn : k * n ≠ 0 := Int.mul_ne_zero hk0 hn
      have hcongr : roundRat (if n < 0 then -(k * n) else k * n) n.natAbs = roundRat k 1 := by
        apply roundRat_congr _ _ _ _ (by omega) (by decide)
        split
        · have : (n.natAbs : Int) = -n := by omega
          rw [this]; simp
        · have : (n.natAbs : Int) = n := by omega
          rw [this]; simp
      simp only [pyTrueDiv, if_neg hn, if_neg hkn, hcongr, hw1]
      exact tsOfFloat_int w k hw2

example : tsDivNumF 3000000 (.int 2) = .ok 1500000 ∧ tsDivNumF 1 (.int 2) = .ok 0 ∧ tsDivNumF 3 (.int 2) = .ok 2 ∧
    tsMulNumF 3 (.flt 1 2) = .ok 2 ∧ tsDivNumF 7 (.flt 0 1) = .error .zeroDivisionError := by decide +kernel

/-! ## examples (kernel evaluation; tests, nothing depends on them) -/

-- 90 minutes are 1.5 hours; one microsecond is 1e-6 seconds (0x3EB0C6F7A0B5ED8D); 1 us beyond 2^53 us: two roundings
example : tsHoursF 5400000000 = .ok 0x3FF8000000000000 := by decide +kernel
example : tsSecondsF 1 = .ok 0x3EB0C6F7A0B5ED8D := by decide +kernel
example : tsSecondsF (-1) = .ok 0xBEB0C6F7A0B5ED8D ∧ tsDaysF 0 = .ok 0 := by decide +kernel
example : tsMillisecondsF (2 ^ 53 + 1) = tsMillisecondsF (2 ^ 53) := by decide +kernel
example : dtTimestampF .conv 0 ⟨epochLocal + 1500000, some 0⟩ = .ok 0x3FF8000000000000 := by decide +kernel
example : tsDivTsF 86400000000 43200000000 = .ok 0x4000000000000000 ∧
    tsDivTsF 1 0 = .error .zeroDivisionError := by decide +kernel
-- the hypotheses of `timestamp_float_roundtrip` are satisfiable: s = 1.5
example : decode 0x3FF8000000000000 = .fin (3 * 2 ^ 1073) ∧
    (scale : Int) * secondsToUs (.flt (3 * 2 ^ 1073) scale) = 3 * 2 ^ 1073 * 1000000 := by decide +kernel
example : IsUnit 3600000000 ∧ (5400000000 : Int).natAbs ≤ 2 ^ 53 := ⟨Or.inr (Or.inr (Or.inr (Or.inl rfl))), by decide⟩

end Yaql.Props.C20
