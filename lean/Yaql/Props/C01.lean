import Yaql.Model.ParseSched
/-!
C01 - a shared engine parses every text as if it were alone.

All theorems are generic in the tokeniser `nextTok` and the automaton `feed`
(`Machine`), i.e. they hold for the real lexer and LR automaton as well as for
their models, as long as a token fetch reads nothing but the lexer's text and
cursor - which is the shape of `ply.lex.Lexer.token`.
-/
namespace Yaql.Props.C01
open Yaql.ParseSched

variable {Tok PS Out : Type}

/-! ### a schedule is a fold of steps over a state that holds one record per thread -/

section Fold
variable {σ τ : Type} {f : σ → Nat → σ} {get : σ → Nat → Option τ} {i : Nat}

theorem foldl_other (hf : ∀ s j, i ≠ j → get (f s j) i = get s i) :
    ∀ (sched : List Nat) (s : σ), i ∉ sched → get (sched.foldl f s) i = get s i
  | [], _, _ => rfl
  | j :: rest, s, h => by
      rw [List.foldl_cons, foldl_other hf rest _ (fun e => h (List.mem_cons_of_mem _ e)),
        hf s j (fun e => h (by simp [e]))]

/-- when moreover a step of thread `i` applies `g` to its record (in states satisfying an invariant of all steps),
a schedule applies `g` as often as it names `i` (`it n` = `g` iterated `n` times) -/
theorem foldl_count {g : τ → τ} {it : Nat → τ → τ} (h0 : ∀ t, it 0 t = t) (hsucc : ∀ n t, it (n + 1) t = it n (g t))
    {Inv : σ → Prop} (hinv : ∀ s j, Inv s → Inv (f s j))
    (hf : ∀ s j, i ≠ j → get (f s j) i = get s i) (hi : ∀ s, Inv s → get (f s i) i = (get s i).map g) :
    ∀ (sched : List Nat) (s : σ), Inv s → get (sched.foldl f s) i = (get s i).map (it (sched.count i))
  | [], s, _ => by cases h : get s i <;> simp [h, h0]
  | j :: rest, s, hs => by
      rw [List.foldl_cons, foldl_count h0 hsucc hinv hf hi rest _ (hinv s j hs)]
      by_cases hij : j = i
      · subst hij
        rw [hi s hs, List.count_cons_self]
        cases get s j <;> simp [hsucc]
      · rw [hf s j (Ne.symm hij), List.count_cons_of_ne hij]

end Fold

theorem step_mode (m : Machine Tok PS Out) (s : Sys PS Out) (i : Nat) :
    (step m s i).mode = s.mode := by
  unfold step
  cases h : s.threads[i]? with
  | none => rfl
  | some t => cases hm : s.mode <;> simp

/-- a step of thread `j` leaves every other thread's record untouched -/
theorem step_other (m : Machine Tok PS Out) (s : Sys PS Out) (i j : Nat) (h : i ≠ j) :
    (step m s j).threads[i]? = s.threads[i]? := by
  unfold step
  cases hj : s.threads[j]? with
  | none => rfl
  | some t =>
      cases hm : s.mode <;> simp [List.getElem?_set_ne (Ne.symm h)]

theorem run_other (m : Machine Tok PS Out) (i : Nat) (sched : List Nat) (s : Sys PS Out) (h : i ∉ sched) :
    (run m s sched).threads[i]? = s.threads[i]? :=
  foldl_other (get := fun s i => s.threads[i]?) (fun s j => step_other m s i j) sched s h

theorem run_mode (m : Machine Tok PS Out) (sched : List Nat) (s : Sys PS Out) : (run m s sched).mode = s.mode := by
  induction sched generalizing s with
  | nil => rfl
  | cons j rest ih => exact (ih _).trans (step_mode m s j)

theorem run_append (m : Machine Tok PS Out) (s : Sys PS Out) (a b : List Nat) :
    run m s (a ++ b) = run m (run m s a) b := by
  simp [run, List.foldl_append]

theorem soloIter_succ (m : Machine Tok PS Out) (n : Nat) (t : Thread PS Out) :
    soloIter m (n + 1) t = soloIter m n (soloStep m t) := rfl

/-- **per-call lexers isolate.**  When every parse gets its own lexer, then for
    every number of threads, every assignment of texts and EVERY schedule, each
    thread is exactly where it would be after the same number of its own steps
    run alone. -/
theorem perCall_isolated (m : Machine Tok PS Out) (i : Nat) :
    ∀ (sched : List Nat) (s : Sys PS Out), s.mode = .perCall →
      (run m s sched).threads[i]? = (s.threads[i]?).map (soloIter m (sched.count i)) := by
  refine foldl_count (get := fun s i => s.threads[i]?) (Inv := fun s => s.mode = .perCall) (fun _ => rfl)
    (soloIter_succ m) (fun s j hm => by rw [step_mode, hm]) (fun s j => step_other m s i j) (fun s hm => ?_)
  unfold step
  cases ht : s.threads[i]? with
  | none => simp [ht]
  | some t => simp [hm, (List.getElem?_eq_some_iff.mp ht).1]

/-- once a parse has finished, further steps change nothing -/
theorem done_absorbing (m : Machine Tok PS Out) (t : Thread PS Out) (o : Out)
    (h : t.phase = .done o) : ∀ n, (soloIter m n t).core = t.core
  | 0 => rfl
  | n + 1 => by
      have hs : soloStep m t = t := by
        unfold soloStep stepOn
        cases t with
        | mk text own phase =>
            simp only at h
            subst h
            rfl
      rw [soloIter_succ, hs]
      exact done_absorbing m t o h n

/-- in shared mode, thread `i` mirrors a solo thread `u` as long as nobody else steps:
    same text and phase, and - once started - the engine-wide lexer is where `u`'s own one is -/
def Mirrors (s : Sys PS Out) (i : Nat) (u : Thread PS Out) : Prop :=
  ∃ t, s.threads[i]? = some t ∧ t.core = u.core ∧ (t.phase ≠ .notStarted → s.shared = u.own)

theorem mirrors_step (m : Machine Tok PS Out) (s : Sys PS Out) (i : Nat) (u : Thread PS Out)
    (hm : s.mode = .shared) (h : Mirrors s i u) : Mirrors (step m s i) i (soloStep m u) := by
  obtain ⟨t, ht, hcore, hlex⟩ := h
  have hlt : i < s.threads.length := (List.getElem?_eq_some_iff.mp ht).1
  simp only [Thread.core, Prod.mk.injEq] at hcore
  obtain ⟨htext, hphase⟩ := hcore
  unfold Mirrors step soloStep stepOn
  simp only [ht, hm]
  cases hp : t.phase with
  | notStarted =>
      rw [hp] at hphase
      simp [hlt, ← hphase, htext, Thread.core]
  | running ps =>
      rw [hp] at hphase
      have hl : s.shared = u.own := hlex (by rw [hp]; simp)
      simp only [← hphase, hl]
      cases hf : m.feed ps (m.nextTok u.own.data u.own.pos).1 <;>
        simp [hlt, htext, Thread.core]
  | done o =>
      rw [hp] at hphase
      have hl : s.shared = u.own := hlex (by rw [hp]; simp)
      simp [hlt, ← hphase, htext, Thread.core, hl, hp]

theorem mirrors_block (m : Machine Tok PS Out) (i : Nat) :
    ∀ (n : Nat) (s : Sys PS Out) (u : Thread PS Out), s.mode = .shared → Mirrors s i u →
      Mirrors (run m s (List.replicate n i)) i (soloIter m n u)
  | 0, s, u, _, h => by simpa [run, soloIter] using h
  | n + 1, s, u, hm, h => by
      simp only [List.replicate_succ, run, List.foldl_cons, soloIter_succ]
      have := mirrors_block m i n (step m s i) (soloStep m u) (by rw [step_mode, hm])
        (mirrors_step m s i u hm h)
      simpa [run] using this

/-- **sequential reuse is safe, whatever was parsed before.**  On an engine whose
    parses share one lexer, if the steps of parse `i` are contiguous in the
    schedule (nothing else runs between its `input` and its end - in particular
    when texts are parsed one after another), parse `i` behaves exactly as alone:
    it does not matter what the engine parsed before (`pre`, including parses
    abandoned by an error in mid-text) or parses afterwards (`post`). -/
theorem sequential_reuse (m : Machine Tok PS Out) (s : Sys PS Out) (i n : Nat)
    (t : Thread PS Out) (pre post : List Nat) (hm : s.mode = .shared)
    (ht : s.threads[i]? = some t) (hstart : t.phase = .notStarted)
    (hpre : i ∉ pre) (hpost : i ∉ post) :
    ((run m s (pre ++ List.replicate n i ++ post)).threads[i]?).map Thread.core =
      some (soloIter m n t).core := by
  rw [run_append, run_append, run_other m i post _ hpost]
  have h0 : Mirrors (run m s pre) i t :=
    ⟨t, by rw [run_other m i pre s hpre, ht], rfl, fun h => absurd hstart h⟩
  obtain ⟨t', ht', hcore, _⟩ :=
    mirrors_block m i n (run m s pre) t (by rw [run_mode, hm]) h0
  simp [ht', hcore]

/-! ### a shared lexer does not isolate: concrete witness -/

/-- toy machine: a token is the next character (`none` at the end); the automaton collects
    the characters it is given and finishes with them at the end marker -/
def toy : Machine (Option Char) (List Char) (List Char) where
  nextTok := fun data pos => (data[pos]?, pos + 1)
  init := []
  feed := fun ps tok => match tok with
    | some c => .inl (ps ++ [c])
    | none => .inr ps

def toySys (mode : Mode) : Sys (List Char) (List Char) :=
  { mode := mode, threads := [{ text := ['a', 'b'] }, { text := ['c', 'd'] }] }

/-- thread 0 starts and reads one token, thread 1 starts (rewinding the shared lexer onto its
    own text), then both run to the end -/
def badSchedule : List Nat := [0, 0, 1, 0, 0, 0, 1, 1, 1]

/-- with one shared lexer the first parse returns characters of the OTHER text -/
theorem shared_not_isolated :
    ((run toy (toySys .shared) badSchedule).threads.map (·.phase)) =
      [.done ['a', 'c', 'd'], .done []] ∧
    ((toySys .shared).threads.map fun t => (soloIter toy 4 t).phase) =
      [.done ['a', 'b'], .done ['c', 'd']] := by decide

/-- the same schedule with per-call lexers gives both parses their own result -/
example : ((run toy (toySys .perCall) badSchedule).threads.map (·.phase)) =
    [.done ['a', 'b'], .done ['c', 'd']] := by decide

/-- hypotheses of `sequential_reuse` are satisfiable: parse 1 strictly after parse 0 was
    abandoned in mid-text -/
example : ((run toy (toySys .shared) ([0, 0] ++ List.replicate 4 1 ++ [])).threads[1]?).map
    Thread.core = some (['c', 'd'], .done ['c', 'd']) := by decide

end Yaql.Props.C01
