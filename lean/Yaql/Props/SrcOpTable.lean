import Yaql.Gen.SrcOpTable
import Yaql.Lemmas.PyPrelude
import Yaql.Lemmas.PyLoops
import Yaql.Lemmas.PyLoopsOp
import Yaql.Props.C02Table
/-!
Equivalence of the definitions translated from the CURRENT yaql source (`Yaql.Gen.SrcOpTable`, regenerated on every
run by harness/py2lean.py) with the hand-written model - for all inputs.
-/
namespace Yaql.Props.SrcOpTable
open Yaql Yaql.Gen Yaql.Lemmas.PyLoops Yaql.Lemmas.PyLoopsOp
open Yaql.OpTable
open Yaql.Props.C02Table (findExisting_eq findExisting_lt advance_spec)

theorem recLen_lt_two (r : Rec) : (PyOp.recLen r < 2) = (r.isSep = true) := by
  cases r <;> simp [PyOp.recLen, Rec.isSep, Rec.isOp]

theorem recLen_gt_one (r : Rec) : (PyOp.recLen r > 1) = (r.isOp = true) := by
  cases r <;> simp [PyOp.recLen, Rec.isOp]

/-- the search loop of `insert_operator`, for a body described pointwise -/
theorem search_go (e : Str) (b : Bool) (f : Int → Int × Rec → Py.Step Int ρ)
    (hf : ∀ s i x, f s (i, x) = if matchesExisting e b x = true then .brk i else .next s)
    (ops : OpList) (s : Int) :
    Py.forLoop (Py.enumerate ops) s f
      = .done (match findExisting e b ops 0 with | some j => (j : Int) | none => s) := by
  rw [enumerate_eq, forLoop_enum_findIdx _ f hf, findExisting_eq]
  cases List.findIdx? (matchesExisting e b) ops <;> simp

theorem scan_go (ops : OpList) (p : Rec → Bool) (c : Int → Bool) (f : Int → Py.Step Int ρ)
    (hc : ∀ s, c s = true)
    (hf : ∀ (k : Nat) (v : Rec), k < ops.length → Py.index ops (k : Int) = .ok v →
      f (k : Int) = if p v = true then .next ((k : Int) + 1) else .brk (k : Int))
    (hf' : ∀ (k : Nat), ops.length ≤ k → f (k : Int) = .brk (k : Int))
    (fuel : Nat) (posi : Int) (pos : Nat) (hpos : posi = (pos : Int)) (hfuel : ops.length + 1 ≤ fuel) :
    Py.whileLoop fuel posi c f = some (.done ((advance p ops pos : Nat) : Int)) := by
  subst hpos
  exact whileLoop_scan ops p c f hc hf hf' fuel pos (by omega)

theorem insertAt_length (ops : OpList) (k : Nat) (x : Rec) (hk : k ≤ ops.length) :
    (insertAt ops k x).length = ops.length + 1 := by
  simp only [insertAt, List.length_append, List.length_take, List.length_cons, List.length_drop]
  omega

/-- Identity, used as a barrier: `generalize h : a = x; revert x; refine barrier ?_; intro x h` keeps `x` a bound
    variable in the final proof term (without the barrier the elaborator beta-reduces the generalisation away). -/
theorem barrier {α : Sort u} {a : α} {P : α → Prop} (h : ∀ x, a = x → P x) : ∀ x, a = x → P x := h

/-- `fuel` bounds the translated `while` loops: each scan makes at most `length` steps and one final test.
`length + 2 < 2 ^ 63`: the list grows by at most two records (`()` and the new one) and `list.insert` raises
`OverflowError` for an index that is not a `Py_ssize_t`. -/
theorem insert_operator_src_eq (self_operators : List Yaql.OpTable.Rec) (fuel : Nat)
    (existing_operator : Option (List Char)) (existing_operator_binary : Bool) (new_operator : List Char)
    (new_operator_type : Yaql.OpTable.OpType) (create_group : Bool) (new_operator_alias : Option (List Char))
    (hfuel : self_operators.length + 1 ≤ fuel) (hlen : (self_operators.length : Int) + 2 < 2 ^ 63) :
    Yaql.Gen.SrcOpTable.insert_operator self_operators fuel existing_operator existing_operator_binary new_operator
        new_operator_type create_group new_operator_alias
      = Yaql.PyOp.liftErr (Yaql.OpTable.insertOperator self_operators existing_operator existing_operator_binary
          new_operator new_operator_type create_group new_operator_alias) := by
  unfold SrcOpTable.insert_operator insertOperator
  -- `Py.listInsert?` is made opaque first: the kernel must never evaluate `Py.ssizeOk` (a comparison with `2 ^ 63`)
  -- on a symbolic position while checking the reductions of the `match`es below
  generalize hI : @Py.listInsert? Rec = ins
  revert ins
  refine barrier ?_
  intro ins hI
  have hins : ∀ (xs : OpList) (i : Int) (k : Nat) (v : Rec), i = (k : Int) → k ≤ xs.length →
      (xs.length : Int) < 2 ^ 63 → ins xs i v = .ok (insertAt xs k v) := by
    rw [← hI]; exact listInsert?_nat
  clear hI
  -- both branches end in the same code, run from a position `posI = P` inside the list: `0`, or the end of the group
  -- of the existing operator
  cases existing_operator
  case' none =>
    simp only []
    generalize hPI : (0 : Int) = posI
    generalize hP0 : (0 : Nat) = P
    have hP : P ≤ self_operators.length := by omega
    replace hPI : posI = (P : Int) := by omega
    clear hP0
  case' some e =>
    simp only []
    rw [search_go e existing_operator_binary _ (by
      intro s i x
      cases x with
      | sep => simp [PyOp.recLen, matchesExisting]
      | op sym ty al =>
        by_cases hs : sym = e <;> cases existing_operator_binary <;> cases ty <;>
          simp [hs, PyOp.recLen, PyOp.recSym?, PyOp.recType?, matchesExisting, Py.contains, OpType.isBinary,
            OpType.isUnary]) self_operators (-1)]
    cases hfe : findExisting e existing_operator_binary self_operators 0
    · simp [PyOp.liftErr]
    rename_i j
    have hj := findExisting_lt _ _ _ _ hfe
    simp only []
    rw [if_neg (by omega), scan_go self_operators Rec.isOp _ _ (by py_body)
      (by intro k v hk hv; simp [hv, hk, recLen_gt_one]) (by intro k hk; simp; omega) fuel (j : Int) j rfl hfuel]
    simp only []
    have hP := (advance_spec Rec.isOp self_operators j (by omega)).2.2
    generalize advance Rec.isOp self_operators j = P at hP ⊢
    generalize hPI : (P : Int) = posI
    replace hPI := hPI.symm
  all_goals
    by_cases hcg : create_group = true
    · by_cases hz : P = self_operators.length
      · have hz' : posI = (self_operators.length : Int) := by omega
        simp only [if_pos hcg, if_pos hz']
        rw [hins (self_operators ++ [Rec.sep]) _ (P + 1) _ (by simp; omega) (by simp; omega) (by simp; omega)]
        simp [hz, PyOp.liftErr]
      · have hz' : ¬ (posI = (self_operators.length : Int)) := by omega
        simp only [if_pos hcg, if_neg hz']
        rw [scan_go self_operators Rec.isSep _ _ (by py_body)
          (by intro k v hk hv; simp [hv, hk, recLen_lt_two]) (by intro k hk; simp; omega) fuel posI P hPI hfuel]
        have hA := (advance_spec Rec.isSep self_operators P hP).2.2
        have hL := insertAt_length self_operators _ Rec.sep hA
        simp only []
        rw [hins self_operators _ _ Rec.sep rfl hA (by omega)]
        simp only []
        rw [hins (insertAt _ _ _) _ _ _ rfl (by omega) (by omega)]
        simp [hz, PyOp.liftErr]
    · simp only [if_neg hcg]
      rw [hins self_operators posI P _ hPI (by omega) (by omega)]
      simp [PyOp.liftErr]

end Yaql.Props.SrcOpTable
