import Yaql.Model.Resolve
/-!
C05 - overload resolution follows the documented resolution rules.

`resolveSpec` restates doc/source/extending_yaql.rst "Function resolution rules"
(plus "the single most specific match wins") as one declarative expression over
the same binding primitives `mapArgs` / `getDelegate`.  `resolve_eq_spec` shows
that the code-shaped model (`Yaql.Resolve.resolve`: loops with early exits, the
threaded `lazy_params`, the winner list comprehension) computes exactly that, for
every class graph, layer chain, overload family and call.
-/
namespace Yaql.Props.C05
open Yaql.Types Yaql.Resolve

/-! ## the rule-shaped specification -/

/-- rule 2: the contexts that are looked at - up to and including the first one in
    which the name is registered exclusively -/
def reach : List Layer → List Layer
  | [] => []
  | l :: r => if l.exclusive then [l] else l :: reach r

/-- rules 1-2: overloads of the call's kind, layer by layer, empty layers dropped -/
def visible (method : Bool) (layers : List Layer) : List (List FDef) :=
  ((reach layers).map fun l => l.fns.filter (kindOk method)).filter (fun fs => !fs.isEmpty)

/-- rule 3: the overloads of one layer that can be called by the given syntax -/
def mappedOf (L : Lattice) (args : List Arg) (kw : KwArgs) (lv : List FDef) : List Cand :=
  lv.filterMap fun c => (mapArgs L c.params args kw).map fun m => ⟨c, m⟩

/-- `m1` is more specific than `m2`: nowhere is the type of `m2` a proper
    specialization of that of `m1`, and somewhere it is the other way round -/
def moreSpecific (L : Lattice) (m1 m2 : Mapping) : Bool :=
  (m1.typePairs m2).all (fun p => !specializes L p.2 p.1) &&
  (m1.typePairs m2).any (fun p => specializes L p.1 p.2)

/-- rules 7-8 with "single most specific": the matches that are more specific than every other -/
def best (L : Lattice) (ms : List Match) : List Match :=
  ms.filter fun m => ms.all fun o => o.cand.fd.id == m.cand.fd.id || moreSpecific L m.cand.mapping o.cand.mapping

def choose (L : Lattice) (ms : List Match) : Except Err (Nat × Bound) :=
  match best L ms with
  | [w] => .ok (w.cand.fd.id, w.bound)
  | _ => .error .ambiguous

/-- rules 3-5 over the visible overloads: the evaluation log and, per layer, the
    type-compatible matches - or the error that ends resolution before that -/
def stage (L : Lattice) (vis : List (List FDef)) (c : Call) : Except Err (List Nat × List (List Match)) :=
  let all := vis.flatten
  if all.any (·.noKwargs) && all.any (!·.noKwargs) then .error .ambiguous
  else match translateArgs ((all.map (·.noKwargs)).headD false) (callArgs c) c.kwargs with
    | .error e => .error e
    | .ok (args, kw) =>
        let mapped := vis.map (mappedOf L args kw)
        match mapped.flatten with
        | [] => .error .noMatching                                         -- rule 6 (nothing callable)
        | m0 :: rest =>
            if !(rest.all fun m => decide (m.sig = m0.sig)) then .error .ambiguous   -- rule 4
            else
              let ev := evalPos m0.sig.pos args                            -- rule 5: once, shared
              let ek := evalKw m0.sig.kw kw
              .ok (ev.2 ++ ek.2, mapped.map (matchesOf L ev.1 ek.1))

/-- rules 6-8 -/
def decide' (L : Lattice) (mls : List (List Match)) : Except Err (Nat × Bound) :=
  match mls.find? (fun ms => !ms.isEmpty) with
  | none => .error .noMatching
  | some ms => choose L ms

def chooseSpec (L : Lattice) (vis : List (List FDef)) (c : Call) : Outcome :=
  match stage L vis c with
  | .error e => ⟨[], .error e⟩
  | .ok (log, mls) => ⟨log, decide' L mls⟩

def resolveSpec (L : Lattice) (layers : List Layer) (c : Call) : Outcome :=
  let vis := visible c.receiver.isSome layers
  if vis.flatten.isEmpty then ⟨[], .error .unknown⟩ else chooseSpec L vis c

/-! ## rules 1-2: collect -/

theorem collect_eq_visible (method : Bool) : ∀ layers, collect method layers = visible method layers
  | [] => rfl
  | l :: r => by
      have ih := collect_eq_visible method r
      unfold visible at ih ⊢
      by_cases hx : l.exclusive <;> by_cases he : (l.fns.filter (kindOk method)).isEmpty <;>
        simp [collect, reach, hx, he, ih]

theorem flatten_filter_nonempty {α : Type} : ∀ (l : List (List α)),
    (l.filter fun x => !x.isEmpty).flatten = l.flatten
  | [] => rfl
  | [] :: r => by simp [flatten_filter_nonempty r]
  | (a :: as) :: r => by simp [flatten_filter_nonempty r]

theorem isEmpty_filter_nonempty {α : Type} : ∀ (l : List (List α)),
    (l.filter fun x => !x.isEmpty).isEmpty = l.flatten.isEmpty
  | [] => rfl
  | [] :: r => by simpa using isEmpty_filter_nonempty r
  | (a :: as) :: r => by simp

theorem visible_flatten_isEmpty (method : Bool) (layers : List Layer) :
    (visible method layers).flatten.isEmpty = (visible method layers).isEmpty := by
  unfold visible
  rw [flatten_filter_nonempty, isEmpty_filter_nonempty]

/-! ## rules 3-4: the first pass of choose_overload -/

/-- `lazy_params` after the loop went over the mapped candidates `cs` -/
def firstSig (lz : Option LazySig) (cs : List Cand) : Option LazySig :=
  match lz with
  | some s => some s
  | none => cs.head?.map Cand.sig

def agree (s : Option LazySig) (cs : List Cand) : Bool := cs.all fun c => decide (some c.sig = s)

theorem firstSig_append (lz : Option LazySig) (a b : List Cand) :
    firstSig (firstSig lz a) b = firstSig lz (a ++ b) := by
  cases lz with
  | some s => rfl
  | none => cases a <;> rfl

theorem agree_append (s : Option LazySig) (a b : List Cand) :
    agree s (a ++ b) = (agree s a && agree s b) := by
  simp [agree, List.all_append]

theorem agree_firstSig_append (lz : Option LazySig) (a b : List Cand) :
    agree (firstSig lz (a ++ b)) a = agree (firstSig lz a) a := by
  cases lz with
  | some s => rfl
  | none => cases a <;> rfl

theorem mapLevel_spec (L : Lattice) (args : List Arg) (kw : KwArgs) :
    ∀ (lv : List FDef) (lz : Option LazySig), mapLevel L args kw lz lv =
      if agree (firstSig lz (mappedOf L args kw lv)) (mappedOf L args kw lv)
      then .ok (firstSig lz (mappedOf L args kw lv), mappedOf L args kw lv)
      else .error .ambiguous
  | [], lz => by cases lz <;> rfl
  | c :: r, lz => by
      cases hm : mapArgs L c.params args kw with
      | none =>
          have : mappedOf L args kw (c :: r) = mappedOf L args kw r := by simp [mappedOf, hm]
          rw [this, mapLevel, hm]; exact mapLevel_spec L args kw r lz
      | some m =>
          have hcons : mappedOf L args kw (c :: r) = ⟨c, m⟩ :: mappedOf L args kw r := by
            simp [mappedOf, hm]
          -- once a candidate has fixed the laziness signature, the rest is compared with it
          have tail : ((match mapLevel L args kw (some m.lazySig) r with
                | .error e => .error e
                | .ok (lz', cs) => .ok (lz', ⟨c, m⟩ :: cs)) : Except Err (Option LazySig × List Cand)) =
              if agree (some m.lazySig) (⟨c, m⟩ :: mappedOf L args kw r)
              then .ok (some m.lazySig, ⟨c, m⟩ :: mappedOf L args kw r) else .error .ambiguous := by
            have : agree (some m.lazySig) (⟨c, m⟩ :: mappedOf L args kw r) =
                agree (some m.lazySig) (mappedOf L args kw r) := by simp [agree, Cand.sig]
            rw [mapLevel_spec L args kw r, this, firstSig]
            cases agree (some m.lazySig) (mappedOf L args kw r) <;> rfl
          rw [hcons]
          cases lz with
          | none => simp only [mapLevel, hm]; exact tail
          | some s =>
              by_cases hs : s = m.lazySig
              · subst hs; simp only [mapLevel, hm, bne_self_eq_false, Bool.false_eq_true, if_false]; exact tail
              · simp [mapLevel, hm, hs, agree, firstSig, Cand.sig, Ne.symm hs]

theorem mapLevels_spec (L : Lattice) (args : List Arg) (kw : KwArgs) :
    ∀ (lvs : List (List FDef)) (lz : Option LazySig), mapLevels L args kw lz lvs =
      if agree (firstSig lz (lvs.map (mappedOf L args kw)).flatten) (lvs.map (mappedOf L args kw)).flatten
      then .ok (firstSig lz (lvs.map (mappedOf L args kw)).flatten,
                (lvs.map (mappedOf L args kw)).filter (fun cs => !cs.isEmpty))
      else .error .ambiguous
  | [], lz => by cases lz <;> simp [mapLevels, agree, firstSig]
  | lv :: r, lz => by
      have ih := mapLevels_spec L args kw r
      simp only [mapLevels, mapLevel_spec, List.map_cons, List.flatten_cons]
      rw [agree_append, agree_firstSig_append, ← firstSig_append]
      by_cases h1 : agree (firstSig lz (mappedOf L args kw lv)) (mappedOf L args kw lv)
      · simp only [h1, if_true, ih, Bool.true_and]
        by_cases h2 : agree (firstSig (firstSig lz (mappedOf L args kw lv)) (List.map (mappedOf L args kw) r).flatten)
            (List.map (mappedOf L args kw) r).flatten
        · simp only [h2, if_true]
          cases hcs : (mappedOf L args kw lv).isEmpty <;> simp [hcs]
        · simp [h2]
      · simp [h1]

/-! ## rules 5-8: the second pass -/

theorem specLoop_eq (L : Lattice) : ∀ (ts : List (PTy × PTy)) (res : Bool),
    specLoop L ts res = (ts.all (fun p => !specializes L p.2 p.1) &&
                         (res || ts.any (fun p => specializes L p.1 p.2)))
  | [], res => by simp [specLoop]
  | (t1, t2) :: r, res => by
      have ih := fun res' => specLoop_eq L r res'
      cases h21 : isSpecializationOf L t2 t1 <;> cases h12 : isSpecializationOf L t1 t2 <;>
        simp [specLoop, h21, h12, ih, specializes]

theorem isSpecM_eq (L : Lattice) (m1 m2 : Mapping) : isSpecM L m1 m2 = moreSpecific L m1 m2 := by
  simp [isSpecM, moreSpecific, specLoop_eq L _ false]

def beats (L : Lattice) (m o : Match) : Bool :=
  o.cand.fd.id == m.cand.fd.id || moreSpecific L m.cand.mapping o.cand.mapping

theorem allSpec_eq (L : Lattice) (m : Match) : ∀ (ms : List Match), allSpec L m ms = ms.all (beats L m)
  | [] => by simp [allSpec]
  | o :: r => by
      have ih := allSpec_eq L m r
      by_cases hid : o.cand.fd.id = m.cand.fd.id
      · simp [allSpec, hid, ih, beats]
      · have hid' : (o.cand.fd.id == m.cand.fd.id) = false := by simpa using hid
        simp only [allSpec, hid', isSpecM_eq, ih, List.all_cons, beats]
        cases moreSpecific L m.cand.mapping o.cand.mapping <;> simp

theorem winners_eq (L : Lattice) (ms : List Match) : ∀ (ms' : List Match),
    winners L ms ms' = ms'.filter fun m => ms.all (beats L m)
  | [] => by simp [winners]
  | m :: r => by
      have ih := winners_eq L ms r
      simp only [winners, allSpec_eq L m ms, ih, List.filter_cons]

theorem best_eq (L : Lattice) (ms : List Match) : best L ms = ms.filter fun m => ms.all (beats L m) := rfl

theorem mem_best {L : Lattice} {ms : List Match} {m : Match} :
    m ∈ best L ms ↔ m ∈ ms ∧ ∀ o ∈ ms, beats L m o = true := by
  simp [best_eq, List.mem_filter, List.all_eq_true]

theorem mem_matchesOf {L : Lattice} {args : List Arg} {kw : KwArgs} {cs : List Cand} {m : Match}
    (h : m ∈ matchesOf L args kw cs) : m.cand ∈ cs ∧ getDelegate L m.cand.fd.params args kw = some m.bound := by
  simp only [matchesOf, List.mem_filterMap] at h
  obtain ⟨c, hc, hm⟩ := h
  cases hd : getDelegate L c.fd.params args kw with
  | none => simp [hd] at hm
  | some b => simp [hd] at hm; subst hm; exact ⟨hc, hd⟩

/-- the second loop of `choose_overload` -/
theorem selectLevel_spec (L : Lattice) (args : List Arg) (kw : KwArgs) : ∀ (lvs : List (List Cand)),
    selectLevel L args kw lvs =
      match (lvs.map (matchesOf L args kw)).find? (fun ms => !ms.isEmpty) with
      | none => .error .noMatching
      | some ms => choose L ms
  | [] => by simp [selectLevel]
  | lv :: r => by
      have ih := selectLevel_spec L args kw r
      simp only [selectLevel, List.map_cons, List.find?_cons]
      cases he : (matchesOf L args kw lv).isEmpty with
      | true => simp [ih]
      | false =>
          simp only [winners_eq, Bool.not_false, Bool.false_eq_true, if_false, choose, best_eq]
          split <;> simp_all

theorem selectLevel_filter (L : Lattice) (args : List Arg) (kw : KwArgs) : ∀ (lvs : List (List Cand)),
    selectLevel L args kw (lvs.filter fun cs => !cs.isEmpty) = selectLevel L args kw lvs
  | [] => rfl
  | lv :: r => by
      have ih := selectLevel_filter L args kw r
      cases lv with
      | nil => simp [selectLevel, matchesOf, ih]
      | cons c cs => simp [selectLevel, ih]

/-! ## resolve = resolveSpec -/

theorem reach_sub : ∀ (layers : List Layer) (l : Layer), l ∈ reach layers → l ∈ layers
  | [], l, h => by simp [reach] at h
  | x :: r, l, h => by
      unfold reach at h
      split at h
      · simp at h; simp [h]
      · rcases List.mem_cons.1 h with h | h
        · simp [h]
        · exact List.mem_cons_of_mem _ (reach_sub r l h)

theorem visible_mem {method : Bool} {layers : List Layer} {fs : List FDef} {f : FDef}
    (hfs : fs ∈ visible method layers) (hf : f ∈ fs) :
    ∃ l ∈ reach layers, f ∈ l.fns ∧ kindOk method f = true := by
  simp only [visible, List.mem_filter, List.mem_map] at hfs
  obtain ⟨⟨l, hl, rfl⟩, _⟩ := hfs
  simp only [List.mem_filter] at hf
  exact ⟨l, hl, hf.1, hf.2⟩

theorem mem_mappedOf {L : Lattice} {args : List Arg} {kw : KwArgs} {lv : List FDef} {c : Cand}
    (h : c ∈ mappedOf L args kw lv) : c.fd ∈ lv ∧ mapArgs L c.fd.params args kw = some c.mapping := by
  simp only [mappedOf, List.mem_filterMap] at h
  obtain ⟨f, hf, hm⟩ := h
  cases hd : mapArgs L f.params args kw with
  | none => simp [hd] at hm
  | some m => simp [hd] at hm; subst hm; exact ⟨hf, hd⟩

theorem mem_typePairs {m1 m2 : Mapping} {p : PTy × PTy} (h : p ∈ m1.typePairs m2) :
    (∃ a, (a ∈ m1.pos ∨ ∃ k, (k, a) ∈ m1.kwd) ∧ p.1 = a.ty) ∧
    (∃ b, (b ∈ m2.pos ∨ ∃ k, (k, b) ∈ m2.kwd) ∧ p.2 = b.ty) := by
  simp only [Mapping.typePairs, List.mem_append, List.mem_map] at h
  rcases h with ⟨q, hq, rfl⟩ | ⟨q, hq, rfl⟩
  · have := List.of_mem_zip hq
    exact ⟨⟨q.1, Or.inl this.1, rfl⟩, ⟨q.2, Or.inl this.2, rfl⟩⟩
  · have := List.of_mem_zip hq
    exact ⟨⟨q.1.2, Or.inr ⟨q.1.1, this.1⟩, rfl⟩, ⟨q.2.2, Or.inr ⟨q.2.1, this.2⟩, rfl⟩⟩

theorem chooseOverload_eq (L : Lattice) (vis : List (List FDef)) (c : Call) :
    chooseOverload L vis c = chooseSpec L vis c := by
  unfold chooseOverload chooseSpec stage decide'
  simp only [List.any_map, Function.comp_def, id]
  split
  · rfl
  · cases translateArgs ((vis.flatten.map (·.noKwargs)).headD false) (callArgs c) c.kwargs with
    | error e => rfl
    | ok r =>
        obtain ⟨args, kw⟩ := r
        have he := isEmpty_filter_nonempty (vis.map (mappedOf L args kw))
        simp only [mapLevels_spec]
        cases hflat : (vis.map (mappedOf L args kw)).flatten with
        | nil => simp [agree, firstSig, he, hflat]
        | cons m0 rest =>
            have hag : agree (firstSig none (m0 :: rest)) (m0 :: rest) = rest.all fun m => decide (m.sig = m0.sig) := by
              simp [agree, firstSig]
            rw [hflat] at he
            rw [hag]
            cases hall : rest.all fun m => decide (m.sig = m0.sig) with
            | false => simp [hall]
            | true =>
                simp only [hall, he, if_true, List.isEmpty_cons, Bool.false_eq_true, if_false, firstSig, List.head?_cons, Option.map_some,
                  Option.getD_some, Bool.not_true]
                rw [selectLevel_filter, selectLevel_spec]

/-- **C05**: the code-shaped model computes what the written rules prescribe -/
theorem resolve_eq_spec (L : Lattice) (layers : List Layer) (c : Call) :
    resolve L layers c = resolveSpec L layers c := by
  unfold resolve resolveSpec
  simp only [collect_eq_visible, visible_flatten_isEmpty]
  split
  · rfl
  · exact chooseOverload_eq L _ c

theorem visible_isEmpty_iff (method : Bool) (layers : List Layer) :
    (visible method layers).isEmpty = true ↔ ∀ l ∈ reach layers, ∀ f ∈ l.fns, kindOk method f = false := by
  unfold visible
  rw [isEmpty_filter_nonempty]
  simp [List.isEmpty_iff, List.flatten_eq_nil_iff, List.filter_eq_nil_iff]

theorem translatePos_err {e : Err} (l pos : List Arg) (k : KwArgs) (h : translatePos l pos k = .error e) :
    e = .mappingTranslation := by
  fun_induction translatePos l pos k with
  | case1 => cases h
  | case2 _ _ _ _ _ _ _ _ _ _ ih => exact ih h
  | case3 => cases h; rfl
  | case4 _ _ _ _ _ ih => exact ih h

theorem mergeKw_err {e : Err} (l k : KwArgs) (h : mergeKw l k = .error e) : e = .mappingTranslation := by
  fun_induction mergeKw l k with
  | case1 => cases h
  | case2 => cases h; rfl
  | case3 _ _ _ _ _ ih => exact ih h

theorem translateArgs_err {nk : Bool} {args : List Arg} {kw : KwArgs} {e : Err}
    (h : translateArgs nk args kw = .error e) : e = .argument ∨ e = .mappingTranslation := by
  unfold translateArgs at h
  split at h
  · split at h
    · cases h
    · cases h; exact Or.inl rfl
  · split at h
    · rename_i e' he; cases h; exact Or.inr (translatePos_err _ _ _ he)
    · split at h
      · rename_i e' he; cases h; exact Or.inr (mergeKw_err _ _ he)
      · cases h

theorem stage_cases (L : Lattice) (vis : List (List FDef)) (c : Call) :
    (∃ e, stage L vis c = .error e ∧ (e = .ambiguous ∨ e = .argument ∨ e = .mappingTranslation)) ∨
    (∃ args kw, translateArgs ((vis.flatten.map (·.noKwargs)).headD false) (callArgs c) c.kwargs = .ok (args, kw) ∧
      (vis.map (mappedOf L args kw)).flatten = [] ∧ stage L vis c = .error .noMatching) ∨
    ∃ args kw lg args' kw', stage L vis c = .ok (lg, (vis.map (mappedOf L args kw)).map (matchesOf L args' kw')) := by
  unfold stage
  simp only
  split
  · exact .inl ⟨_, rfl, .inl rfl⟩
  · split
    · rename_i e he
      exact .inl ⟨e, rfl, .inr (translateArgs_err he)⟩
    · rename_i args kw htr
      split
      · rename_i hfl; exact .inr (.inl ⟨args, kw, htr, hfl, rfl⟩)
      · split
        · exact .inl ⟨_, rfl, .inl rfl⟩
        · exact .inr (.inr ⟨args, kw, _, _, _, rfl⟩)

theorem stage_ne_unknown (L : Lattice) (vis : List (List FDef)) (c : Call) : stage L vis c ≠ .error .unknown := by
  intro h
  rcases stage_cases L vis c with ⟨e, he, h'⟩ | ⟨_, _, _, _, he⟩ | ⟨_, _, _, _, _, he⟩
  · rw [h] at he; cases he; rcases h' with h' | h' | h' <;> cases h'
  · rw [h] at he; cases he
  · rw [h] at he; cases he

theorem stage_noMatching {L : Lattice} {vis : List (List FDef)} {c : Call}
    (h : stage L vis c = .error .noMatching) :
    ∃ args kw, translateArgs ((vis.flatten.map (·.noKwargs)).headD false) (callArgs c) c.kwargs = .ok (args, kw) ∧
      (vis.map (mappedOf L args kw)).flatten = [] := by
  rcases stage_cases L vis c with ⟨e, he, h'⟩ | ⟨args, kw, htr, hfl, _⟩ | ⟨_, _, _, _, _, h'⟩
  · rw [h] at he; cases he; rcases h' with h' | h' | h' <;> cases h'
  · exact ⟨args, kw, htr, hfl⟩
  · rw [h] at h'; cases h'

theorem choose_cases (L : Lattice) (ms : List Match) :
    (∃ w, best L ms = [w] ∧ choose L ms = .ok (w.cand.fd.id, w.bound)) ∨ choose L ms = .error .ambiguous := by
  unfold choose
  split
  · rename_i w hw; exact .inl ⟨w, hw, rfl⟩
  · exact .inr rfl

theorem choose_ok {L : Lattice} {ms : List Match} {id : Nat} {b : Bound} (h : choose L ms = .ok (id, b)) :
    ∃ w ∈ ms, w.cand.fd.id = id ∧ w.bound = b ∧ best L ms = [w] := by
  rcases choose_cases L ms with ⟨w, hw, hc⟩ | hc
  · rw [hc] at h; cases h
    exact ⟨w, (mem_best.1 (hw ▸ List.mem_singleton_self w)).1, rfl, rfl, hw⟩
  · rw [hc] at h; cases h

/-- rule 6: the nearest layer with a type-compatible candidate decides, and it alone -/
theorem decide'_cases (L : Lattice) (mls : List (List Match)) :
    ((∀ ms ∈ mls, ms = []) ∧ decide' L mls = .error .noMatching) ∨
    ∃ pre ms post, mls = pre ++ ms :: post ∧ (∀ x ∈ pre, x = []) ∧ ms ≠ [] ∧ decide' L mls = choose L ms := by
  unfold decide'
  split
  · rename_i hf
    exact .inl ⟨fun ms hms => by simpa using List.find?_eq_none.1 hf ms hms, rfl⟩
  · rename_i ms hf
    obtain ⟨hne, pre, post, hsplit, hpre⟩ := List.find?_eq_some_iff_append.1 hf
    exact .inr ⟨pre, ms, post, hsplit, fun x hx => by simpa using hpre x hx, by simpa using hne, rfl⟩

/-- rules 1-5: when resolution gets as far as evaluating the arguments, the type-compatible
    matches of every visible layer, nearest first -/
def matchLayers (L : Lattice) (layers : List Layer) (c : Call) : Option (List (List Match)) :=
  let vis := visible c.receiver.isSome layers
  if vis.flatten.isEmpty then none
  else match stage L vis c with
    | .error _ => none
    | .ok (_, mls) => some mls

theorem resolveSpec_cases (L : Lattice) (layers : List Layer) (c : Call) :
    ((visible c.receiver.isSome layers).flatten.isEmpty = true ∧ matchLayers L layers c = none ∧
      (resolveSpec L layers c).res = .error .unknown) ∨
    ((visible c.receiver.isSome layers).flatten.isEmpty = false ∧
      ((∃ e, stage L (visible c.receiver.isSome layers) c = .error e ∧ matchLayers L layers c = none ∧
          (resolveSpec L layers c).res = .error e) ∨
       ∃ lg mls, stage L (visible c.receiver.isSome layers) c = .ok (lg, mls) ∧ matchLayers L layers c = some mls ∧
          (resolveSpec L layers c).res = decide' L mls)) := by
  simp only [resolveSpec, matchLayers, chooseSpec]
  cases (visible c.receiver.isSome layers).flatten.isEmpty with
  | true => exact .inl ⟨rfl, rfl, rfl⟩
  | false =>
      refine .inr ⟨rfl, ?_⟩
      cases stage L (visible c.receiver.isSome layers) c with
      | error e => exact .inl ⟨e, rfl, rfl, rfl⟩
      | ok r => exact .inr ⟨r.1, r.2, rfl, rfl, rfl⟩

/-- `Unknown function/method` iff no overload of the call's kind is visible up to and including
    the first layer that registered the name exclusively -/
theorem unknown_iff (L : Lattice) (layers : List Layer) (c : Call) :
    (resolve L layers c).res = .error .unknown ↔
      ∀ l ∈ reach layers, ∀ f ∈ l.fns, kindOk c.receiver.isSome f = false := by
  rw [← visible_isEmpty_iff, ← visible_flatten_isEmpty, resolve_eq_spec]
  rcases resolveSpec_cases L layers c with ⟨hv, _, hr⟩ | ⟨hv, ⟨e, hs, _, hr⟩ | ⟨_, mls, _, _, hr⟩⟩
  · simp [hr, hv]
  · rw [hr, hv]
    exact ⟨fun h => by cases h; exact absurd hs (stage_ne_unknown L _ c), fun h => by cases h⟩
  · rw [hr, hv]
    refine ⟨fun h => ?_, fun h => by cases h⟩
    rcases decide'_cases L mls with ⟨_, hd⟩ | ⟨_, ms, _, _, _, _, hd⟩
    · rw [hd] at h; cases h
    · rw [hd] at h; rcases choose_cases L ms with ⟨_, _, hc⟩ | hc <;> rw [hc] at h <;> cases h

/-- the chosen overload lies in the nearest layer that has a type-compatible candidate: the
    layers before it have none, and the choice is a function of that layer's matches alone -/
theorem first_layer_wins (L : Lattice) (layers : List Layer) (c : Call)
    (id : Nat) (b : Bound) (h : (resolve L layers c).res = .ok (id, b)) :
    ∃ mls pre ms post, matchLayers L layers c = some mls ∧ mls = pre ++ ms :: post ∧
      (∀ x ∈ pre, x = []) ∧ ms ≠ [] ∧ choose L ms = .ok (id, b) ∧
      ∃ w ∈ ms, w.cand.fd.id = id ∧ w.bound = b := by
  rw [resolve_eq_spec L layers c] at h
  rcases resolveSpec_cases L layers c with ⟨_, _, hr⟩ | ⟨_, ⟨e, _, _, hr⟩ | ⟨_, mls, _, hm, hr⟩⟩
  · rw [hr] at h; cases h
  · rw [hr] at h; cases h
  · rw [hr] at h
    rcases decide'_cases L mls with ⟨_, hd⟩ | ⟨pre, ms, post, hsplit, hpre, hne, hd⟩
    · rw [hd] at h; cases h
    · rw [hd] at h
      obtain ⟨w, hw, hid, hb, _⟩ := choose_ok h
      exact ⟨mls, pre, ms, post, hm, hsplit, hpre, hne, h, w, hw, hid, hb⟩

theorem matchLayers_mem {L : Lattice} {layers : List Layer} {c : Call} {mls : List (List Match)} {ms : List Match}
    {w : Match} (h : matchLayers L layers c = some mls) (hms : ms ∈ mls) (hw : w ∈ ms) :
    ∃ fs ∈ visible c.receiver.isSome layers, w.cand.fd ∈ fs := by
  unfold matchLayers at h
  simp only at h
  split at h
  · cases h
  · rcases stage_cases L (visible c.receiver.isSome layers) c with ⟨_, he, _⟩ | ⟨_, _, _, _, he⟩ | ⟨args, kw, _, _, _, he⟩
    · rw [he] at h; cases h
    · rw [he] at h; cases h
    · rw [he] at h; cases h
      simp only [List.mem_map] at hms
      obtain ⟨_, ⟨fs, hfs, rfl⟩, rfl⟩ := hms
      exact ⟨fs, hfs, (mem_mappedOf (mem_matchesOf hw).1).1⟩

/-- an overload answers only calls of its kind: method-only definitions never answer function
    calls, function-only ones never answer method calls, extension methods answer both;
    and the answer comes from a layer that is reached -/
theorem kind_filter (L : Lattice) (layers : List Layer) (c : Call) (id : Nat) (b : Bound)
    (h : (resolve L layers c).res = .ok (id, b)) :
    ∃ l ∈ reach layers, ∃ f ∈ l.fns, f.id = id ∧ kindOk c.receiver.isSome f = true := by
  obtain ⟨mls, pre, ms, post, hm, rfl, _, _, _, w, hw, hid, _⟩ := first_layer_wins L layers c id b h
  obtain ⟨fs, hfs, hf⟩ := matchLayers_mem hm (by simp) hw
  obtain ⟨l, hl, hfl, hk⟩ := visible_mem hfs hf
  exact ⟨l, hl, w.cand.fd, hfl, hid, hk⟩

theorem kind_exclusive_function (L : Lattice) (layers : List Layer) (c : Call) (id : Nat) (b : Bound)
    (hids : ∀ l ∈ layers, ∀ f ∈ l.fns, f.id = id → f.isMethod = false) (hc : c.receiver.isSome = true) :
    (resolve L layers c).res ≠ .ok (id, b) := by
  intro h
  obtain ⟨l, hl, f, hf, hid, hk⟩ := kind_filter L layers c id b h
  have := hids l (reach_sub _ _ hl) f hf hid
  simp [kindOk, hc, this] at hk

/-- inside the winning layer the chosen overload is more specific than every other
    type-compatible candidate, and it is the only such candidate; otherwise the call is ambiguous -/
theorem most_specific (L : Lattice) (ms : List Match) :
    (∀ id b, choose L ms = .ok (id, b) →
      ∃ w ∈ ms, w.cand.fd.id = id ∧ w.bound = b ∧
        (∀ o ∈ ms, o.cand.fd.id ≠ id → moreSpecific L w.cand.mapping o.cand.mapping = true) ∧
        (∀ w' ∈ ms, (∀ o ∈ ms, beats L w' o = true) → w' = w)) ∧
    ((∀ id b, choose L ms ≠ .ok (id, b)) → choose L ms = .error .ambiguous) := by
  constructor
  · intro id b h
    obtain ⟨w, hw, hid, hb, hbest⟩ := choose_ok h
    have hwb := (mem_best.1 (by rw [hbest]; exact List.mem_singleton_self w)).2
    refine ⟨w, hw, hid, hb, fun o ho hne => ?_, fun w' hw' hall => ?_⟩
    · have := hwb o ho
      simp only [beats, Bool.or_eq_true, beq_iff_eq] at this
      exact this.resolve_left fun e => hne (e.trans hid)
    · exact List.mem_singleton.1 (hbest ▸ mem_best.2 ⟨hw', hall⟩)
  · intro h
    rcases choose_cases L ms with ⟨w, _, hc⟩ | hc
    · exact absurd hc (h _ _)
    · exact hc

/-- `No matching function/method` is raised exactly when the call gets past the kind, no_kwargs and
    keyword-translation stages and then either no overload can be called by this syntax, or the
    laziness check passes and no layer has a type-compatible candidate -/
theorem no_matching_iff (L : Lattice) (layers : List Layer) (c : Call) :
    (resolve L layers c).res = .error .noMatching ↔
      (visible c.receiver.isSome layers).flatten.isEmpty = false ∧
      (stage L (visible c.receiver.isSome layers) c = .error .noMatching ∨
       ∃ mls, matchLayers L layers c = some mls ∧ ∀ ms ∈ mls, ms = []) := by
  rw [resolve_eq_spec L layers c]
  rcases resolveSpec_cases L layers c with ⟨hv, _, hr⟩ | ⟨hv, ⟨e, hs, hm, hr⟩ | ⟨_, mls, hs, hm, hr⟩⟩
  · simp [hr, hv]
  · rw [hr, hs, hm, hv]
    simp
  · rw [hr, hs, hm, hv]
    simp only [true_and, reduceCtorEq, false_or, Option.some.injEq, exists_eq_left']
    rcases decide'_cases L mls with ⟨hall, hd⟩ | ⟨pre, ms, post, rfl, _, hne, hd⟩
    · rw [hd]; exact ⟨fun _ => hall, fun _ => rfl⟩
    · rw [hd]
      refine ⟨fun h => ?_, fun h => absurd (h ms (by simp)) hne⟩
      rcases choose_cases L ms with ⟨_, _, hc⟩ | hc <;> rw [hc] at h <;> cases h

theorem mem_aset {α : Type} {k : Name} {v : α} {l : List (Name × α)} {q : Name × α} (h : q ∈ aset k v l) :
    q ∈ l ∨ q.2 = v := by
  fun_induction aset k v l with
  | case1 => exact .inr (by rw [List.mem_singleton.1 h])
  | case2 k' v' r _ =>
      rcases List.mem_cons.1 h with rfl | h
      · exact .inr rfl
      · exact .inl (List.mem_cons_of_mem _ h)
  | case3 k' v' r _ ih =>
      rcases List.mem_cons.1 h with rfl | h
      · exact .inl List.mem_cons_self
      · exact (ih h).imp_left (List.mem_cons_of_mem _)

theorem mem_foldl_aset {sp : Param} : ∀ (rest : KwArgs) (kwd : List (Name × Param)) (q : Name × Param),
    q ∈ rest.foldl (fun acc kv => aset kv.1 sp acc) kwd → q ∈ kwd ∨ q.2 = sp
  | [], kwd, q, h => Or.inl h
  | kv :: r, kwd, q, h => by
      rcases mem_foldl_aset r _ q h with h | h
      · rcases mem_aset h with h | h
        · exact Or.inl h
        · exact Or.inr h
      · exact Or.inr h

theorem alookup_mem {α : Type} {k : Name} {v : α} : ∀ {l : List (Name × α)}, alookup k l = some v → ∃ k', (k', v) ∈ l
  | [], h => by simp [alookup] at h
  | (k', v') :: r, h => by
      by_cases hk : (k' == k) = true
      · simp [alookup, hk] at h; exact ⟨k', by simp [h]⟩
      · simp [alookup, hk] at h
        obtain ⟨k2, h2⟩ := alookup_mem h
        exact ⟨k2, by simp [h2]⟩

theorem ahas_adel {α : Type} (k k' : Name) (l : List (Name × α)) : ahas k (adel k' l) = true → ahas k l = true := by
  simp only [ahas, adel, List.any_eq_true, List.mem_filter]
  rintro ⟨x, ⟨hx, _⟩, hk⟩
  exact ⟨x, hx, hk⟩

theorem map_aset {α β : Type} (f : α → β) (k : Name) (v : α) : ∀ (l : List (Name × α)),
    (aset k v l).map (fun x => (x.1, f x.2)) = aset k (f v) (l.map fun x => (x.1, f x.2))
  | [] => rfl
  | (k', v') :: r => by
      simp only [aset, List.map_cons]
      split
      · rfl
      · simp [map_aset f k v r]

theorem alookup_map {α β : Type} (f : α → β) (k : Name) : ∀ (l : List (Name × α)),
    alookup k (l.map fun x => (x.1, f x.2)) = (alookup k l).map f
  | [] => rfl
  | (k', v) :: r => by
      simp only [List.map_cons, alookup]
      split
      · rfl
      · exact alookup_map f k r

/-- what one iteration does with its parameter: the decision depends on the state only through
    `rest`, the effect only through the parameter -/
inductive MapAct where
  | fail | keep | setPos (i : Nat) | toKwd

def mapAct (ps : List Param) (args : List Arg) (rest : KwArgs) (p : Param) : MapAct :=
  match p.position with
  | some q =>
      if p.isStar then .keep
      else if p.hidden then .keep
      else if given args (q - fixAt ps q) then
        if ahas p.argName rest then .fail else .setPos (q - fixAt ps q)
      else if ahas p.argName rest then .toKwd
      else if p.default.isNone then .fail
      else if q - fixAt ps q < args.length then .setPos (q - fixAt ps q)
      else .keep
  | none =>
      if p.isStarStar then .keep
      else if p.hidden then .keep
      else if ahas p.argName rest then .toKwd
      else if p.default.isNone then .fail
      else .keep

def MapAct.run : MapAct → Param → MapSt → Option MapSt
  | .fail, _, _ => none
  | .keep, _, st => some st
  | .setPos i, p, st => some { st with pos := st.pos.set i (some p) }
  | .toKwd, p, st => some { st with kwd := aset p.argName p st.kwd, rest := adel p.argName st.rest }

theorem mapStep_eq (ps : List Param) (args : List Arg) (st : MapSt) (p : Param) :
    mapStep ps args st p = (mapAct ps args st.rest p).run p st := by
  unfold mapStep mapAct
  cases p.position <;> simp only [apply_ite (MapAct.run · p st)] <;> rfl

/-- A projection of `MapAct` commutes with `ite`, and then all leaves of the decision tree agree. -/
theorem mapAct_setPos {ps : List Param} {args : List Arg} {rest : KwArgs} {p : Param} {i : Nat}
    (h : mapAct ps args rest p = .setPos i) :
    ∃ q, p.position = some q ∧ p.isStar = false ∧ p.hidden = false ∧ i = q - fixAt ps q := by
  unfold mapAct at h
  cases hq : p.position with
  | none =>
      rw [hq] at h
      have := congrArg (fun a => match a with | .setPos _ => true | _ => false) h
      simp only [apply_ite (fun a => match a with | MapAct.setPos _ => true | _ => false), ite_self] at this
      cases this
  | some q =>
      rw [hq] at h; dsimp only at h
      cases hs : p.isStar with
      | true => rw [hs, if_pos rfl] at h; cases h
      | false =>
      cases hh : p.hidden with
      | true => rw [hs, hh, if_neg Bool.false_ne_true, if_pos rfl] at h; cases h
      | false =>
      rw [hs, hh, if_neg Bool.false_ne_true, if_neg Bool.false_ne_true] at h
      have := congrArg (fun a => match a with | .setPos j => j | _ => q - fixAt ps q) h
      simp only [apply_ite (fun a => match a with | MapAct.setPos j => j | _ => q - fixAt ps q), ite_self] at this
      exact ⟨q, rfl, rfl, rfl, this.symm⟩

theorem mapStep_cases {ps : List Param} {args : List Arg} {st st' : MapSt} {p : Param} {P : MapSt → Prop}
    (h : mapStep ps args st p = some st') (keep : P st)
    (setPos : ∀ q, p.position = some q → p.isStar = false → p.hidden = false →
      P { st with pos := st.pos.set (q - fixAt ps q) (some p) })
    (toKwd : P { st with kwd := aset p.argName p st.kwd, rest := adel p.argName st.rest }) : P st' := by
  rw [mapStep_eq] at h
  cases ha : mapAct ps args st.rest p with
  | fail => rw [ha] at h; cases h
  | keep => rw [ha] at h; cases h; exact keep
  | setPos i =>
      rw [ha] at h; cases h
      obtain ⟨q, h1, h2, h3, rfl⟩ := mapAct_setPos ha
      exact setPos q h1 h2 h3
  | toKwd => rw [ha] at h; cases h; exact toKwd

theorem mapLoop_preserves {ps : List Param} {args : List Arg} {P : MapSt → Prop} : ∀ {l : List Param} {st st' : MapSt},
    (∀ p ∈ l, ∀ q, p.position = some q → p.isStar = false → p.hidden = false →
      ∀ st, P st → P { st with pos := st.pos.set (q - fixAt ps q) (some p) }) →
    (∀ p ∈ l, ∀ st, P st → P { st with kwd := aset p.argName p st.kwd, rest := adel p.argName st.rest }) →
    P st → mapLoop ps args st l = some st' → P st'
  | [], st, st', _, _, hi, h => by cases h; exact hi
  | p :: r, st, st', hset, hkw, hi, h => by
      simp only [mapLoop] at h
      cases hs : mapStep ps args st p with
      | none => simp [hs] at h
      | some st1 =>
          simp only [hs] at h
          exact mapLoop_preserves (fun x hx => hset x (List.mem_cons_of_mem _ hx))
            (fun x hx => hkw x (List.mem_cons_of_mem _ hx))
            (mapStep_cases hs hi (fun q h1 h2 h3 => hset p List.mem_cons_self q h1 h2 h3 st hi)
              (hkw p List.mem_cons_self st hi)) h

theorem mapLoop_append (ps : List Param) (args : List Arg) : ∀ (l1 l2 : List Param) (st : MapSt),
    mapLoop ps args st (l1 ++ l2) = (mapLoop ps args st l1).bind fun st' => mapLoop ps args st' l2
  | [], l2, st => rfl
  | p :: r, l2, st => by
      simp only [List.cons_append, mapLoop]
      cases mapStep ps args st p with
      | none => rfl
      | some st1 => exact mapLoop_append ps args r l2 st1

structure MapInv (ps : List Param) (st : MapSt) : Prop where
  pos : ∀ p, some p ∈ st.pos → p ∈ ps
  kwd : ∀ q ∈ st.kwd, q.2 ∈ ps

theorem mapLoop_inv {ps : List Param} {args : List Arg} {l : List Param} {st st' : MapSt}
    (hl : ∀ p ∈ l, p ∈ ps) : MapInv ps st → mapLoop ps args st l = some st' → MapInv ps st' :=
  mapLoop_preserves
    (fun p hp _ _ _ _ st hi => ⟨fun x hx => by
        rcases List.mem_or_eq_of_mem_set hx with h | h
        · exact hi.pos x h
        · cases h; exact hl p hp, hi.kwd⟩)
    (fun p hp st hi => ⟨hi.pos, fun q hq => by
        rcases mem_aset hq with h | h
        · exact hi.kwd q h
        · rw [h]; exact hl p hp⟩)

/-- `keyword_args` after the `**` part was entered -/
def kwdOf (ps : List Param) (st : MapSt) : Option (List (Name × Param)) :=
  if st.rest.isEmpty then some st.kwd
  else match starStarParam ps with
    | some sp => some (st.rest.foldl (fun acc kv => aset kv.1 sp acc) st.kwd)
    | none => none

def mapFinish (L : Lattice) (ps : List Param) (args : List Arg) (kwargs : KwArgs) (st : MapSt) : Option Mapping :=
  match kwdOf ps st with
  | none => none
  | some kwd =>
      if !posOk L st.pos args then none
      else if !(st.rest.all fun kv => checkOpt L (alookup kv.1 kwd) kv.2) then none
      else some { pos := st.pos.filterMap id,
                  kwd := kwargs.filterMap fun kv => (alookup kv.1 kwd).map fun p => (kv.1, p) }

theorem mapArgs_eq_finish (L : Lattice) (ps : List Param) (args : List Arg) (kw : KwArgs) :
    mapArgs L ps args kw =
      (mapLoop ps args { pos := List.replicate args.length (starParam ps), kwd := [], rest := kw } ps).bind
        (mapFinish L ps args kw) := by
  unfold mapArgs
  dsimp only
  cases mapLoop ps args _ ps <;> rfl

theorem mapArgs_some {L : Lattice} {ps : List Param} {args : List Arg} {kw : KwArgs} {m : Mapping}
    (h : mapArgs L ps args kw = some m) :
    ∃ st kwd, mapLoop ps args { pos := List.replicate args.length (starParam ps), kwd := [], rest := kw } ps = some st ∧
      kwdOf ps st = some kwd ∧ posOk L st.pos args = true ∧
      m = { pos := st.pos.filterMap id, kwd := kw.filterMap fun kv => (alookup kv.1 kwd).map fun p => (kv.1, p) } := by
  rw [mapArgs_eq_finish] at h
  obtain ⟨st, hst, h⟩ := Option.bind_eq_some_iff.1 h
  unfold mapFinish at h
  split at h
  · cases h
  · rename_i kwd hkwd
    split at h
    · cases h
    · rename_i hpos
      split at h
      · cases h
      · cases h; exact ⟨st, kwd, hst, hkwd, by simpa using hpos, rfl⟩

theorem mapArgs_mem {L : Lattice} {ps : List Param} {args : List Arg} {kw : KwArgs} {m : Mapping}
    (h : mapArgs L ps args kw = some m) : (∀ p ∈ m.pos, p ∈ ps) ∧ (∀ q ∈ m.kwd, q.2 ∈ ps) := by
  obtain ⟨st, kwd, hl, hkwd, _, rfl⟩ := mapArgs_some h
  have hi : MapInv ps st := mapLoop_inv (fun p hp => hp)
    ⟨fun p hp => List.mem_of_find?_eq_some (List.eq_of_mem_replicate hp).symm, fun q hq => by simp at hq⟩ hl
  have hk : ∀ q ∈ kwd, q.2 ∈ ps := by
    intro q hq
    unfold kwdOf at hkwd
    split at hkwd
    · cases hkwd; exact hi.kwd q hq
    · split at hkwd
      · rename_i sp hsp
        cases hkwd
        rcases mem_foldl_aset _ _ q hq with h' | h'
        · exact hi.kwd q h'
        · rw [h']; exact List.mem_of_find?_eq_some hsp
      · cases hkwd
  refine ⟨fun p hp => ?_, fun q hq => ?_⟩
  · simp only [List.mem_filterMap, id] at hp
    obtain ⟨a, ha, rfl⟩ := hp
    exact hi.pos p ha
  · simp only [List.mem_filterMap, Option.map_eq_some_iff] at hq
    obtain ⟨kv, _, p, hlk, rfl⟩ := hq
    obtain ⟨k', hk'⟩ := alookup_mem hlk
    exact hk (k', p) hk'

theorem posOk_elim (L : Lattice) : ∀ (pos : List (Option Param)) (args : List Arg), posOk L pos args = true →
    pos = (pos.filterMap id).map some ∧
    ∀ (i : Nat) (a : Arg) (p : Param), args[i]? = some a → a.isNoValue = false →
      (pos.filterMap id)[i]? = some p → check L p.ty a = true
  | [], _, _ => ⟨rfl, fun _ _ _ _ _ hp => by simp at hp⟩
  | none :: _, _, h => by simp [posOk] at h
  | some _ :: _, [], h => by simp [posOk] at h
  | some p0 :: r, a0 :: as, h => by
      simp only [posOk, Bool.and_eq_true] at h
      obtain ⟨ih1, ih2⟩ := posOk_elim L r as h.2
      refine ⟨?_, fun i a p ha hnv hp => ?_⟩
      · simp only [List.filterMap_cons, id, List.map_cons]
        rw [← ih1]
      · cases i with
        | zero =>
            simp at ha hp
            subst ha; subst hp
            simpa [hnv] using h.1
        | succ j =>
            simp at ha hp
            exact ih2 j a p ha hnv (by simpa using hp)

/-- every argument that is present - in particular a constant, whose value is known before
    evaluation - has passed the `check` of the parameter it is bound to when `map_args` succeeds:
    a constant of the wrong type removes the candidate in the first pass, i.e. before the
    laziness comparison (rule 4) -/
theorem constants_prechecked (L : Lattice) (ps : List Param) (args : List Arg) (kw : KwArgs) (m : Mapping)
    (h : mapArgs L ps args kw = some m) (i : Nat) (a : Arg) (p : Param)
    (ha : args[i]? = some a) (hnv : a.isNoValue = false) (hp : m.pos[i]? = some p) :
    check L p.ty a = true := by
  obtain ⟨st, _, _, _, hpos, rfl⟩ := mapArgs_some h
  exact (posOk_elim L st.pos args hpos).2 i a p ha hnv hp

/-! ### a skipped or missing argument needs a default -/

theorem mapArgs_none_of_fail {L : Lattice} {ps : List Param} {args : List Arg} {kw : KwArgs} {p : Param}
    (hp : p ∈ ps) (hkw : ahas p.argName kw = false)
    (hfail : ∀ st : MapSt, ahas p.argName st.rest = false → mapStep ps args st p = none) :
    mapArgs L ps args kw = none := by
  suffices h : ∀ l, p ∈ l → ∀ pos, mapLoop ps args { pos := pos, kwd := [], rest := kw } l = none by
    rw [mapArgs_eq_finish, h ps hp]; rfl
  intro l hl pos
  obtain ⟨l1, l2, rfl⟩ := List.append_of_mem hl
  rw [mapLoop_append]
  cases h1 : mapLoop ps args { pos := pos, kwd := [], rest := kw } l1 with
  | none => rfl
  | some st1 =>
      have hsub : ∀ k, ahas k st1.rest = true → ahas k kw = true :=
        mapLoop_preserves (P := fun st => ∀ k, ahas k st.rest = true → ahas k kw = true)
          (fun _ _ _ _ _ _ _ h => h) (fun _ _ _ h k hk => h k (ahas_adel _ _ _ hk)) (fun _ h => h) h1
      have hr : ahas p.argName st1.rest = false := by
        cases h : ahas p.argName st1.rest with
        | false => rfl
        | true => rw [hsub _ h] at hkw; cases hkw
      simp [mapLoop, hfail st1 hr]

/-- a visible positional parameter whose slot is empty (`f(1,,3)`) or missing, that is not given by
    keyword and has no default, makes the overload uncallable -/
theorem skipped_needs_default (L : Lattice) (ps : List Param) (args : List Arg) (kw : KwArgs)
    (p : Param) (hp : p ∈ ps) (q : Nat) (hq : p.position = some q) (hns : p.isStar = false)
    (hnh : p.hidden = false) (hskip : given args (q - fixAt ps q) = false)
    (hkw : ahas p.argName kw = false) (hd : p.default = none) :
    mapArgs L ps args kw = none :=
  mapArgs_none_of_fail hp hkw fun st hr => by simp [mapStep, hq, hns, hnh, hskip, hr, hd]

/-- the same for keyword-only parameters -/
theorem kwonly_needs_default (L : Lattice) (ps : List Param) (args : List Arg) (kw : KwArgs)
    (p : Param) (hp : p ∈ ps) (hq : p.position = none) (hns : p.isStarStar = false)
    (hnh : p.hidden = false) (hkw : ahas p.argName kw = false) (hd : p.default = none) :
    mapArgs L ps args kw = none :=
  mapArgs_none_of_fail hp hkw fun st hr => by simp [mapStep, hq, hns, hnh, hr, hd]

/-! ### arguments beyond the visible positional parameters go to `*` -/

/-- if the slots of the visible positional parameters are all below `n`, every argument from
    position `n` on is bound to the `*` parameter (so there must be one) -/
theorem star_absorbs (L : Lattice) (ps : List Param) (args : List Arg) (kw : KwArgs) (m : Mapping) (n : Nat)
    (hslots : ∀ p ∈ ps, ∀ q, p.position = some q → p.isStar = false → p.hidden = false → q - fixAt ps q < n)
    (h : mapArgs L ps args kw = some m) (i : Nat) (hn : n ≤ i) (hi : i < args.length) :
    ∃ sp, starParam ps = some sp ∧ m.pos[i]? = some sp := by
  obtain ⟨st, _, hst, _, hpos, rfl⟩ := mapArgs_some h
  have h1 : st.pos[i]? = some (starParam ps) :=
    mapLoop_preserves (P := fun st => st.pos[i]? = some (starParam ps))
      (fun p hp q h1 h2 h3 st hi' => by
        have : q - fixAt ps q ≠ i := by have := hslots p hp q h1 h2 h3; omega
        simpa only [List.getElem?_set_ne this] using hi')
      (fun _ _ _ hi' => hi') (by simp [hi]) hst
  rw [(posOk_elim L st.pos args hpos).1, List.getElem?_map] at h1
  cases hm : (st.pos.filterMap id)[i]? with
  | none => simp [hm] at h1
  | some sp =>
      simp only [hm, Option.map_some, Option.some.injEq] at h1
      exact ⟨sp, h1.symm, rfl⟩

/-! ### hidden parameters are transparent -/

def shiftPos (q r : Nat) : Nat := if q ≤ r then r + 1 else r

/-- what `insert_parameter` does to the other parameters -/
def shift (q : Nat) (p : Param) : Param := { p with position := p.position.map (shiftPos q) }

/-- `FunctionDefinition.insert_parameter` of a hidden positional parameter `h` at position `q` -/
def insertHidden (ps : List Param) (q : Nat) (h : Param) : List Param := ps.map (shift q) ++ [h]

def shiftMapping (q : Nat) (m : Mapping) : Mapping :=
  { pos := m.pos.map (shift q), kwd := m.kwd.map fun x => (x.1, shift q x.2) }

def shiftSt (q : Nat) (st : MapSt) : MapSt :=
  { pos := st.pos.map (Option.map (shift q)), kwd := st.kwd.map (fun x => (x.1, shift q x.2)), rest := st.rest }

theorem shiftPos_lt (q a b : Nat) : shiftPos q a < shiftPos q b ↔ a < b := by
  unfold shiftPos; split <;> split <;> omega

theorem fixAt_insertHidden (ps : List Param) (q : Nat) (h : Param) (hq : h.position = some q)
    (hh : h.hidden = true) (r : Nat) :
    fixAt (insertHidden ps q h) (shiftPos q r) = fixAt ps r + (if q ≤ r then 1 else 0) := by
  have h1 : ((ps.map (shift q)).filter fun p => p.hidden &&
      (match p.position with | some x => decide (x < shiftPos q r) | none => false)).length =
      (ps.filter fun p => p.hidden && (match p.position with | some x => decide (x < r) | none => false)).length := by
    rw [List.filter_map, List.length_map]
    congr 1
    apply List.filter_congr
    intro p _
    simp only [Function.comp, shift, Param.hidden]
    cases p.position with
    | none => rfl
    | some x => simp [shiftPos_lt]
  simp only [fixAt, insertHidden, List.filter_append, List.length_append]
  refine congr (congrArg _ h1) ?_
  have h2 : decide (q < shiftPos q r) = decide (q ≤ r) := by
    unfold shiftPos; split <;> simp <;> omega
  simp only [List.filter_cons, hh, hq, Bool.true_and, List.filter_nil, h2]
  by_cases hqr : q ≤ r <;> simp [hqr]

theorem slot_insertHidden (ps : List Param) (q : Nat) (h : Param) (hq : h.position = some q)
    (hh : h.hidden = true) (r : Nat) :
    shiftPos q r - fixAt (insertHidden ps q h) (shiftPos q r) = r - fixAt ps r := by
  rw [fixAt_insertHidden ps q h hq hh]
  unfold shiftPos
  split <;> omega

theorem mapAct_shift (ps : List Param) (args : List Arg) (q : Nat) (h : Param) (hq : h.position = some q)
    (hh : h.hidden = true) (rest : KwArgs) (p : Param) :
    mapAct (insertHidden ps q h) args rest (shift q p) = mapAct ps args rest p := by
  unfold mapAct
  show (match p.position.map (shiftPos q) with | some r => _ | none => _) = _
  cases p.position with
  | none => rfl
  | some r => simp only [Option.map_some, slot_insertHidden ps q h hq hh]; rfl

theorem MapAct.run_shift (q : Nat) (p : Param) (st : MapSt) : ∀ a : MapAct,
    a.run (shift q p) (shiftSt q st) = (a.run p st).map (shiftSt q)
  | .fail => rfl
  | .keep => rfl
  | .setPos i => by simp [MapAct.run, shiftSt, List.map_set]
  | .toKwd => by
      have : (shift q p).argName = p.argName := rfl
      simp [MapAct.run, shiftSt, map_aset, this]

theorem mapStep_shift (ps : List Param) (args : List Arg) (q : Nat) (h : Param) (hq : h.position = some q)
    (hh : h.hidden = true) (st : MapSt) (p : Param) :
    mapStep (insertHidden ps q h) args (shiftSt q st) (shift q p) = (mapStep ps args st p).map (shiftSt q) := by
  rw [mapStep_eq, mapStep_eq, ← MapAct.run_shift]
  exact congrArg (MapAct.run · _ _) (mapAct_shift ps args q h hq hh st.rest p)

theorem mapLoop_shift (ps : List Param) (args : List Arg) (q : Nat) (h : Param) (hq : h.position = some q)
    (hh : h.hidden = true) : ∀ (l : List Param) (st : MapSt),
    mapLoop (insertHidden ps q h) args (shiftSt q st) (l.map (shift q)) =
      (mapLoop ps args st l).map (shiftSt q)
  | [], st => rfl
  | p :: r, st => by
      simp only [List.map_cons, mapLoop, mapStep_shift ps args q h hq hh]
      cases mapStep ps args st p with
      | none => rfl
      | some st1 => exact mapLoop_shift ps args q h hq hh r st1

theorem posOk_shift (L : Lattice) (q : Nat) : ∀ (pos : List (Option Param)) (args : List Arg),
    posOk L (pos.map (Option.map (shift q))) args = posOk L pos args
  | [], _ => rfl
  | none :: _, _ => rfl
  | some _ :: _, [] => rfl
  | some p :: r, a :: as => by
      simp only [List.map_cons, Option.map_some, posOk, posOk_shift L q r as]
      rfl

theorem foldl_aset_shift (q : Nat) (sp : Param) : ∀ (rest : KwArgs) (kwd : List (Name × Param)),
    rest.foldl (fun acc kv => aset kv.1 (shift q sp) acc) (kwd.map fun x => (x.1, shift q x.2)) =
      (rest.foldl (fun acc kv => aset kv.1 sp acc) kwd).map fun x => (x.1, shift q x.2)
  | [], _ => rfl
  | kv :: r, kwd => by
      simp only [List.foldl_cons, ← map_aset]
      exact foldl_aset_shift q sp r _

theorem checkOpt_shift (L : Lattice) (q : Nat) (o : Option Param) (v : Arg) :
    checkOpt L (Option.map (shift q) o) v = checkOpt L o v := by
  cases o <;> rfl

theorem find?_insertHidden (ps : List Param) (q : Nat) (h : Param) (f : Param → Bool)
    (hf : ∀ p, f (shift q p) = f p) (hh : f h = false) :
    (insertHidden ps q h).find? f = (ps.find? f).map (shift q) := by
  simp only [insertHidden, List.find?_append, List.find?_map]
  have : (f ∘ shift q) = f := funext hf
  rw [this]
  cases ps.find? f with
  | none => simp [hh]
  | some x => rfl

theorem kwdOf_shift (ps : List Param) (q : Nat) (h : Param) (hss : h.isStarStar = false) (st : MapSt) :
    kwdOf (insertHidden ps q h) (shiftSt q st) = (kwdOf ps st).map (List.map fun x => (x.1, shift q x.2)) := by
  have hstst : starStarParam (insertHidden ps q h) = (starStarParam ps).map (shift q) :=
    find?_insertHidden ps q h _ (fun _ => rfl) hss
  unfold kwdOf
  rw [hstst]
  show (if st.rest.isEmpty = true then _ else _) = _
  split
  · rfl
  · cases starStarParam ps with
    | none => rfl
    | some sp => exact congrArg some (foldl_aset_shift q sp st.rest st.kwd)

/-- the checks after the loop do not look at positions -/
theorem mapFinish_shift (L : Lattice) (ps : List Param) (args : List Arg) (kw : KwArgs) (q : Nat) (h : Param)
    (hss : h.isStarStar = false) (st : MapSt) :
    mapFinish L (insertHidden ps q h) args kw (shiftSt q st) = (mapFinish L ps args kw st).map (shiftMapping q) := by
  unfold mapFinish
  rw [kwdOf_shift ps q h hss]
  cases kwdOf ps st with
  | none => rfl
  | some kwd =>
      have hk : (fun kv : Name × Arg => (Option.map (shift q) (alookup kv.1 kwd)).map fun p => (kv.1, p)) =
          fun kv => ((alookup kv.1 kwd).map fun p => (kv.1, p)).map fun x => (x.1, shift q x.2) := by
        funext kv; cases alookup kv.1 kwd <;> rfl
      simp only [Option.map_some, shiftSt, posOk_shift, alookup_map, checkOpt_shift, apply_ite (Option.map (shiftMapping q)),
        Option.map_none, shiftMapping, List.map_filterMap, List.filterMap_map, hk]
      rfl

/-- injecting a hidden parameter at any position changes neither which calls map nor what every
    argument is bound to (the visible parameters only move one position up) -/
theorem hidden_transparent (L : Lattice) (ps : List Param) (args : List Arg) (kw : KwArgs) (q : Nat) (h : Param)
    (hq : h.position = some q) (hh : h.hidden = true) (hs : h.isStar = false) (hss : h.isStarStar = false) :
    mapArgs L (insertHidden ps q h) args kw = (mapArgs L ps args kw).map (shiftMapping q) := by
  have hstar : starParam (insertHidden ps q h) = (starParam ps).map (shift q) :=
    find?_insertHidden ps q h _ (fun _ => rfl) hs
  have hinit : ({ pos := List.replicate args.length (starParam (insertHidden ps q h)), kwd := [], rest := kw } : MapSt) =
      shiftSt q { pos := List.replicate args.length (starParam ps), kwd := [], rest := kw } := by
    simp [shiftSt, hstar]
  have hlast : ∀ st, mapLoop (insertHidden ps q h) args st [h] = some st := by
    intro st; simp [mapLoop, mapStep, hq, hs, hh]
  rw [mapArgs_eq_finish, mapArgs_eq_finish, hinit]
  conv => lhs; arg 1; arg 4; unfold insertHidden
  rw [mapLoop_append, mapLoop_shift ps args q h hq hh]
  cases mapLoop ps args { pos := List.replicate args.length (starParam ps), kwd := [], rest := kw } ps with
  | none => rfl
  | some st => simp [hlast, mapFinish_shift L ps args kw q h hss]

/-! ## concrete instances (non-vacuity of the hypotheses, and the rules at work) -/

namespace Ex

/-- classes: 0 object, 1 Base, 2 L, 3 R, 4 D (Base > L, R > D), 5 str, 6 int, 7 marker -/
def subPairs : List (Nat × Nat) :=
  [(0,0),(1,1),(2,2),(3,3),(4,4),(5,5),(6,6),(7,7),(1,0),(2,0),(3,0),(4,0),(5,0),(6,0),(7,0),
   (2,1),(3,1),(4,1),(4,2),(4,3)]
def lat : Lattice := { sub := fun a b => subPairs.contains (a, b), marker := .obj 7 [] 0 }

def pos (n : Char) (i : Nat) (ty : PTy) : Param :=
  { key := .name [n], name := [n], alias := none, position := some i, default := none, ty := ty }
def cls (c : Nat) : PTy := .py (.one c) false []
def fn (id : Nat) (ps : List Param) : FDef :=
  { id := id, isFunction := true, isMethod := false, noKwargs := false, params := ps }

def dVal : Val := .obj 4 [] 1
def tick (p : Nat) : Arg := .expr 2 p true dVal

/-- `A(D, D)`, `B(L, Base)`, `C(Base, R)` in one layer -/
def famABC : List Layer :=
  [{ fns := [fn 0 [pos 'a' 0 (cls 4), pos 'b' 1 (cls 4)], fn 1 [pos 'a' 0 (cls 2), pos 'b' 1 (cls 1)],
             fn 2 [pos 'a' 0 (cls 1), pos 'b' 1 (cls 3)]], exclusive := false }]

def callXX : Call := { receiver := none, args := [tick 1, tick 2], kwargs := [] }

/-- `A` is more specific than the mutually incomparable `B` and `C`: it wins, and both arguments
    were evaluated once, in order -/
example : (resolve lat famABC callXX).log = [1, 2] ∧
    (resolve lat famABC callXX).res =
      .ok (0, { pos := [some (.arg (.value dVal)), some (.arg (.value dVal))], extra := [], kw := [] }) := by
  decide +kernel

/-- without `A` the call is ambiguous -/
example : (resolve lat [{ fns := (famABC.head!).fns.tail, exclusive := false }] callXX).res = .error .ambiguous := by
  decide +kernel

/-- `P(x: Lambda)` and `Q(x: String)`: a constant of the wrong type removes `Q` before the laziness
    comparison, so `f(1)` resolves to `P`; with an expression in its place the two disagree on
    laziness and the call is ambiguous -/
def famPQ : List Layer :=
  [{ fns := [fn 0 [pos 'x' 0 (.lambda false)], fn 1 [pos 'x' 0 (cls 5)]], exclusive := false }]

example : (resolve lat famPQ { receiver := none, args := [.const (.obj 6 [] 2) .num none 0], kwargs := [] }).res =
    .ok (0, { pos := [some (.arg (.const (.obj 6 [] 2) .num none 0))], extra := [], kw := [] }) := by decide +kernel

example : (resolve lat famPQ { receiver := none, args := [tick 1], kwargs := [] }).res = .error .ambiguous := by decide +kernel

/-- (as implemented) a constant passed by keyword is not looked at before the laziness comparison -/
def callKwConst : Call :=
  { receiver := none
    args := [Arg.mapRule (.const (.obj 5 [] 3) .str (some ['x']) 1) (.const (.obj 6 [] 2) .num none 0) Val.none 5]
    kwargs := [] }

example : (resolve lat famPQ callKwConst).res = .error .ambiguous := by decide +kernel

/-- a nearer layer wins even if a farther one has a more specific overload; an exclusive layer hides
    what lies behind it -/
def famLayers (excl : Bool) : List Layer :=
  [{ fns := [], exclusive := false },
   { fns := [fn 0 [pos 'a' 0 (cls 1)]], exclusive := excl },
   { fns := [fn 1 [pos 'a' 0 (cls 4)], fn 2 [pos 'a' 0 (cls 5)]], exclusive := false }]

example : (resolve lat (famLayers false) { receiver := none, args := [tick 1], kwargs := [] }).res =
    .ok (0, { pos := [some (.arg (.value dVal))], extra := [], kw := [] }) := by decide +kernel

example : (resolve lat (famLayers false)
    { receiver := none, args := [.const (.obj 5 [] 3) .str none 0], kwargs := [] }).res =
    .ok (2, { pos := [some (.arg (.const (.obj 5 [] 3) .str none 0))], extra := [], kw := [] }) := by decide +kernel

example : (resolve lat (famLayers true)
    { receiver := none, args := [.const (.obj 5 [] 3) .str none 0], kwargs := [] }).res = .error .noMatching := by decide +kernel

example : (resolve lat (famLayers true) { receiver := some dVal, args := [], kwargs := [] }).res = .error .unknown := by
  decide +kernel

/-- hypotheses of `hidden_transparent` / `skipped_needs_default` / `star_absorbs` are satisfiable -/
def hiddenCtx : Param :=
  { key := .name ['h'], name := ['h'], alias := none, position := some 1, default := none, ty := .hidden .context }

example : (mapArgs lat (insertHidden [pos 'a' 0 (cls 4), pos 'b' 1 (cls 1)] 1 hiddenCtx) [tick 1, tick 2] []).isSome = true := by
  decide +kernel

example : mapArgs lat [pos 'a' 0 (cls 4), pos 'b' 1 (cls 1)] [.noValue, tick 2] [] = none := by decide +kernel

def starP : Param :=
  { key := .star, name := ['r'], alias := none, position := some 1, default := none, ty := cls 1 }

example : (mapArgs lat [pos 'a' 0 (cls 4), starP] [tick 1, tick 2, tick 3] []).map (·.pos.map (·.name)) =
    some [['a'], ['r'], ['r']] := by decide +kernel

end Ex

end Yaql.Props.C05
