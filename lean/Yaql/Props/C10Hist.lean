import Yaql.Model.HostHistory
import Yaql.Props.C10
/-!
C10 under host reuse: the round trip holds for the document AS IT IS NOW.

`Props/C10.lean: roundtrip` is about values (`convOut o none (convIn d) = ok (canon o d)`).  Here the host keeps one
document object over a history of operations (`Model/HostHistory.lean`): it changes the document in place, replaces
it, evaluates `$` with engines of any options (same statement object or another - no difference: nothing an evaluation
could write to), binds contexts with `create_context(data=doc)` and evaluates through them.  `history_spec`: for every
history, every `evaluate` returns the finalised conversion of the document at THAT time, every evaluation through a
bound context the finalised conversion of the document at BIND time, under the options of the evaluating engine;
`roundtrip_history` adds C10's round trip: these are `canon o (document at that time)`.  `memo_breaks_roundtrip`: the
design in which a statement remembers its last input does not satisfy this (a three-step history).
-/
namespace Yaql.Props.C10
open Yaql.Convert Yaql.HostHistory

theorem run_getElem : ∀ (ops : List Op) (st : St) (t : Nat),
    (run st ops)[t]? = (ops[t]?).map fun op => (step (stateAfter st (ops.take t)) op).2
  | [], _, _ => by simp [run]
  | op :: r, st, 0 => by simp [run, stateAfter]
  | op :: r, st, t + 1 => by
      simp only [run, List.getElem?_cons_succ, List.take_succ_cons, stateAfter]
      exact run_getElem r (step st op).1 t

theorem stateAfter_doc : ∀ (pre : List Op) (st : St), (stateAfter st pre).doc = docAfter st.doc pre
  | [], _ => rfl
  | op :: r, st => by
      simp only [stateAfter]
      rw [stateAfter_doc r]
      cases op <;> rfl

theorem stateAfter_bound : ∀ (pre : List Op) (st : St),
    (stateAfter st pre).bound = st.bound ++ (bindDocs st.doc pre).map convIn
  | [], st => by simp [stateAfter, bindDocs]
  | op :: r, st => by
      simp only [stateAfter]
      rw [stateAfter_bound r]
      cases op <;> simp [step, bindDocs]

theorem bindDocs_times : ∀ (pre : List Op) (d : Py),
    bindDocs d pre = (bindTimes pre).map fun tb => docAfter d (pre.take tb)
  | [], _ => rfl
  | op :: r, d => by
      cases op <;>
        simp [bindDocs, bindTimes, bindDocs_times r, List.map_map, Function.comp_def, docAfter]

theorem bindTimes_lt : ∀ (pre : List Op), ∀ tb ∈ bindTimes pre, tb < pre.length
  | [], _, h => by simp [bindTimes] at h
  | op :: r, tb, h => by
      have shifted : tb ∈ (bindTimes r).map (· + 1) → tb < (op :: r).length := fun h => by
        obtain ⟨a, ha, rfl⟩ := List.mem_map.mp h
        exact Nat.succ_lt_succ (bindTimes_lt r a ha)
      cases op
      case bind =>
        rcases List.mem_cons.mp h with rfl | h
        · exact Nat.zero_lt_succ _
        · exact shifted h
      all_goals exact shifted h

/-- **C10.history_spec** (all initial documents, all histories of any length, all option sets): what each
    operation of the history hands back is a function of the document as it is at that time (for `evaluate`), resp.
    of the document as it was when the context was bound (for `evalBound`), and of the options of the engine that
    evaluates - nothing else: not of earlier evaluations, not of the identity of the document object, not of earlier
    contents. -/
theorem history_spec (d0 : Py) (id nx : Nat) (ops : List Op) (t : Nat) :
    (∀ ci o, ops[t]? = some (.evaluate ci o) →
      (run ⟨d0, id, nx, []⟩ ops)[t]? = some (some (finalize o (bindValue ci (docAt d0 ops t))))) ∧
    (∀ i o tb, ops[t]? = some (.evalBound i o) → (bindTimes (ops.take t))[i]? = some tb →
      tb < t ∧ (run ⟨d0, id, nx, []⟩ ops)[t]? = some (some (finalize o (convIn (docAt d0 ops tb))))) ∧
    (∀ i o, ops[t]? = some (.evalBound i o) → (bindTimes (ops.take t))[i]? = none →
      (run ⟨d0, id, nx, []⟩ ops)[t]? = some none) := by
  refine ⟨?_, ?_, ?_⟩
  · intro ci o h
    rw [run_getElem, h]
    simp only [Option.map_some, step, stateAfter_doc, docAt]
  · intro i o tb h hb
    have hlt : tb < (ops.take t).length := bindTimes_lt _ tb (List.mem_of_getElem? hb)
    have hlt' : tb < t := by simp at hlt; omega
    refine ⟨hlt', ?_⟩
    rw [run_getElem, h]
    simp only [Option.map_some, step, stateAfter_bound, List.nil_append, bindDocs_times, List.map_map,
      List.getElem?_map, hb, Function.comp_def, docAt, List.take_take]
    rw [Nat.min_eq_left (Nat.le_of_lt hlt')]
  · intro i o h hb
    rw [run_getElem, h]
    simp only [Option.map_some, step, stateAfter_bound, List.nil_append, bindDocs_times, List.map_map,
      List.getElem?_map, hb, Option.map_none]

/-- **C10.roundtrip_history**: the round trip along any host history.  Every `evaluate` (input conversion on) of a
    document that is, at that time, a round-trippable document (`docX`: JSON-like documents and tuples / sets /
    generators of such, see `roundtrip` / `docX_of_ext`) returns `canon o (the document at that time)`; every
    evaluation through a context bound at time `tb` returns `canon o (the document at time tb)` - the OLD content when
    the host changed the document afterwards: binding converts at bind time - under the options `o` of the engine
    that evaluates, each time. -/
theorem roundtrip_history (d0 : Py) (id nx : Nat) (ops : List Op) (t : Nat) :
    (∀ o, ops[t]? = some (.evaluate true o) → docX o (docAt d0 ops t) = true →
      (run ⟨d0, id, nx, []⟩ ops)[t]? = some (some (.ok (canon o (docAt d0 ops t))))) ∧
    (∀ i o tb, ops[t]? = some (.evalBound i o) → (bindTimes (ops.take t))[i]? = some tb →
      docX o (docAt d0 ops tb) = true →
      (run ⟨d0, id, nx, []⟩ ops)[t]? = some (some (.ok (canon o (docAt d0 ops tb))))) := by
  obtain ⟨h1, h2, _⟩ := history_spec d0 id nx ops t
  refine ⟨?_, ?_⟩
  · intro o h hx
    rw [h1 true o h]
    simp only [finalize, bindValue, if_true, roundtrip_ext o _ hx]
  · intro i o tb h hb hx
    rw [(h2 i o tb h hb).2]
    simp only [finalize, roundtrip_ext o _ hx]

/-- ... and with JSON-like documents throughout under the default options the host gets back its document itself -/
theorem roundtrip_history_default (d0 : Py) (id nx : Nat) (ops : List Op) (t : Nat)
    (h : ops[t]? = some (.evaluate true {})) (hd : isDoc (docAt d0 ops t) = true) :
    (run ⟨d0, id, nx, []⟩ ops)[t]? = some (some (.ok (docAt d0 ops t))) := by
  obtain ⟨h1, _, _⟩ := history_spec d0 id nx ops t
  rw [h1 true {} h]
  simp only [finalize, bindValue, if_true, roundtrip_default _ hd]

/-! ### non-vacuity and the contrast -/

def exD1 : Py := .map .dict [(.sc (.str ['a']), .seq .list [.sc (.int 1)])]
def exD2 : Py := .map .dict [(.sc (.str ['a']), .seq .list [.sc (.int 1), .sc (.int 2)])]
def exOps : List Op :=
  [.evaluate true {}, .bind, .mutate exD2, .evaluate true {}, .evalBound 0 {}, .evalBound 0 { t2l := false }]

/-- evaluate / bind / mutate in place / evaluate again / evaluate through the context bound before, twice with
    different options: new content, old content, old content with tuples kept -/
example : run ⟨exD1, 0, 1, []⟩ exOps =
    [some (.ok exD1), none, none, some (.ok exD2), some (.ok exD1),
     some (.ok (.map .dict [(.sc (.str ['a']), .seq .tuple [.sc (.int 1)])]))] := by rfl
example : docAt exD1 exOps 3 = exD2 ∧ bindTimes (exOps.take 4) = [1] ∧ docAt exD1 exOps 1 = exD1 ∧
    isDoc exD2 = true := ⟨rfl, rfl, rfl, rfl⟩

/-- **C10.memo_breaks_roundtrip**: a statement that keeps `(document object, converted document)` of its last
    evaluation returns the OLD content for a document changed in place - it does not satisfy `roundtrip_history`
    (while agreeing with the real design as long as the host never mutates in place). -/
theorem memo_breaks_roundtrip :
    runMemo ⟨⟨exD1, 0, 1, []⟩, none⟩ [.evaluate true {}, .mutate exD2, .evaluate true {}]
      = [some (.ok exD1), none, some (.ok exD1)] ∧
    run ⟨exD1, 0, 1, []⟩ [.evaluate true {}, .mutate exD2, .evaluate true {}]
      = [some (.ok exD1), none, some (.ok exD2)] ∧
    runMemo ⟨⟨exD1, 0, 1, []⟩, none⟩ [.evaluate true {}, .replace exD2, .evaluate true {}]
      = [some (.ok exD1), none, some (.ok exD2)] ∧
    exD1 ≠ exD2 := by
  refine ⟨rfl, rfl, rfl, ?_⟩
  intro h
  simp [exD1, exD2] at h

end Yaql.Props.C10
