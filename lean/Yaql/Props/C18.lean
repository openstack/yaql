import Yaql.Model.Sched
/-!
C18 - concurrent evaluations do not interfere: the generic part.

Everything here is about an arbitrary `Sched.Machine`: any shared component, any private states,
any number of threads, any program assignment (the program is part of the private state) and ANY
schedule (a list of thread indices of any length).  The instances for yaql's stateful objects are
in `Props/C18Objs.lean`, the table of every shared write in the live code in `Props/C18Gen.lean`.
-/
namespace Yaql.Props.C18
open Yaql.Sched

variable {S P R : Type}

theorem run_cons (m : Machine S P R) (sys : Sys S P R) (j : Nat) (rest : List Nat) :
    run m sys (j :: rest) = run m (step m sys j) rest := rfl

theorem run_append (m : Machine S P R) (sys : Sys S P R) (a b : List Nat) :
    run m sys (a ++ b) = run m (run m sys a) b := by
  simp [run, List.foldl_append]

theorem step_other (m : Machine S P R) (sys : Sys S P R) (i j : Nat) (h : i ≠ j) :
    (step m sys j).threads[i]? = sys.threads[i]? := by
  unfold step
  cases hj : sys.threads[j]? with
  | none => rfl
  | some t => simp [List.getElem?_set_ne (Ne.symm h)]

theorem step_self (m : Machine S P R) (sys : Sys S P R) (j : Nat) (t : Thread P R)
    (ht : sys.threads[j]? = some t) :
    (step m sys j).shared = (stepThread m sys.shared t).1 ∧
    (step m sys j).threads[j]? = some (stepThread m sys.shared t).2 := by
  have hlt : j < sys.threads.length := (List.getElem?_eq_some_iff.mp ht).1
  unfold step
  simp only [ht]
  constructor <;> simp [hlt]

theorem step_none (m : Machine S P R) (sys : Sys S P R) (j : Nat) (h : sys.threads[j]? = none) :
    step m sys j = sys := by
  unfold step
  simp [h]

theorem soloIter_succ (m : Machine S P R) (n : Nat) (x : S × Thread P R) :
    soloIter m (n + 1) x = soloIter m n (stepThread m x.1 x.2) := rfl

theorem stepThread_done (m : Machine S P R) (s : S) (r : R) :
    stepThread m s (.done r) = (s, .done r) := rfl

theorem stepThread_inl (m : Machine S P R) (s s' : S) (p p' : P) (h : m.step s p = .inl (s', p')) :
    stepThread m s (.running p) = (s', .running p') := by
  simp [stepThread, h]

theorem stepThread_inr (m : Machine S P R) (s : S) (p : P) (r : R) (h : m.step s p = .inr r) :
    stepThread m s (.running p) = (s, .done r) := by
  simp [stepThread, h]

/-- once a thread has finished, further steps change nothing -/
theorem done_absorbing (m : Machine S P R) :
    ∀ (n : Nat) (x : S × Thread P R) (r : R), x.2 = .done r → soloIter m n x = x
  | 0, _, _, _ => rfl
  | n + 1, (s, _), r, rfl => done_absorbing m n (s, .done r) r rfl

theorem soloIter_add (m : Machine S P R) :
    ∀ (a b : Nat) (x : S × Thread P R), soloIter m (a + b) x = soloIter m b (soloIter m a x)
  | 0, b, x => by rw [Nat.zero_add]; rfl
  | a + 1, b, x => by
      rw [Nat.add_right_comm, soloIter_succ, soloIter_succ, soloIter_add m a b]

/-- a thread has at most one solo result: the machine is deterministic -/
theorem soloResult_unique (m : Machine S P R) (s : S) (t : Thread P R) (r r' : R)
    (h : SoloResult m s t r) (h' : SoloResult m s t r') : r = r' := by
  obtain ⟨n, hn⟩ := h
  obtain ⟨n', hn'⟩ := h'
  have h1 := done_absorbing m n' _ r hn
  have h2 := done_absorbing m n _ r' hn'
  rw [← soloIter_add] at h1 h2
  rw [Nat.add_comm n' n, h1] at h2
  exact Thread.done.inj (hn.symm.trans ((congrArg Prod.snd h2).trans hn'))

def TInv (PInv : P → Prop) : Thread P R → Prop
  | .running p => PInv p
  | .done _ => True

theorem TInv.running {PInv : P → Prop} {ps : List P} (h : ∀ p ∈ ps, PInv p) :
    ∀ t ∈ ps.map (Thread.running (R := R)), TInv PInv t := by
  intro t ht
  obtain ⟨p, hp, rfl⟩ := List.mem_map.mp ht
  exact h p hp

def Preserves (m : Machine S P R) (Inv : S → Prop) (PInv : P → Prop) : Prop :=
  ∀ s p s' p', Inv s → PInv p → m.step s p = .inl (s', p') → Inv s' ∧ PInv p'

theorem stepThread_preserves (m : Machine S P R) (Inv : S → Prop) (PInv : P → Prop)
    (hp : Preserves m Inv PInv) (s : S) (t : Thread P R) (hs : Inv s) (ht : TInv PInv t) :
    Inv (stepThread m s t).1 ∧ TInv PInv (stepThread m s t).2 := by
  cases t with
  | done r => exact ⟨hs, trivial⟩
  | running p =>
      cases hst : m.step s p with
      | inl sp =>
          rw [stepThread_inl m s sp.1 p sp.2 hst]
          exact hp s p sp.1 sp.2 hs ht hst
      | inr r =>
          rw [stepThread_inr m s p r hst]
          exact ⟨hs, trivial⟩

theorem step_preserves (m : Machine S P R) (Inv : S → Prop) (PInv : P → Prop)
    (hp : Preserves m Inv PInv) (sys : Sys S P R) (j : Nat) (hs : Inv sys.shared)
    (hinv : ∀ t ∈ sys.threads, TInv PInv t) :
    Inv (step m sys j).shared ∧ ∀ t ∈ (step m sys j).threads, TInv PInv t := by
  unfold step
  cases hj : sys.threads[j]? with
  | none => exact ⟨hs, hinv⟩
  | some t =>
      have ht := stepThread_preserves m Inv PInv hp sys.shared t hs (hinv t (List.mem_of_getElem? hj))
      exact ⟨ht.1, fun t' ht' => (List.mem_or_eq_of_mem_set ht').elim (hinv t') (· ▸ ht.2)⟩

/-! ## isolation: steps that leave the shared component alone -/

/-- every step of every thread reads the shared component at most: it returns it unchanged.
    (That a step touches no OTHER thread's private state is built into `Machine.step`'s type.)
    `PInv` restricts the claim to the private states a well-formed program can be in. -/
def ReadOnly (m : Machine S P R) (PInv : P → Prop) : Prop :=
  ∀ s p s' p', PInv p → m.step s p = .inl (s', p') → s' = s ∧ PInv p'

theorem ReadOnly.preserves {m : Machine S P R} {PInv : P → Prop} (h : ReadOnly m PInv) (s0 : S) :
    Preserves m (· = s0) PInv :=
  fun s p s' p' hs hp hst => ⟨(h s p s' p' hp hst).1.trans hs, (h s p s' p' hp hst).2⟩

theorem stepThread_readOnly (m : Machine S P R) (PInv : P → Prop) (h : ReadOnly m PInv) (s : S)
    (t : Thread P R) (ht : TInv PInv t) :
    (stepThread m s t).1 = s ∧ TInv PInv (stepThread m s t).2 :=
  stepThread_preserves m (· = s) PInv (h.preserves s) s t rfl ht

theorem soloIter_readOnly (m : Machine S P R) (PInv : P → Prop) (h : ReadOnly m PInv) (s : S) :
    ∀ (n : Nat) (t : Thread P R), TInv PInv t →
      (soloIter m n (s, t)).1 = s ∧ TInv PInv (soloIter m n (s, t)).2
  | 0, t, ht => ⟨rfl, ht⟩
  | n + 1, t, ht => by
      have h1 := stepThread_readOnly m PInv h s t ht
      rw [soloIter_succ, show stepThread m (s, t).1 (s, t).2 = (s, (stepThread m s t).2) from
        Prod.ext h1.1 rfl]
      exact soloIter_readOnly m PInv h s n _ h1.2

theorem soloIter_succ' (m : Machine S P R) (n : Nat) (x : S × Thread P R) :
    soloIter m (n + 1) x = (fun y => stepThread m y.1 y.2) (soloIter m n x) :=
  soloIter_add m n 1 x

/-- **isolation, exact form.**  If every step leaves the shared component unchanged, then for
    every number of threads, every program assignment and EVERY schedule: the shared component is
    what it was, and each thread is exactly where it is after the same number of its own steps
    run alone. -/
theorem isolation_exact (m : Machine S P R) (PInv : P → Prop) (h : ReadOnly m PInv) :
    ∀ (sched : List Nat) (sys : Sys S P R), (∀ t ∈ sys.threads, TInv PInv t) →
      (run m sys sched).shared = sys.shared ∧
      (∀ t ∈ (run m sys sched).threads, TInv PInv t) ∧
      ∀ i, (run m sys sched).threads[i]? =
        (sys.threads[i]?).map fun t => (soloIter m (sched.count i) (sys.shared, t)).2 := by
  intro sched
  induction sched with
  | nil => exact fun sys hinv => ⟨rfl, hinv, fun i => Option.map_id'.symm⟩
  | cons j rest ih =>
      intro sys hinv
      obtain ⟨hsh, hinv'⟩ := step_preserves m _ PInv (h.preserves sys.shared) sys j rfl hinv
      obtain ⟨ih1, ih2, ih3⟩ := ih (step m sys j) hinv'
      refine ⟨ih1.trans hsh, ih2, fun i => ?_⟩
      rw [run_cons, ih3 i, hsh]
      by_cases hij : j = i
      · subst hij
        rw [List.count_cons_self]
        cases hj : sys.threads[j]? with
        | none => rw [step_none m sys j hj, hj]; rfl
        | some t =>
            have h1 := stepThread_readOnly m PInv h sys.shared t (hinv t (List.mem_of_getElem? hj))
            rw [(step_self m sys j t hj).2, Option.map_some, Option.map_some, soloIter_succ]
            exact congrArg (fun x => some (soloIter m _ x).2) (Prod.ext h1.1.symm rfl)
      · rw [step_other m sys i j (Ne.symm hij), List.count_cons_of_ne hij]

/-! ## shared writes that respect an invariant under which solo results do not depend on the
shared component -/

/-- a purely SEQUENTIAL fact: whichever invariant-satisfying shared component a thread starts
    from, alone it returns the same result -/
def Oblivious (m : Machine S P R) (Inv : S → Prop) (PInv : P → Prop) : Prop :=
  ∀ s s' p r, Inv s → Inv s' → PInv p →
    SoloResult m s (.running p) r → SoloResult m s' (.running p) r

theorem soloResult_of_step (m : Machine S P R) (s : S) (t : Thread P R) (r : R)
    (h : SoloResult m (stepThread m s t).1 (stepThread m s t).2 r) : SoloResult m s t r := by
  obtain ⟨n, hn⟩ := h
  exact ⟨n + 1, by rw [soloIter_succ]; exact hn⟩

theorem oblivious_thread (m : Machine S P R) (Inv : S → Prop) (PInv : P → Prop)
    (ho : Oblivious m Inv PInv) (s s' : S) (t : Thread P R) (r : R) (hs : Inv s) (hs' : Inv s')
    (ht : TInv PInv t) (h : SoloResult m s t r) : SoloResult m s' t r := by
  cases t with
  | running p => exact ho s s' p r hs hs' ht h
  | done q =>
      obtain ⟨n, hn⟩ := h
      rw [done_absorbing m n _ q rfl] at hn
      exact ⟨0, hn⟩

/-- **the interleaving theorem.**  If every step keeps an invariant of the shared component and,
    sequentially, a thread's result does not depend on which invariant-satisfying shared component
    it starts from, then under EVERY schedule of any number of threads: the invariant holds at the
    end, and whatever a thread would still return if left alone from the current state is what it
    returns alone from the initial state. -/
theorem interleaving (m : Machine S P R) (Inv : S → Prop) (PInv : P → Prop)
    (hp : Preserves m Inv PInv) (ho : Oblivious m Inv PInv) :
    ∀ (sched : List Nat) (sys : Sys S P R), Inv sys.shared → (∀ t ∈ sys.threads, TInv PInv t) →
      Inv (run m sys sched).shared ∧
      ∀ (i : Nat) (t' : Thread P R), (run m sys sched).threads[i]? = some t' →
        ∃ t, sys.threads[i]? = some t ∧
          ∀ r, SoloResult m (run m sys sched).shared t' r → SoloResult m sys.shared t r := by
  intro sched
  induction sched with
  | nil => exact fun sys hs _ => ⟨hs, fun i t' hi => ⟨t', hi, fun r hr => hr⟩⟩
  | cons j rest ih =>
      intro sys hs hinv
      obtain ⟨hs', hinv'⟩ := step_preserves m Inv PInv hp sys j hs hinv
      obtain ⟨ih1, ih2⟩ := ih (step m sys j) hs' hinv'
      refine ⟨ih1, fun i t' hi => ?_⟩
      obtain ⟨t1, ht1, hres⟩ := ih2 i t' hi
      by_cases hij : i = j
      · subst hij
        cases hj : sys.threads[i]? with
        | none => rw [step_none m sys i hj, hj] at ht1; cases ht1
        | some ti =>
            obtain ⟨hs1, hs2⟩ := step_self m sys i ti hj
            cases hs2.symm.trans ht1
            exact ⟨ti, rfl, fun r hr => soloResult_of_step m sys.shared ti r (hs1 ▸ hres r hr)⟩
      · rw [step_other m sys i j hij] at ht1
        exact ⟨t1, ht1, fun r hr => oblivious_thread m Inv PInv ho _ _ t1 r hs' hs
          (hinv t1 (List.mem_of_getElem? ht1)) (hres r hr)⟩

/-- corollary for finished threads: the result of every thread that has finished - under any
    schedule - is its solo result from the initial shared component, and no other -/
theorem interleaving_results (m : Machine S P R) (Inv : S → Prop) (PInv : P → Prop)
    (hp : Preserves m Inv PInv) (ho : Oblivious m Inv PInv) (sys : Sys S P R)
    (hs : Inv sys.shared) (hinv : ∀ t ∈ sys.threads, TInv PInv t) (sched : List Nat) :
    Inv (run m sys sched).shared ∧
    ∀ (i : Nat) (r : R), (run m sys sched).threads[i]? = some (Thread.done r) →
      ∃ t, sys.threads[i]? = some t ∧ SoloResult m sys.shared t r ∧
        ∀ r', SoloResult m sys.shared t r' → r' = r := by
  obtain ⟨h1, h2⟩ := interleaving m Inv PInv hp ho sched sys hs hinv
  refine ⟨h1, fun i r hi => ?_⟩
  obtain ⟨t, ht, hres⟩ := h2 i _ hi
  have hsolo := hres r ⟨0, rfl⟩
  exact ⟨t, ht, hsolo, fun r' hr' => soloResult_unique m _ _ _ _ hr' hsolo⟩

/-- **C18.isolation.**  If every step of every thread leaves the shared component unchanged
    (reads allowed) - and, by the type of `step`, touches only its own private state - then for
    every number of threads, every program assignment and EVERY complete schedule each thread's
    result is its solo result and the shared component is unchanged at the end. -/
theorem isolation (m : Machine S P R) (PInv : P → Prop) (h : ReadOnly m PInv)
    (sys : Sys S P R) (hinv : ∀ t ∈ sys.threads, TInv PInv t) (sched : List Nat) :
    (run m sys sched).shared = sys.shared ∧
    ∀ (i : Nat) (r : R), (run m sys sched).threads[i]? = some (Thread.done r) →
      ∃ t, sys.threads[i]? = some t ∧ SoloResult m sys.shared t r ∧
        ∀ r', SoloResult m sys.shared t r' → r' = r :=
  interleaving_results m (· = sys.shared) PInv (h.preserves _)
    (fun _ _ _ _ hs hs' _ hr => hs.trans hs'.symm ▸ hr) sys rfl hinv sched

theorem finished_eq (m : Machine S P R) (s0 : S) (ps : List P) (f : P → R)
    (hsolo : ∀ p ∈ ps, SoloResult m s0 (.running p) (f p)) (i : Nat) (r : R)
    (h : ∃ t, (ps.map (Thread.running (R := R)))[i]? = some t ∧ SoloResult m s0 t r ∧
      ∀ r', SoloResult m s0 t r' → r' = r) : ∃ p, ps[i]? = some p ∧ r = f p := by
  obtain ⟨t, ht, _, huniq⟩ := h
  obtain ⟨p, hp, rfl⟩ := Option.map_eq_some_iff.mp (List.getElem?_map .. ▸ ht)
  exact ⟨p, hp, (huniq _ (hsolo p (List.mem_of_getElem? hp))).symm⟩

/-! ### a sufficient condition for `Oblivious`: a denotation and a measure -/

/-- If the private state has a denotation `den` (what the thread is going to return) that every
    step preserves and every final step returns, and a measure that every step decreases, then
    alone the thread returns its denotation, whichever invariant-satisfying shared component it
    starts from. -/
theorem solo_of_denotation (m : Machine S P R) (Inv : S → Prop) (PInv : P → Prop)
    (den : P → R) (μ : P → Nat)
    (hstep : ∀ s p s' p', Inv s → PInv p → m.step s p = .inl (s', p') →
      Inv s' ∧ PInv p' ∧ den p' = den p ∧ μ p' < μ p)
    (hdone : ∀ s p r, Inv s → PInv p → m.step s p = .inr r → r = den p) :
    ∀ (k : Nat) (s : S) (p : P), μ p < k → Inv s → PInv p →
      SoloResult m s (.running p) (den p) := by
  intro k
  induction k with
  | zero => exact fun _ _ hk => absurd hk (Nat.not_lt_zero _)
  | succ k ih =>
      intro s p hk hs hpi
      cases hst : m.step s p with
      | inl sp =>
          obtain ⟨a, b, c, d⟩ := hstep s p sp.1 sp.2 hs hpi hst
          apply soloResult_of_step
          rw [stepThread_inl m s sp.1 p sp.2 hst, ← c]
          exact ih sp.1 sp.2 (by omega) a b
      | inr q =>
          refine ⟨1, ?_⟩
          rw [soloIter_succ, stepThread_inr m s p q hst, hdone s p q hs hpi hst]
          rfl

theorem oblivious_of_denotation (m : Machine S P R) (Inv : S → Prop) (PInv : P → Prop)
    (den : P → R) (μ : P → Nat)
    (hstep : ∀ s p s' p', Inv s → PInv p → m.step s p = .inl (s', p') →
      Inv s' ∧ PInv p' ∧ den p' = den p ∧ μ p' < μ p)
    (hdone : ∀ s p r, Inv s → PInv p → m.step s p = .inr r → r = den p) :
    Oblivious m Inv PInv := by
  intro s s' p r hs hs' hpi h
  have solo := fun s hs => solo_of_denotation m Inv PInv den μ hstep hdone _ s p (Nat.lt_succ_self _) hs hpi
  rw [soloResult_unique m s _ r _ h (solo s hs)]
  exact solo s' hs'

/-! ### benign caches: shared writes confined to a memo table whose entries are a function of
their key -/

/-- a memo table as an association list; the newest entry for a key wins -/
abbrev Memo (K V : Type) := List (K × V)

/-- every entry is THE value of its key -/
def Memo.Sound {K V : Type} (f : K → V) (c : Memo K V) : Prop := ∀ kv ∈ c, kv.2 = f kv.1

/-- `c` is `c0` plus added entries, each of which is the value of its key -/
def Memo.GrownFrom {K V : Type} (f : K → V) (c0 c : Memo K V) : Prop :=
  ∃ added : Memo K V, c = added ++ c0 ∧ Memo.Sound f added

theorem Memo.Sound.cons {K V : Type} {f : K → V} {c : Memo K V} (h : Memo.Sound f c) (k : K) :
    Memo.Sound f ((k, f k) :: c) :=
  fun kv hkv => (List.mem_cons.mp hkv).elim (fun e => e ▸ rfl) (h kv)

theorem Memo.GrownFrom.sound {K V : Type} {f : K → V} {c0 c : Memo K V} (h : Memo.GrownFrom f c0 c)
    (hc0 : Memo.Sound f c0) : Memo.Sound f c := by
  obtain ⟨added, rfl, hadd⟩ := h
  exact fun kv hkv => (List.mem_append.mp hkv).elim (hadd kv) (hc0 kv)

theorem Memo.GrownFrom.cons {K V : Type} {f : K → V} {c0 c : Memo K V} (h : Memo.GrownFrom f c0 c)
    (k : K) : Memo.GrownFrom f c0 ((k, f k) :: c) := by
  obtain ⟨added, rfl, hadd⟩ := h
  exact ⟨(k, f k) :: added, rfl, hadd.cons k⟩

/-- the only shared writes are publications `(k, f k)` into the memo table: the rest of the shared
    component (`b0`) is never changed -/
def BenignWrites {B K V : Type} (m : Machine (B × Memo K V) P R) (f : K → V) (b0 : B)
    (PInv : P → Prop) : Prop :=
  ∀ c p s' p', Memo.Sound f c → PInv p → m.step (b0, c) p = .inl (s', p') →
    s'.1 = b0 ∧ PInv p' ∧ (s'.2 = c ∨ ∃ k, s'.2 = (k, f k) :: c)

/-- **C18.isolation_benign_cache.**  When the shared writes of all threads are confined to a memo
    table whose entries are a function of their key (idempotent publication: the completed
    `FrozenDict` hash, the `yaql.eval` expression cache and default context), and sequentially a
    thread's result does not depend on which sound table it starts from, then for every number of
    threads, every program assignment and EVERY schedule: every finished thread returned exactly
    its solo result, the rest of the shared component is unchanged, and the table has only grown
    by entries that equal what any thread would compute. -/
theorem isolation_benign_cache {B K V : Type} (m : Machine (B × Memo K V) P R) (f : K → V) (b0 : B)
    (c0 : Memo K V) (PInv : P → Prop) (hc0 : Memo.Sound f c0)
    (hw : BenignWrites m f b0 PInv)
    (ho : Oblivious m (fun s => s.1 = b0 ∧ Memo.Sound f s.2) PInv)
    (threads : List (Thread P R)) (hinv : ∀ t ∈ threads, TInv PInv t) (sched : List Nat) :
    (run m ⟨(b0, c0), threads⟩ sched).shared.1 = b0 ∧
    Memo.GrownFrom f c0 (run m ⟨(b0, c0), threads⟩ sched).shared.2 ∧
    ∀ (i : Nat) (r : R), (run m ⟨(b0, c0), threads⟩ sched).threads[i]? = some (Thread.done r) →
      ∃ t, threads[i]? = some t ∧ SoloResult m (b0, c0) t r ∧
        ∀ r', SoloResult m (b0, c0) t r' → r' = r := by
  -- the invariant carried along the schedule: base unchanged, table grown soundly from c0
  let Inv : B × Memo K V → Prop := fun s => s.1 = b0 ∧ Memo.GrownFrom f c0 s.2
  have hp : Preserves m Inv PInv := by
    intro (b, c) p s' p' ⟨hb, hg⟩ hpi hst
    subst hb
    obtain ⟨h1, h2, h3⟩ := hw c p s' p' (hg.sound hc0) hpi hst
    refine ⟨⟨h1, ?_⟩, h2⟩
    rcases h3 with h3 | ⟨k, h3⟩
    · exact h3 ▸ hg
    · exact h3 ▸ hg.cons k
  have ho' : Oblivious m Inv PInv := fun s s' p r hs hs' hpi h =>
    ho s s' p r ⟨hs.1, hs.2.sound hc0⟩ ⟨hs'.1, hs'.2.sound hc0⟩ hpi h
  have h0 : Inv (b0, c0) := ⟨rfl, [], rfl, fun _ h => absurd h List.not_mem_nil⟩
  obtain ⟨h1, h2⟩ := interleaving_results m Inv PInv hp ho' ⟨(b0, c0), threads⟩ h0 hinv sched
  exact ⟨h1.1, h1.2, h2⟩

/-! ## evaluation writes only its own contexts (instantiated in `Props/C18Store.lean`: `storeEval`) -/

/-- An abstract evaluator over a context store: a store is a list of cells (cell id = index, as in
    `Model/Context.lean`), `step σ e` is one dispatch / iterator step of an evaluation whose control
    state is `e`. -/
structure AbsEval (Cell E R : Type) where
  step : List Cell → E → (List Cell × E) ⊕ R

/-- **the frame hypothesis** (what `C04.frame` states for `Model/Eval.lean`): a step of an evaluation
    running over a store whose first `shared.length` cells are the prepared (pre-existing) contexts
    never writes one of them - it only rewrites and appends cells of its own, behind them. -/
def Frame {Cell E R : Type} (ev : AbsEval Cell E R) : Prop :=
  ∀ (shared own : List Cell) (e : E) (σ' : List Cell) (e' : E),
    ev.step (shared ++ own) e = .inl (σ', e') → ∃ own', σ' = shared ++ own'

/-- the `Sched` machine of an abstract evaluator: shared = the prepared cells, private = the cells
    the evaluation created plus its control state -/
def evalMachine {Cell E R : Type} (ev : AbsEval Cell E R) : Machine (List Cell) (List Cell × E) R where
  step := fun shared p =>
    match ev.step (shared ++ p.1) p.2 with
    | .inl (σ', e') => .inl (σ'.take shared.length, (σ'.drop shared.length, e'))
    | .inr r => .inr r

/-- **C18.eval_writes_private.**  Under the frame hypothesis every step of the evaluator's machine
    leaves the shared cells unchanged, and the machine loses nothing: the store the evaluator
    produced is exactly `shared ++ (the private cells afterwards)`. -/
theorem eval_writes_private {Cell E R : Type} (ev : AbsEval Cell E R) (hf : Frame ev) :
    ReadOnly (evalMachine ev) (fun _ => True) ∧
    ∀ shared own e σ' e', ev.step (shared ++ own) e = .inl (σ', e') →
      (evalMachine ev).step shared (own, e) = .inl (shared, (σ'.drop shared.length, e')) ∧
      σ' = shared ++ σ'.drop shared.length := by
  have key : ∀ shared own e σ' e', ev.step (shared ++ own) e = .inl (σ', e') →
      (evalMachine ev).step shared (own, e) = .inl (shared, (σ'.drop shared.length, e')) ∧
      σ' = shared ++ σ'.drop shared.length := by
    intro shared own e σ' e' hev
    obtain ⟨own', rfl⟩ := hf shared own e σ' e' hev
    simp [evalMachine, hev]
  refine ⟨fun s p s' p' _ hst => ⟨?_, trivial⟩, key⟩
  cases hev : ev.step (s ++ p.1) p.2 with
  | inl x =>
      cases (key s p.1 p.2 x.1 x.2 hev).1.symm.trans hst
      rfl
  | inr r => simp [evalMachine, hev] at hst

/-- **concurrent evaluations over one prepared context chain do not interfere** (consequence of
    `isolation` and `eval_writes_private`, for any evaluator satisfying the frame hypothesis). -/
theorem eval_isolated {Cell E R : Type} (ev : AbsEval Cell E R) (hf : Frame ev)
    (shared : List Cell) (threads : List (Thread (List Cell × E) R)) (sched : List Nat) :
    (run (evalMachine ev) ⟨shared, threads⟩ sched).shared = shared ∧
    ∀ (i : Nat) (r : R), (run (evalMachine ev) ⟨shared, threads⟩ sched).threads[i]? = some (Thread.done r) →
      ∃ t, threads[i]? = some t ∧ SoloResult (evalMachine ev) shared t r ∧
        ∀ r', SoloResult (evalMachine ev) shared t r' → r' = r :=
  isolation (evalMachine ev) (fun _ => True) (eval_writes_private ev hf).1 ⟨shared, threads⟩
    (fun t _ => by cases t <;> trivial) sched

/-! ### the two evaluators of the model

`Props/C18Store.lean` instantiates `AbsEval` with the store-passing evaluator of `Model/EvalStore.lean`
(`storeEval`, a store of mutable context cells, the shape of `contexts.py`) and proves `Frame` for it
(`storeEval_frame`), so `eval_writes_private` and `eval_isolated` hold for it without hypothesis.
`Model/Eval.lean` is purely functional - a context is an immutable chain of frames and `eval` returns a
value, not a store - so it has no cell store; `Props/C18Eval.lean` makes that evaluator itself a `Sched`
machine (`refMachine`, one step = one statement in `child :: shared`) and proves `refMachine_readOnly`,
`eval_model_isolated` from `isolation` and `eval_model_returns_framed` from `C04.frame` / `C04.frame_root`.
-/

/-- non-vacuity of the frame hypothesis: a toy evaluator that counts down, appending one cell of its
    own per step and reading cell 0 of the shared store at the end -/
def toyEval : AbsEval Nat Nat Nat where
  step := fun σ e =>
    match e with
    | 0 => .inr (σ.headD 0 + σ.length)
    | n + 1 => .inl (σ ++ [n], n)

example : Frame toyEval := by
  intro shared own e σ' e' h
  cases e with
  | zero => simp [toyEval] at h
  | succ n =>
      simp only [toyEval, Sum.inl.injEq, Prod.mk.injEq] at h
      exact ⟨own ++ [n], by rw [← h.1, List.append_assoc]⟩

example : (run (evalMachine toyEval) ⟨[7], [.running ([], 2), .running ([], 1)]⟩ [0, 1, 0, 1, 0]).threads
    = [.done 10, .done 9] := by decide +kernel

end Yaql.Props.C18
