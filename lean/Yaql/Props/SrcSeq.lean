import Yaql.Gen.SrcSeq
import Yaql.Lemmas.PyPrelude
import Yaql.Lemmas.PyLoops
import Yaql.Lemmas.PyLoopsOp
/-!
Equivalence of the definitions translated from the CURRENT yaql source (`Yaql.Gen.SrcSeq`, regenerated on every
run by harness/py2lean.py) with the hand-written model - for all inputs.

Pattern of the loop proofs: a helper `*_go` about an abstract loop body `f` with its pointwise description
`hf` (written with `if` only), proved by induction on the list with the `enumerate` start index and the
accumulator generalised; the main theorem unfolds the generated definition and discharges `hf` for the
generated lambda with `py_body`.
-/
namespace Yaql.Props.SrcSeq
open Yaql Yaql.Gen Yaql.Lemmas.PyLoops

/-! ### no loop -/

theorem append_src_eq (collection args : List Value) :
    SrcSeq.append collection args = Seq.append collection args := by
  simp [SrcSeq.append, Seq.append]

theorem clampIdx_eq_seq (len : Nat) (i : Int) : Py.clampIdx len i = Seq.clampIdx len i := by
  unfold Py.clampIdx Seq.clampIdx
  split <;> first | rfl | (congr 1; omega)

theorem split_at_src_eq (collection : List Value) (index : Int) :
    SrcSeq.split_at collection index (fun (xs : List Value) => xs)
      = [(Seq.splitAt index collection).1, (Seq.splitAt index collection).2] := by
  simp only [SrcSeq.split_at, Seq.splitAt, Py.slice, Py.hiBound, Py.loBound, clampIdx_eq_seq,
    List.drop_zero, List.take_length]

theorem list_insert_src_eq (collection : List Value) (position : Int) (value : Value) :
    SrcSeq.list_insert collection position value
      = if Py.ssizeOk position then .ok (Seq.listInsert position value collection) else .error .overflowError := by
  cases h : Py.ssizeOk position <;>
    simp [SrcSeq.list_insert, Py.listInsert?, Py.listInsert, Seq.listInsert, clampIdx_eq_seq, h]

/-- the `*_go` lemmas below are stated for `Py.enumFrom ((i : Nat) : Int) xs` with `i` generalised, and `rw` with them
    needs the `0` in this form -/
theorem enumerate_nat (xs : List α) : Py.enumerate xs = Py.enumFrom ((0 : Nat) : Int) xs := rfl

theorem enumFrom_nat_cons (i : Nat) (x : α) (xs : List α) :
    Py.enumFrom (i : Int) (x :: xs) = ((i : Int), x) :: Py.enumFrom ((i + 1 : Nat) : Int) xs := by
  rw [enumFrom_cons, Int.natCast_add, Int.natCast_one]

theorem enumerate_go (f : List Value → Int × Value → List Value)
    (hf : ∀ out i t, f out (i, t) = out ++ [Value.list [Value.int i, t]])
    (xs : List Value) (i : Int) (acc : List Value) :
    List.foldl f acc (Py.enumFrom i xs) = acc ++ Seq.enumerateFrom i xs := by
  induction xs generalizing i acc with
  | nil => simp [Seq.enumerateFrom]
  | cons x xs ih => simp [Seq.enumerateFrom, hf, ih]

theorem enumerate_src_eq (collection : List Value) (start : Int) :
    SrcSeq.enumerate_ collection start = Seq.enumerateFrom start collection := by
  unfold SrcSeq.enumerate_
  simp only []
  rw [enumerate_go _ (by py_body)]
  simp

/-! ### searching -/

theorem index_where_go (p : Value → Bool) (f : Unit → Int × Value → Py.Step Unit Int)
    (hf : ∀ i t, f () (i, t) = if p t then .ret i else .next ())
    (xs : List Value) (i : Nat) :
    Py.forLoop (Py.enumFrom (i : Int) xs) () f
      = if Seq.indexWhereFrom p i xs = -1 then .done () else .ret (Seq.indexWhereFrom p i xs) := by
  induction xs generalizing i with
  | nil => simp [Seq.indexWhereFrom]
  | cons x xs ih =>
    simp only [enumFrom_nat_cons, Lemmas.PyPrelude.forLoop_cons, hf, Seq.indexWhereFrom]
    by_cases h : p x = true
    · have : ¬ ((i : Int) = -1) := by omega
      simp [h, this]
    · simp [h, ih, -Int.natCast_add]

theorem index_where_src_eq (collection : List Value) (predicate : Value → Bool) :
    SrcSeq.index_where collection predicate = Seq.indexWhere predicate collection := by
  unfold SrcSeq.index_where Seq.indexWhere
  simp only [enumerate_nat]
  rw [index_where_go predicate _ (by py_body)]
  by_cases h : Seq.indexWhereFrom predicate 0 collection = -1
  · rw [if_pos h, h]
  · rw [if_neg h]

theorem index_of_src_eq (collection : List Value) (item : Value) :
    SrcSeq.index_of collection item = Seq.indexOf item collection :=
  index_where_src_eq collection fun x => Value.pyEq x item

theorem last_index_where_go (p : Value → Bool) (f : Int → Int × Value → Int)
    (hf : ∀ s i t, f s (i, t) = if p t then i else s)
    (xs : List Value) (i : Nat) (best : Int) :
    List.foldl f best (Py.enumFrom (i : Int) xs) = Seq.lastIndexWhereFrom p i best xs := by
  induction xs generalizing i best with
  | nil => simp [Seq.lastIndexWhereFrom]
  | cons x xs ih => simp only [enumFrom_nat_cons, List.foldl_cons, hf, Seq.lastIndexWhereFrom, ih]

theorem last_index_where_src_eq (collection : List Value) (predicate : Value → Bool) :
    SrcSeq.last_index_where collection predicate = Seq.lastIndexWhere predicate collection := by
  unfold SrcSeq.last_index_where Seq.lastIndexWhere
  simp only [enumerate_nat]
  rw [last_index_where_go predicate _ (by py_body)]

theorem last_index_of_src_eq (collection : List Value) (item : Value) :
    SrcSeq.last_index_of collection item = Seq.lastIndexOf item collection :=
  last_index_where_src_eq collection fun x => Value.pyEq x item

theorem any_go (c : Value → Bool) (f : Unit → Value → Py.Step Unit Bool)
    (hf : ∀ t, f () t = if c t then .ret true else .next ()) (xs : List Value) :
    Py.forLoop xs () f = if xs.any c then .ret true else .done () := by
  rw [forLoop_find f c (fun _ => true) hf, ← List.isSome_find?]
  cases xs.find? c <;> rfl

theorem any_src_eq (collection : List Value) (predicate : Option (Value → Bool)) :
    SrcSeq.any_ collection predicate
      = match predicate with
        | none => !collection.isEmpty
        | some p => Seq.any_ p collection := by
  unfold SrcSeq.any_
  rw [any_go (fun t => match predicate with | none => true | some p => p t) _ (by py_body)]
  cases predicate with
  | none => cases collection <;> simp
  | some p => cases h : List.any collection p <;> simp [Seq.any_, h]

/-! ### delete / replace -/

/-- the range test of delete / replace as the Python source spells it, on an `enumerate` index -/
theorem inRange_iff (pos count : Int) (i : Nat) :
    Seq.inRange pos count i = true
      ↔ ((count ≥ 0 ∧ (pos ≤ (i : Int) ∧ (i : Int) < pos + count)) ∨ (count < 0 ∧ (i : Int) ≥ pos)) := by
  unfold Seq.inRange
  split <;> simp <;> omega

theorem delete_go (pos count : Int) (f : List Value → Int × Value → List Value)
    (hf : ∀ out i t, f out (i, t)
      = if ((count ≥ 0 ∧ (pos ≤ i ∧ i < pos + count)) ∨ (count < 0 ∧ i ≥ pos)) then out else out ++ [t])
    (xs : List Value) (i : Nat) (acc : List Value) :
    List.foldl f acc (Py.enumFrom (i : Int) xs) = acc ++ Seq.deleteFrom pos count i xs := by
  induction xs generalizing i acc with
  | nil => simp [Seq.deleteFrom]
  | cons x xs ih =>
    simp only [enumFrom_nat_cons, List.foldl_cons, hf, Seq.deleteFrom, ← inRange_iff, ih]
    split <;> simp

theorem delete_src_eq (collection : List Value) (position count : Int) :
    SrcSeq.delete collection position count = Seq.delete position count collection := by
  unfold SrcSeq.delete Seq.delete
  simp only [enumerate_nat]
  rw [delete_go position count _ (by py_body)]
  simp

/-- the loop of `replace` / `replace_many`; the state is `(out, yielded)` in the one function and `(yielded, out)` in
    the other, hence `mk` and `out` -/
theorem replace_go (pos count : Int) (vals : List Value) (mk : List Value → Bool → σ) (out : σ → List Value)
    (hout : ∀ o y, out (mk o y) = o) (f : σ → Int × Value → σ)
    (hf : ∀ o y i t, f (mk o y) (i, t)
      = if ((count ≥ 0 ∧ (pos ≤ i ∧ i < pos + count)) ∨ (count < 0 ∧ i ≥ pos))
        then (if y = true then mk o y else mk (o ++ vals) true) else mk (o ++ [t]) y)
    (xs : List Value) (i : Nat) (acc : List Value) (done : Bool) :
    out (List.foldl f (mk acc done) (Py.enumFrom (i : Int) xs))
      = acc ++ Seq.replaceFrom pos count vals i done xs := by
  induction xs generalizing i acc done with
  | nil => simp [Seq.replaceFrom, hout]
  | cons x xs ih =>
    simp only [enumFrom_nat_cons, List.foldl_cons, hf, Seq.replaceFrom, ← inRange_iff]
    by_cases h : Seq.inRange pos count i = true
    · cases done <;> simp [h, ih, -Int.natCast_add]
    · simp [h, ih, -Int.natCast_add]

theorem replace_many_src_eq (collection : List Value) (position : Int) (values : List Value) (count : Int) :
    SrcSeq.replace_many collection position values count = Seq.replaceMany position count values collection := by
  unfold SrcSeq.replace_many Seq.replaceMany
  simp only [enumerate_nat]
  rw [replace_go position count values Prod.mk Prod.fst (fun _ _ => rfl) _ (by py_body)]
  simp

theorem replace_src_eq (collection : List Value) (position : Int) (value : Value) (count : Int) :
    SrcSeq.replace collection position value count = Seq.replace position count value collection := by
  unfold SrcSeq.replace Seq.replace Seq.replaceMany
  simp only [enumerate_nat]
  rw [replace_go position count [value] (fun o y => (y, o)) Prod.snd (fun _ _ => rfl) _ (by py_body)]
  simp

/-! ### insert

The loop of `insert_many` / `iter_insert` puts the values in front of the element of index `pos`; its state is
(last index seen, output), so it starts at an index `i` from a state with `j = i - 1`.  After the loop the values
are appended if the last index seen is still below `pos`. -/

section
variable (pos : Int) (vals : List Value) (f : Int × List Value → Int × Value → Int × List Value)
  (hf : ∀ s i t, f s (i, t) = (i, (if i = pos then s.2 ++ vals else s.2) ++ [t]))
include hf

theorem insert_past (xs : List Value) (i j : Int) (hj : i = j + 1) (h : pos ≤ j) (acc : List Value) :
    List.foldl f (j, acc) (Py.enumFrom i xs) = (j + xs.length, acc ++ xs) := by
  induction xs generalizing i j acc with
  | nil => simp
  | cons x xs ih =>
    subst hj
    rw [enumFrom_cons, List.foldl_cons, hf, if_neg (by omega), ih _ _ rfl (by omega)]
    simp
    omega

theorem insert_upto (xs : List Value) (i j : Int) (hj : i = j + 1) (k : Nat) (hk : pos = i + k) (acc : List Value) :
    (fun r : Int × List Value => if pos > r.1 then r.2 ++ vals else r.2) (List.foldl f (j, acc) (Py.enumFrom i xs))
      = acc ++ xs.take k ++ vals ++ xs.drop k := by
  induction xs generalizing i j k acc with
  | nil =>
    rw [enumFrom_nil, List.foldl_nil]
    simp only []
    rw [if_pos (by omega)]
    simp
  | cons x xs ih =>
    subst hj
    rw [enumFrom_cons, List.foldl_cons, hf]
    cases k with
    | zero =>
      rw [if_pos (show j + 1 = pos by omega), insert_past pos vals f hf xs _ _ rfl (by omega)]
      simp only []
      rw [if_neg (by omega)]
      simp
    | succ k =>
      rw [if_neg (show ¬ j + 1 = pos by omega), ih _ _ rfl k (by omega)]
      simp

theorem insert_loop (xs acc : List Value) :
    (fun r : Int × List Value => if pos > r.1 then r.2 ++ vals else r.2) (List.foldl f (-1, acc) (Py.enumFrom 0 xs))
      = acc ++ if pos < 0 then xs else Seq.insertMany pos vals xs := by
  unfold Seq.insertMany
  by_cases h : pos < 0
  · rw [insert_past pos vals f hf xs 0 (-1) rfl (by omega), if_pos h]
    simp only []
    rw [if_neg (by omega)]
  · rw [insert_upto pos vals f hf xs 0 (-1) rfl pos.toNat (by omega), if_neg h, if_neg h]
    simp

end

theorem insert_many_src_eq (collection : List Value) (position : Int) (values : List Value) :
    SrcSeq.insert_many collection position values = Seq.insertMany position values collection := by
  unfold SrcSeq.insert_many
  refine (insert_loop position values _ (by py_body) collection _).trans ?_
  by_cases h : position < 0
  · simp [h, Seq.insertMany]
  · simp [h]

theorem iter_insert_src_eq (collection : List Value) (position : Int) (value : Value) :
    SrcSeq.iter_insert collection position value = Seq.iterInsert position value collection := by
  unfold SrcSeq.iter_insert
  exact insert_loop position [value] _ (by py_body) collection []

/-! ### `split_where` (a `while` loop over indices) -/

theorem slice_nat (xs : List α) (s e : Nat) (he : e ≤ xs.length) (hs : s ≤ e) :
    Py.slice xs (some (s : Int)) (some (e : Int)) = (xs.take e).drop s := by
  simp only [Py.slice, Py.hiBound, Py.loBound, Lemmas.PyPrelude.clampIdx_natCast, Nat.min_eq_left he,
    Nat.min_eq_left (Nat.le_trans hs he)]

/-- The state of the loop is (finished pieces, start of the open piece, position).  The loop runs to the end of
    the list and keeps `out ++ splitWhereAux p lst[s:e] lst[e:]` as it is; `w` stands for the loop so that the
    caller's generated `c` and `f` are found by unification with `hw`. -/
theorem split_where_go (lst : List Value) (p : Value → Bool)
    (c : List (List Value) × Int × Int → Bool)
    (f : List (List Value) × Int × Int → Py.Step (List (List Value) × Int × Int) (Except Py.Err (List (List Value))))
    (hc : ∀ out s e, c (out, s, e) = decide (e < (lst.length : Int)))
    (hf : ∀ out s e v, Py.index lst e = .ok v →
      f (out, s, e) = .next (if p v = true then (out ++ [Py.slice lst (some s) (some e)], e + 1, e + 1)
                             else (out, s, e + 1)))
    (fuel : Nat) (out : List (List Value)) (s e : Nat) (hs : s ≤ e) (he : e ≤ lst.length)
    (hfuel : lst.length - e ≤ fuel)
    (w : Option (Py.Loop (List (List Value) × Int × Int) (Except Py.Err (List (List Value)))))
    (hw : Py.whileLoop fuel (out, (s : Int), (e : Int)) c f = w) :
    ∃ (out' : List (List Value)) (s' : Nat), s' ≤ lst.length
      ∧ w = some (.done (out', (s' : Int), (lst.length : Int)))
      ∧ out' ++ Seq.splitWhereAux p (lst.drop s') []
        = out ++ Seq.splitWhereAux p ((lst.take e).drop s) (lst.drop e) := by
  subst hw
  have stop : ∀ (fuel : Nat) (out : List (List Value)) (s : Nat),
      Py.whileLoop fuel (out, (s : Int), (lst.length : Int)) c f = some (.done (out, (s : Int), (lst.length : Int))) := by
    intro fuel out s
    cases fuel <;> simp [Py.whileLoop, hc]
  induction fuel generalizing out s e with
  | zero =>
    obtain rfl : e = lst.length := by omega
    exact ⟨out, s, hs, stop 0 out s, by simp⟩
  | succ n ih =>
    by_cases hlt : e < lst.length
    · have hc' : c (out, (s : Int), (e : Int)) = true := by simp [hc]; omega
      have hidx := Lemmas.PyLoopsOp.index_nat lst _ e rfl hlt
      have hdrop : lst.drop e = lst[e] :: lst.drop (e + 1) := by simp
      rw [Py.whileLoop, if_pos hc', hf out s e _ hidx, hdrop, Seq.splitWhereAux, ← Int.natCast_one,
        ← Int.natCast_add]
      simp only []
      by_cases hp : p lst[e] = true
      · rw [if_pos hp, if_pos hp]
        obtain ⟨out', s', hs', h1, h2⟩ := ih (out ++ [Py.slice lst (some (s : Int)) (some (e : Int))]) (e + 1) (e + 1)
          (Nat.le_refl _) (by omega) (by omega)
        refine ⟨out', s', hs', h1, ?_⟩
        rw [h2, slice_nat lst s e (by omega) hs]
        simp
      · rw [if_neg hp, if_neg hp]
        obtain ⟨out', s', hs', h1, h2⟩ := ih out s (e + 1) (by omega) (by omega) (by omega)
        refine ⟨out', s', hs', h1, ?_⟩
        rw [h2, List.take_succ_eq_append_getElem hlt, List.drop_append_of_le_length (by simp; omega)]
    · obtain rfl : e = lst.length := by omega
      exact ⟨out, s, hs, stop (n + 1) out s, by simp⟩

theorem split_where_src_eq (fuel : Nat) (collection : List Value) (predicate : Value → Bool)
    (hfuel : collection.length ≤ fuel) :
    SrcSeq.split_where fuel collection predicate (fun (xs : List Value) => xs)
      = .ok (Seq.splitWhere predicate collection) := by
  unfold SrcSeq.split_where Seq.splitWhere
  simp only []
  generalize hw : Py.whileLoop fuel _ _ _ = w
  obtain ⟨out', s', hs', rfl, h2⟩ := split_where_go collection predicate _ _ (by py_body)
    (by intro out s e v h; simp only [h]; py_body) fuel [] 0 0
    (Nat.le_refl _) (Nat.zero_le _) (by omega) w hw
  simp only [List.take_zero, List.drop_zero, List.drop_nil, List.nil_append] at h2
  rw [← h2, Seq.splitWhereAux]
  simp only []
  rw [slice_nat collection s' _ (Nat.le_refl _) hs', List.take_length]
  by_cases h : s' = collection.length
  · simp [h]
  · have h' : (s' : Int) ≠ (collection.length : Int) := by omega
    have h3 : (List.drop s' collection).isEmpty = false := by
      simp; omega
    simp [h', h3]

/-! ### dictionaries keyed by yaql values -/

theorem contains_key_src_eq (d : List (Value × Value)) (key : Value) :
    SrcSeq.contains_key d key = Seq.containsKey d key := by
  simp [SrcSeq.contains_key, Seq.containsKey]

theorem contains_value_src_eq (d : List (Value × Value)) (value : Value) :
    SrcSeq.contains_value d value = Seq.containsValue d value := by
  simp [SrcSeq.contains_value, Seq.containsValue, Py.dictValues, List.any_map, Function.comp_def]

theorem dict_indexer_with_default_src_eq (d : List (Value × Value)) (key default_ : Value) :
    SrcSeq.dict_indexer_with_default d key default_ = Seq.dictGet d key default_ := by
  simp [SrcSeq.dict_indexer_with_default, Seq.dictGet]

theorem dict_get_src_eq (d : List (Value × Value)) (key default_ : Value) :
    SrcSeq.dict_get d key default_ = Seq.dictGet d key default_ := by
  simp [SrcSeq.dict_get, Seq.dictGet]

theorem dict_indexer_src_eq (d : List (Value × Value)) (key : Value) :
    SrcSeq.dict_indexer d key = Py.ofOption (Seq.dGet d key) .keyError := by
  simp [SrcSeq.dict_indexer]

theorem dict_keys_src_eq (d : List (Value × Value)) : SrcSeq.dict_keys d = Seq.dictKeys d := by
  simp [SrcSeq.dict_keys, Seq.dictKeys, Py.dictKeys]

theorem dict_values_src_eq (d : List (Value × Value)) : SrcSeq.dict_values d = Seq.dictValues d := by
  simp [SrcSeq.dict_values, Seq.dictValues, Py.dictValues]

end Yaql.Props.SrcSeq
