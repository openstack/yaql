import Yaql.Props.EvalStore
import Yaql.Props.C18
/-!
C18 x the store-passing evaluator (`Model/EvalStore.lean`): an `AbsEval` over a store of mutable context cells
that satisfies the `Frame` hypothesis of `Props/C18.lean` - so `eval_writes_private` / `eval_isolated` hold for
it with **no hypothesis left**.

`Props/C18Eval.lean` turned C04's evaluator into a `Sched` machine whose shared component is an immutable frame
chain (`ReadOnly` by construction).  Here the store is the list of mutable cells of `contexts.py`, any thread's
step *could* rewrite any of them (`setVar c ..` takes an arbitrary ID), and that it does not is the theorem
`EvalStore.store_extends` / `hostEval_extends`.

Granularity: one step of a thread is one call -
* `host`: what a worker does per statement: `shared.create_child_context()`, then
  `statement.evaluate(data, context=child)` (`$` written into that child, `#finalize(expression)`);
* `call`: one `Function.__call__` - an expression evaluated in a context the thread refers to (a statement run
  argument by argument, the application of something an earlier step handed back, ...), in ANY context ID, the
  shared ones included.
Between two steps of one thread any other thread may run (the schedule is arbitrary); interleavings *inside* a
call are what the harness explores on the real code.
-/
namespace Yaql.Props.C18
open Yaql Yaql.Eval Yaql.EvalStore Yaql.Sched

/-- one call of a thread's program -/
inductive OpS where
  | host (fuel : Nat) (shared : Nat) (doc : Value) (e : Expr)   -- own child of `shared`, `evaluate` there
  | call (fuel : Nat) (ctx : Nat) (e : Expr)                    -- `e` evaluated in context `ctx`

/-- what a call returned -/
inductive OutS where
  | final (r : R Final)
  | obj (r : Except Err ObjS)

/-- control state of a thread: the calls still to make, the results so far -/
abbrev CtlS := List OpS × List OutS

/-- the store-passing evaluator as an abstract evaluator over the cell store -/
def storeEval : AbsEval Cell CtlS (List OutS) where
  step := fun σ ctl =>
    match ctl.1 with
    | [] => .inr ctl.2
    | .host fuel shared doc e :: rest =>
      let r := hostEvalS fuel shared doc e { cells := σ, log := [] }
      .inl (r.2.cells, (rest, ctl.2 ++ [.final r.1]))
    | .call fuel ctx e :: rest =>
      let r := evalS fuel ctx e { cells := σ, log := [] }
      .inl (r.2.cells, (rest, ctl.2 ++ [.obj r.1]))

/-- **C18.storeEval_frame**: the frame hypothesis, proved: whatever part of the store is regarded as shared, a step
    leaves it as it is and only appends cells behind (`EvalStore.hostEval_extends`, `EvalStore.store_extends`) -/
theorem storeEval_frame : Frame storeEval := by
  intro shared own ctl σ' ctl' h
  simp only [storeEval] at h
  split at h
  · cases h
  · rename_i fuel sh doc e rest _
    simp only [Sum.inl.injEq, Prod.mk.injEq] at h
    obtain ⟨ext, hext⟩ := Yaql.Props.EvalStore.hostEval_extends fuel sh doc e { cells := shared ++ own, log := [] }
    exact ⟨own ++ ext, by rw [← h.1, hext, List.append_assoc]⟩
  · rename_i fuel ctx e rest _
    simp only [Sum.inl.injEq, Prod.mk.injEq] at h
    obtain ⟨ext, hext⟩ := Yaql.Props.EvalStore.store_extends fuel ctx e { cells := shared ++ own, log := [] }
    exact ⟨own ++ ext, by rw [← h.1, hext, List.append_assoc]⟩

/-- **C18.evalS_writes_private** (`eval_writes_private` without hypotheses): every step of the store-passing
    evaluator's machine leaves the shared cells unchanged, and the store it produced is exactly the shared cells
    followed by the thread's private ones -/
theorem evalS_writes_private :
    ReadOnly (evalMachine storeEval) (fun _ => True) ∧
    ∀ shared own e σ' e', storeEval.step (shared ++ own) e = .inl (σ', e') →
      (evalMachine storeEval).step shared (own, e) = .inl (shared, (σ'.drop shared.length, e')) ∧
      σ' = shared ++ σ'.drop shared.length :=
  eval_writes_private storeEval storeEval_frame

/-- **C18.evalS_isolated** (`eval_isolated` without hypotheses): any number of threads, each making any sequence of
    calls of the store-passing evaluator over ONE prepared store of context cells, under EVERY schedule: the shared
    cells are unchanged afterwards and every finished thread returned exactly what it returns when run alone. -/
theorem evalS_isolated (shared : List Cell) (threads : List (Thread (List Cell × CtlS) (List OutS))) (sched : List Nat) :
    (run (evalMachine storeEval) ⟨shared, threads⟩ sched).shared = shared ∧
    ∀ (i : Nat) (r : List OutS), (run (evalMachine storeEval) ⟨shared, threads⟩ sched).threads[i]? = some (Thread.done r) →
      ∃ t, threads[i]? = some t ∧ SoloResult (evalMachine storeEval) shared t r ∧
        ∀ r', SoloResult (evalMachine storeEval) shared t r' → r' = r :=
  eval_isolated storeEval storeEval_frame shared threads sched

/-! ### non-vacuity -/

/-- the value a call returned, if it is an integer -/
def outInt : OutS → Option Int
  | .final (.ok (.data (.int i))) => some i
  | .obj (.ok (.data (.val (.int i)))) => some i
  | _ => none

-- a prepared store of two cells (root with `$k = 5`, the shared context below it); thread 0 evaluates
-- `let(x => $) -> $x + $k` with data 1 in its own child, thread 1 evaluates `$k` with data 2 and then makes one more
-- call in the shared context itself; interleaved [1, 0, 1, 0, 1]: results 6, and 5, 5; the shared cells are unchanged
example :
    let shared : List Cell := [{ data := [(['$', 'k'], .int 5)] }, { parent := some 0 }]
    let p0 : CtlS := ([.host 10 1 (.int 1) (.arrow (.call .let_ [] [(.kw ['x'], .var ['$'])])
                        (.bin .add (.var ['$', 'x']) (.var ['$', 'k'])))], [])
    let p1 : CtlS := ([.host 10 1 (.int 2) (.var ['$', 'k']), .call 10 1 (.var ['$', 'k'])], [])
    let sys := run (evalMachine storeEval) ⟨shared, [.running ([], p0), .running ([], p1)]⟩ [1, 0, 1, 0, 1]
    (results sys).map (Option.map (List.map outInt)) = [some [some 6], some [some 5, some 5]] ∧
    sys.shared.map (·.data) = shared.map (·.data) :=
  ⟨by decide +kernel, by rw [(evalS_isolated _ _ _).1]⟩

end Yaql.Props.C18
