import Yaql.Props.C05
import Yaql.Model.RegistryRow
/-!
C12 - all ways of passing the same arguments are equivalent.

* `call_equiv`: keywords written `name => value` in the argument list and keywords handed over at
  the Python level (what `call(name, args, kwargs)` does) translate to the same resolver input.
* `ext_both_ways`: `f(x, ..)` and `x.f(..)` are the same resolution problem when the visible
  overloads are extension methods.
* `kind_exclusive`: method-only definitions never answer function calls and vice versa.
* `spelling_*`: one parameter at a time, `get_delegate` binds the same value whether it arrives
  positionally, by keyword (alias name), or - for a defaulted parameter - is omitted, skipped with an
  empty slot, or given explicitly with the default value.
* `spelling_equiv` (its statement is the def `spelling_equiv_full`): the whole argument vector - what `get_delegate` binds is a
  function of the value each parameter ends up with (`getDelegate_eq_of_received`), so any two spellings
  that agree on those values, on `*`'s and `**`'s share, and on whether something is passed twice bind
  the same vector.  `mapArgs_of_getDelegate`: a vector that `get_delegate` binds passes `map_args` in
  every spelling without an empty slot whose parameter comes by keyword; `map_args` alone is NOT
  spelling-invariant (`mapArgs_not_spelling_invariant`).
-/
namespace Yaql.Props.C12
open Yaql.Types Yaql.Resolve Yaql.Registry Yaql.Props.C05

theorem aset_fresh {α : Type} (k : Name) (v : α) : ∀ (l : List (Name × α)), ahas k l = false → aset k v l = l ++ [(k, v)]
  | [], _ => rfl
  | (k', v') :: r, h => by
      simp only [ahas, List.any_cons, Bool.or_eq_false_iff] at h
      simp only [aset, h.1, Bool.false_eq_true, if_false, List.cons_append]
      rw [aset_fresh k v r (by simpa [ahas] using h.2)]

theorem ahas_append {α : Type} (k : Name) (a b : List (Name × α)) : ahas k (a ++ b) = (ahas k a || ahas k b) := by
  simp [ahas, List.any_append]

theorem ahas_eq_isSome {α : Type} (k : Name) : ∀ (l : List (Name × α)), ahas k l = (alookup k l).isSome
  | [] => rfl
  | (k', v) :: r => by
      have ih := ahas_eq_isSome k r
      simp only [ahas] at ih
      by_cases h : (k' == k) = true <;> simp [ahas, alookup, h, ih]

theorem alookup_eq_none {α : Type} (k : Name) (l : List (Name × α)) : alookup k l = none ↔ ahas k l = false := by
  rw [ahas_eq_isSome, Option.isSome_eq_false_iff, Option.isNone_iff_eq_none]

theorem alookup_append {α : Type} (k : Name) : ∀ (a b : List (Name × α)),
    alookup k (a ++ b) = (alookup k a).or (alookup k b)
  | [], b => by simp [alookup]
  | (k', v) :: r, b => by
      by_cases h : (k' == k) = true <;> simp [alookup, h, alookup_append k r b]

theorem adel_of_ahas_false {α : Type} (k : Name) (l : List (Name × α)) (h : ahas k l = false) : adel k l = l := by
  simp only [ahas, List.any_eq_false] at h
  simp only [adel, List.filter_eq_self]
  intro a ha
  simpa using h a ha

theorem ahas_append_other {n' n : Name} (a : Arg) (r : KwArgs) (h : n ≠ n') :
    ahas n' (r ++ [(n, a)]) = ahas n' r := by
  simp [ahas, List.any_append, h]

theorem alookup_append_other {n' n : Name} (a : Arg) (r : KwArgs) (h : n ≠ n') :
    alookup n' (r ++ [(n, a)]) = alookup n' r := by
  simp [alookup_append, alookup, h]

theorem adel_append_other {n' n : Name} (a : Arg) (r : KwArgs) (h : n ≠ n') :
    adel n' (r ++ [(n, a)]) = adel n' r ++ [(n, a)] := by
  simp [adel, List.filter_append, h]

theorem alookup_append_self (n : Name) (a : Arg) (r : KwArgs) (h : ahas n r = false) :
    alookup n (r ++ [(n, a)]) = some a := by
  simp [alookup_append, (alookup_eq_none n r).2 h, alookup]

theorem adel_append_self (n : Name) (a : Arg) (r : KwArgs) (h : ahas n r = false) : adel n (r ++ [(n, a)]) = r := by
  have := adel_of_ahas_false n r h
  simp only [adel] at this ⊢
  simp [List.filter_append, this]

theorem alookup_adel_other {α : Type} {k k' : Name} (hne : k ≠ k') : ∀ (l : List (Name × α)),
    alookup k (adel k' l) = alookup k l
  | [] => rfl
  | (k'', v) :: r => by
      have ih := alookup_adel_other hne r
      simp only [adel] at ih ⊢
      by_cases h1 : k'' = k' <;> by_cases h2 : k'' = k <;> simp_all [alookup]

theorem ahas_adel_false {α : Type} (k k' : Name) (l : List (Name × α)) (h : ahas k l = false) :
    ahas k (adel k' l) = false := by
  cases hh : ahas k (adel k' l) with
  | false => rfl
  | true => rw [ahas_adel _ _ _ hh] at h; cases h

theorem ahas_adel_other {α : Type} {k k' : Name} (hne : k ≠ k') (l : List (Name × α)) :
    ahas k (adel k' l) = ahas k l := by
  rw [ahas_eq_isSome, ahas_eq_isSome, alookup_adel_other hne]

theorem alookup_aset {α : Type} (k k' : Name) (v : α) : ∀ (l : List (Name × α)),
    alookup k (aset k' v l) = if k' == k then some v else alookup k l
  | [] => by simp [aset, alookup]
  | (k'', x) :: r => by
      have ih := alookup_aset k k' v r
      by_cases h1 : k'' = k'
      · subst h1
        by_cases h2 : k'' = k <;> simp [aset, alookup, h2]
      · by_cases h2 : k'' = k
        · subst h2; simp [aset, alookup, h1, Ne.symm h1]
        · simp [aset, alookup, h1, h2, ih]

theorem alookup_foldl_aset {α : Type} (sp : α) (k : Name) : ∀ (rest : KwArgs) (acc : List (Name × α)),
    alookup k (rest.foldl (fun acc kv => aset kv.1 sp acc) acc) = if ahas k rest then some sp else alookup k acc
  | [], acc => rfl
  | kv :: r, acc => by
      rw [List.foldl_cons, alookup_foldl_aset sp k r, alookup_aset]
      show _ = if (kv.1 == k || ahas k r) = true then _ else _
      cases ahas k r <;> cases kv.1 == k <;> rfl

/-! ## call() -/

/-- `name => value` for every pair -/
def asMappingRules (kws : KwArgs) (ek1 ek2 : Nat) (lit : Lit) (v : Val) : List Arg :=
  kws.map fun kv => .mapRule (.const v lit (some kv.1) ek1) kv.2 .none ek2

def noMapRule (a : Arg) : Bool := match a with | .mapRule .. => false | _ => true

theorem translatePos_append : ∀ (a b acc : List Arg) (kw : KwArgs), a.all noMapRule = true →
    translatePos (a ++ b) acc kw = translatePos b (a.reverse ++ acc) kw
  | [], b, acc, kw, _ => rfl
  | x :: r, b, acc, kw, h => by
      simp only [List.all_cons, Bool.and_eq_true] at h
      cases x with
      | mapRule s d res ek => simp [noMapRule] at h
      | _ => simp [translatePos, translatePos_append r b _ kw h.2]

theorem translatePos_rules (ek1 ek2 : Nat) (lit : Lit) (v : Val) : ∀ (kws : KwArgs) (acc : List Arg) (kw : KwArgs),
    translatePos (asMappingRules kws ek1 ek2 lit v) acc kw =
      .ok (acc.reverse, kws.foldl (fun k kv => aset kv.1 kv.2 k) kw)
  | [], acc, kw => by simp [asMappingRules, translatePos]
  | kv :: r, acc, kw => by
      have := translatePos_rules ek1 ek2 lit v r acc (aset kv.1 kv.2 kw)
      simp only [asMappingRules, List.map_cons, translatePos, List.foldl_cons] at this ⊢
      exact this

theorem ahas_of_distinct (k : Name) (ns : List Name) : ∀ (acc : KwArgs),
    distinct (acc.map (·.1) ++ k :: ns) = true → ahas k acc = false
  | [], _ => rfl
  | a :: t, h => by
      simp only [List.map_cons, List.cons_append, distinct, Bool.and_eq_true, Bool.not_eq_true',
        List.contains_eq_mem, List.mem_append, List.mem_cons, decide_eq_false_iff_not] at h
      have h1 : ¬ (a.1 = k) := fun e => h.1 (Or.inr (Or.inl e))
      simpa [ahas, h1] using ahas_of_distinct k ns t h.2

theorem foldl_aset_distinct : ∀ (kws acc : KwArgs), distinct (acc.map (·.1) ++ kws.map (·.1)) = true →
    kws.foldl (fun k kv => aset kv.1 kv.2 k) acc = acc ++ kws
  | [], acc, _ => by simp
  | kv :: r, acc, h => by
      simp only [List.foldl_cons, aset_fresh _ _ _ (ahas_of_distinct kv.1 _ acc h)]
      have := foldl_aset_distinct r (acc ++ [kv]) (by simpa [List.map_append, List.append_assoc] using h)
      simpa [List.append_assoc] using this

theorem mergeKw_distinct : ∀ (kws acc : KwArgs), distinct (acc.map (·.1) ++ kws.map (·.1)) = true →
    mergeKw kws acc = .ok (acc ++ kws)
  | [], acc, _ => by simp [mergeKw]
  | (k, v) :: r, acc, h => by
      simp only [mergeKw, ahas_of_distinct k _ acc h, Bool.false_eq_true, if_false]
      have := mergeKw_distinct r (acc ++ [(k, v)]) (by simpa [List.map_append, List.append_assoc] using h)
      simpa [List.append_assoc] using this

/-- going through `call(name, args, kwargs)` (values + Python-level keywords) gives the resolver
    the same positional arguments and the same keyword dictionary as writing the keywords as
    `name => value` after the positional arguments -/
theorem call_equiv (pos : List Arg) (kws : KwArgs) (ek1 ek2 : Nat) (lit : Lit) (v : Val)
    (hpos : pos.all noMapRule = true) (hd : distinct (kws.map (·.1)) = true) :
    translateArgs false (pos ++ asMappingRules kws ek1 ek2 lit v) [] = .ok (pos, kws) ∧
    translateArgs false pos kws = .ok (pos, kws) := by
  constructor
  · simp only [translateArgs, Bool.false_eq_true, if_false, translatePos_append pos _ [] [] hpos,
      translatePos_rules, List.append_nil, List.reverse_reverse]
    rw [foldl_aset_distinct kws [] (by simpa using hd)]
    simp [mergeKw]
  · have hp := translatePos_append pos [] [] [] hpos
    simp only [List.append_nil, translatePos, List.reverse_reverse] at hp
    simp only [translateArgs, Bool.false_eq_true, if_false, hp]
    rw [mergeKw_distinct kws [] (by simpa using hd)]
    simp

/-! ## function form and method form -/

/-- an extension method called as `f(x, a..)` and as `x.f(a..)` is the same resolution problem:
    same overload, same bound vector, same evaluation log (all visible overloads being
    extension methods or of neither kind) -/
theorem ext_both_ways (L : Lattice) (layers : List Layer) (x : Val) (args : List Arg) (kw : KwArgs)
    (hext : ∀ l ∈ layers, ∀ f ∈ l.fns, f.isFunction = f.isMethod) :
    resolve L layers { receiver := some x, args := args, kwargs := kw } =
    resolve L layers { receiver := none, args := .value x :: args, kwargs := kw } := by
  have hc : collect true layers = collect false layers := by
    induction layers with
    | nil => rfl
    | cons l r ih =>
        have hf : l.fns.filter (kindOk true) = l.fns.filter (kindOk false) := by
          apply List.filter_congr
          intro f hf
          simp [kindOk, hext l (by simp) f hf]
        simp only [collect, hf, ih (fun l' hl' => hext l' (by simp [hl']))]
  simp only [resolve, Option.isSome, hc]
  rfl

/-- functions that are methods only are never callable as functions, and vice versa -/
theorem kind_exclusive (L : Lattice) (layers : List Layer) (c : Call) (id : Nat) (b : Bound) :
    ((∀ l ∈ layers, ∀ f ∈ l.fns, f.id = id → f.isMethod = false) → c.receiver.isSome = true →
      (resolve L layers c).res ≠ .ok (id, b)) ∧
    ((∀ l ∈ layers, ∀ f ∈ l.fns, f.id = id → f.isFunction = false) → c.receiver.isSome = false →
      (resolve L layers c).res ≠ .ok (id, b)) := by
  constructor
  · exact fun h hc => kind_exclusive_function L layers c id b h hc
  · intro hids hc h
    obtain ⟨l, hl, f, hf, hid, hk⟩ := kind_filter L layers c id b h
    have := hids l (reach_sub _ _ hl) f hf hid
    simp [kindOk, hc, this] at hk

/-- `get_delegate` binds an argument (or the default) to `p`: a visible parameter other than `*` / `**` -/
def takes (p : Param) : Bool :=
  match p.position with
  | some _ => !p.isStar && !p.hidden
  | none => !p.isStarStar && !p.hidden

/-- what a spelling passes to `p`: the argument in its slot, else the keyword under its name -/
def received (ps : List Param) (p : Param) (args : List Arg) (kw : KwArgs) : Option Arg :=
  match slotOf ps p with
  | some s => if given args s then some (args.getD s .noValue) else alookup p.argName kw
  | none => alookup p.argName kw

/-- ... else its default -/
def effective (ps : List Param) (p : Param) (args : List Arg) (kw : KwArgs) : Option Arg :=
  match received ps p args kw with
  | some a => some a
  | none => p.default

def passedTwice (ps : List Param) (args : List Arg) (rest : KwArgs) (p : Param) : Bool :=
  match slotOf ps p with
  | some s => given args s && ahas p.argName rest
  | none => false

/-- no argument is passed twice (in its slot and by keyword) -/
def noClash (ps : List Param) (args : List Arg) (kw : KwArgs) : Bool :=
  ps.all fun p => match slotOf ps p with
    | some s => !(given args s && ahas p.argName kw)
    | none => true

/-- the keywords that no named parameter takes (they go to `**`) -/
def extraKw (ps : List Param) (kw : KwArgs) : KwArgs := kw.filter fun kv => !(argNames ps).contains kv.1

/-- the state of the loop of `get_delegate` without the keyword dictionary -/
structure Core where
  pos : List (Option Slot)
  kw : List (Name × Slot)
  vis : Nat

def core (st : DelSt) : Core := ⟨st.pos, st.kw, st.vis⟩
def Core.withRest (c : Core) (r : KwArgs) : DelSt := { pos := c.pos, kw := c.kw, rest := r, vis := c.vis }

/-- one iteration of the loop of `get_delegate` as a function of the value `ev p` the parameter gets -/
def bindStep (L : Lattice) (ev : Param → Option Arg) (c : Core) (p : Param) : Option Core :=
  match p.position with
  | some q =>
      if p.isStar then some c
      else if p.hidden then some { c with pos := c.pos.set q (some (.hid p.ty)), vis := c.vis - 1 }
      else (ev p).bind fun v => (checked L p v).map fun s => { c with pos := c.pos.set q (some s) }
  | none =>
      if p.isStarStar then some c
      else if p.hidden then some { c with kw := aset p.name (.hid p.ty) c.kw }
      else (ev p).bind fun v => (checked L p v).map fun s => { c with kw := aset p.name s c.kw }

def bindLoop (L : Lattice) (ev : Param → Option Arg) : Core → List Param → Option Core
  | c, [] => some c
  | c, p :: r => match bindStep L ev c p with
      | some c' => bindLoop L ev c' r
      | none => none

def namesOf (l : List Param) : List Name := (l.filter takes).map (·.argName)
def dropNames (ns : List Name) (kw : KwArgs) : KwArgs := kw.filter fun kv => !ns.contains kv.1

def strike (p : Param) (rest : KwArgs) : KwArgs := if takes p then adel p.argName rest else rest

theorem slotOf_eq_some {ps : List Param} {p : Param} {s : Nat} :
    slotOf ps p = some s ↔ ∃ q, p.position = some q ∧ p.isStar = false ∧ p.hidden = false ∧ q - fixAt ps q = s := by
  unfold slotOf
  cases p.position with
  | none => simp
  | some q => cases p.isStar <;> cases p.hidden <;> simp

theorem takes_hidden {p : Param} (h : takes p = true) : p.hidden = false := by
  unfold takes at h
  split at h <;> simp_all

theorem takes_of_slot {ps : List Param} {p : Param} {s : Nat} (hs : slotOf ps p = some s) : takes p = true := by
  obtain ⟨q, hq, h1, h2, _⟩ := slotOf_eq_some.1 hs
  simp [takes, hq, h1, h2]

theorem core_withRest (c : Core) (r : KwArgs) : core (c.withRest r) = c := rfl
theorem withRest_core (st : DelSt) : (core st).withRest st.rest = st := rfl

theorem bindStep_normal (L : Lattice) (c : Core) (p : Param) :
    ∃ (g : Slot → Core) (c0 : Core), (∀ s, (g s).vis = c.vis) ∧
      c0.vis = c.vis - (if hiddenPositional p then 1 else 0) ∧ (takes p = true → hiddenPositional p = false) ∧
      ∀ ev, bindStep L ev c p = if takes p then (ev p).bind fun v => (checked L p v).map g else some c0 := by
  unfold bindStep takes hiddenPositional
  cases hq : p.position with
  | some q =>
      cases h1 : p.isStar with
      | true => exact ⟨fun _ => c, c, by simp⟩
      | false =>
        cases h2 : p.hidden with
        | true => exact ⟨fun _ => c, { c with pos := c.pos.set q (some (.hid p.ty)), vis := c.vis - 1 }, by simp⟩
        | false => exact ⟨fun s => { c with pos := c.pos.set q (some s) }, c, by simp⟩
  | none =>
      cases h1 : p.isStarStar with
      | true => exact ⟨fun _ => c, c, by simp⟩
      | false =>
        cases h2 : p.hidden with
        | true => exact ⟨fun _ => c, { c with kw := aset p.name (.hid p.ty) c.kw }, by simp⟩
        | false => exact ⟨fun s => { c with kw := aset p.name s c.kw }, c, by simp⟩

theorem bindStep_congr (L : Lattice) {ev ev' : Param → Option Arg} (c : Core) (p : Param)
    (h : takes p = true → ev p = ev' p) : bindStep L ev c p = bindStep L ev' c p := by
  obtain ⟨g, c0, _, _, _, hb⟩ := bindStep_normal L c p
  rw [hb, hb]
  split
  · rw [h ‹_›]
  · rfl

theorem bindLoop_congr (L : Lattice) {ev ev' : Param → Option Arg} : ∀ (l : List Param) (c : Core),
    (∀ p ∈ l, takes p = true → ev p = ev' p) → bindLoop L ev c l = bindLoop L ev' c l
  | [], _, _ => rfl
  | p :: r, c, h => by
      simp only [bindLoop, bindStep_congr L c p (h p (by simp))]
      cases bindStep L ev' c p with
      | none => rfl
      | some c1 => exact bindLoop_congr L r c1 (fun x hx => h x (by simp [hx]))

theorem keyword_or_default (L : Lattice) (p : Param) (rest : KwArgs) (g : Slot → Core) :
    (match alookup p.argName rest with
      | some a => (checked L p a).map fun s => (g s).withRest (adel p.argName rest)
      | none => match p.default with
          | some d => (checked L p d).map fun s => (g s).withRest rest
          | none => none) =
    ((match alookup p.argName rest with | some a => some a | none => p.default).bind fun v =>
      (checked L p v).map g).map fun c : Core => c.withRest (adel p.argName rest) := by
  cases hl : alookup p.argName rest with
  | some a => simp only [Option.bind_some, Option.map_map]; rfl
  | none =>
      rw [adel_of_ahas_false _ _ ((alookup_eq_none _ _).1 hl)]
      cases p.default with
      | some d => simp only [Option.bind_some, Option.map_map]; rfl
      | none => rfl

theorem delegStep_eq (L : Lattice) (ps : List Param) (args : List Arg) (st : DelSt) (p : Param) :
    delegStep L ps args st p =
      if passedTwice ps args st.rest p then none
      else (bindStep L (fun p => effective ps p args st.rest) (core st) p).map fun c =>
        c.withRest (strike p st.rest) := by
  unfold delegStep bindStep passedTwice strike takes
  cases hq : p.position with
  | some q =>
      cases h1 : p.isStar with
      | true => simp [slotOf, hq, h1, withRest_core]
      | false =>
        cases h2 : p.hidden with
        | true => simp [slotOf, hq, h1, h2, core, Core.withRest]
        | false =>
          have hs : slotOf ps p = some (q - fixAt ps q) := slotOf_eq_some.2 ⟨q, hq, h1, h2, rfl⟩
          simp only [effective, received, hs, Bool.false_eq_true, if_false, Bool.not_false, Bool.and_self, if_true]
          cases hg : given args (q - fixAt ps q) with
          | true =>
              cases hr : ahas p.argName st.rest with
              | true => simp
              | false => simp [adel_of_ahas_false _ _ hr, Option.map_map]; rfl
          | false => exact keyword_or_default L p st.rest fun s => { core st with pos := st.pos.set q (some s) }
  | none =>
      cases h1 : p.isStarStar with
      | true => simp [slotOf, hq, withRest_core]
      | false =>
        cases h2 : p.hidden with
        | true => simp [slotOf, hq, core, Core.withRest]
        | false =>
          simp only [effective, received, slotOf, hq, Bool.false_eq_true, if_false, Bool.not_false, Bool.and_self, if_true]
          exact keyword_or_default L p st.rest fun s => { core st with kw := aset p.name s st.kw }

theorem delegStep_some {L : Lattice} {ps : List Param} {args : List Arg} {st st' : DelSt} {p : Param}
    (h : delegStep L ps args st p = some st') :
    passedTwice ps args st.rest p = false ∧
    ∃ c, bindStep L (fun p => effective ps p args st.rest) (core st) p = some c ∧
      st' = c.withRest (strike p st.rest) := by
  rw [delegStep_eq] at h
  cases hp : passedTwice ps args st.rest p with
  | true => simp [hp] at h
  | false =>
      simp only [hp, Bool.false_eq_true, if_false, Option.map_eq_some_iff] at h
      obtain ⟨c, hc, rfl⟩ := h
      exact ⟨rfl, c, hc, rfl⟩

theorem bindStep_vis {L : Lattice} {ev : Param → Option Arg} {c c' : Core} {p : Param}
    (h : bindStep L ev c p = some c') : c'.vis = c.vis - (if hiddenPositional p then 1 else 0) := by
  obtain ⟨g, c0, hg, h0, hh, hb⟩ := bindStep_normal L c p
  rw [hb] at h
  split at h
  · simp only [Option.bind_eq_some_iff, Option.map_eq_some_iff] at h
    obtain ⟨_, _, s, _, rfl⟩ := h
    simp [hg, hh ‹_›]
  · cases h; exact h0

theorem filter_length_cons {α : Type} (f : α → Bool) (a : α) (r : List α) :
    ((a :: r).filter f).length = (if f a then 1 else 0) + (r.filter f).length := by
  rw [List.filter_cons]; split <;> simp [Nat.add_comm]

theorem bindLoop_vis (L : Lattice) (ev : Param → Option Arg) : ∀ (l : List Param) (c c' : Core),
    bindLoop L ev c l = some c' → c'.vis = c.vis - (l.filter hiddenPositional).length
  | [], c, c', h => by cases h; simp
  | p :: r, c, c', h => by
      simp only [bindLoop] at h
      cases hs : bindStep L ev c p with
      | none => simp [hs] at h
      | some c1 =>
          rw [hs] at h
          rw [bindLoop_vis L ev r c1 c' h, bindStep_vis hs, filter_length_cons, Nat.sub_sub]

theorem delegLoop_vis (L : Lattice) (ps : List Param) (args : List Arg) : ∀ (l : List Param) (st st' : DelSt),
    delegLoop L ps args st l = some st' → st'.vis = st.vis - (l.filter hiddenPositional).length
  | [], st, st', h => by cases h; simp
  | p :: r, st, st', h => by
      simp only [delegLoop] at h
      cases hs : delegStep L ps args st p with
      | none => simp [hs] at h
      | some st1 =>
          rw [hs] at h
          obtain ⟨_, c, hc, rfl⟩ := delegStep_some hs
          rw [delegLoop_vis L ps args r _ st' h, filter_length_cons, ← Nat.sub_sub]
          exact congrArg (· - _) (bindStep_vis hc)

theorem ahas_strike_false {n : Name} {rest : KwArgs} (p : Param) (h : ahas n rest = false) :
    ahas n (strike p rest) = false := by
  unfold strike
  split
  · exact ahas_adel_false _ _ _ h
  · exact h

theorem delegStep_rest (L : Lattice) (ps : List Param) (args : List Arg) (n : Name) {st st' : DelSt} {p' : Param}
    (h : delegStep L ps args st p' = some st') (hn : ahas n st.rest = false) : ahas n st'.rest = false := by
  obtain ⟨_, c, _, rfl⟩ := delegStep_some h
  exact ahas_strike_false p' hn

theorem delegStep_congr (L : Lattice) (ps : List Param) {args args' : List Arg} {st st' : DelSt} {p : Param}
    (f : KwArgs → KwArgs) (hc : core st' = core st)
    (h2 : passedTwice ps args' st'.rest p = passedTwice ps args st.rest p)
    (hv : takes p = true → effective ps p args' st'.rest = effective ps p args st.rest)
    (hr : (strike p st'.rest) =
      f (strike p st.rest)) :
    delegStep L ps args' st' p = (delegStep L ps args st p).map fun x => { x with rest := f x.rest } := by
  rw [delegStep_eq, delegStep_eq, h2, hc, hr,
    bindStep_congr L (ev' := fun p => effective ps p args st.rest) (core st) p hv]
  cases passedTwice ps args st.rest p with
  | true => rfl
  | false => cases bindStep L (fun p => effective ps p args st.rest) (core st) p <;> rfl

structure SeesSame (ps : List Param) (args args' : List Arg) (f : KwArgs → KwArgs) (p : Param) : Prop where
  twice : ∀ rest, passedTwice ps args' (f rest) p = passedTwice ps args rest p
  value : ∀ rest, takes p = true → effective ps p args' (f rest) = effective ps p args rest
  strike : ∀ rest, takes p = true → adel p.argName (f rest) = f (adel p.argName rest)

theorem delegLoop_congr (L : Lattice) (ps : List Param) {args args' : List Arg} (f : KwArgs → KwArgs) :
    ∀ (l : List Param) (st st' : DelSt), core st' = core st → st'.rest = f st.rest →
      (∀ p ∈ l, SeesSame ps args args' f p) →
      delegLoop L ps args' st' l = (delegLoop L ps args st l).map fun x => { x with rest := f x.rest }
  | [], st, st', hc, hr, _ => by
      cases st; cases st'; cases hc; cases hr; rfl
  | p :: r, st, st', hc, hr, h => by
      have hp := h p (by simp)
      simp only [delegLoop]
      rw [delegStep_congr L ps f hc (hr ▸ hp.twice _) (fun ht => hr ▸ hp.value _ ht)
        (by rw [hr]; unfold strike; split; exact hp.strike _ ‹_›; rfl)]
      cases delegStep L ps args st p with
      | none => rfl
      | some st1 => exact delegLoop_congr L ps f r st1 _ rfl rfl (fun x hx => h x (by simp [hx]))

theorem delegLoop_append (L : Lattice) (ps : List Param) (args : List Arg) : ∀ (l1 l2 : List Param) (st : DelSt),
    delegLoop L ps args st (l1 ++ l2) = (delegLoop L ps args st l1).bind fun st' => delegLoop L ps args st' l2
  | [], _, _ => rfl
  | p :: r, l2, st => by
      simp only [List.cons_append, delegLoop]
      cases delegStep L ps args st p with
      | none => rfl
      | some st1 => exact delegLoop_append L ps args r l2 st1

theorem delegLoop_rest (L : Lattice) (ps : List Param) (args : List Arg) (n : Name) : ∀ (l : List Param) (st st' : DelSt),
    delegLoop L ps args st l = some st' → ahas n st.rest = false → ahas n st'.rest = false
  | [], st, st', h, hn => by cases h; exact hn
  | p :: r, st, st', h, hn => by
      simp only [delegLoop] at h
      cases hs : delegStep L ps args st p with
      | none => simp [hs] at h
      | some st1 =>
          rw [hs] at h
          exact delegLoop_rest L ps args n r st1 st' h (delegStep_rest L ps args n hs hn)

/-- the part of `get_delegate` after the loop -/
def finish (L : Lattice) (ps : List Param) (args : List Arg) (st : DelSt) : Option Bound :=
  let extra? : Option (List Arg) :=
    if args.length > st.vis then
      match starParam ps with
      | some sp => if (args.drop st.vis).all (check L sp.ty) then some (args.drop st.vis) else none
      | none => none
    else some []
  match extra? with
  | none => none
  | some extra =>
      if st.rest.isEmpty then some { pos := st.pos, extra := extra, kw := st.kw }
      else match starStarParam ps with
        | some sp =>
            if st.rest.all (fun kv => check L sp.ty kv.2) then
              some { pos := st.pos, extra := extra,
                     kw := st.rest.foldl (fun acc kv => aset kv.1 (.arg kv.2) acc) st.kw }
            else none
        | none => none

def core0 (ps : List Param) : Core := ⟨List.replicate (positionalCount ps) none, [], positionalCount ps⟩

theorem getDelegate_eq_finish (L : Lattice) (ps : List Param) (args : List Arg) (kw : KwArgs) :
    getDelegate L ps args kw = (delegLoop L ps args ((core0 ps).withRest kw) ps).bind (finish L ps args) := by
  unfold getDelegate
  simp only [core0, Core.withRest]
  cases delegLoop L ps args _ ps <;> rfl

theorem finish_congr (L : Lattice) (ps : List Param) {args args' : List Arg} (st : DelSt)
    (h : args.drop st.vis = args'.drop st.vis) : finish L ps args st = finish L ps args' st := by
  have hlen : (args.length > st.vis) = (args'.length > st.vis) := by
    simp only [gt_iff_lt, ← Nat.not_le, ← List.drop_eq_nil_iff, h]
  unfold finish
  simp only [hlen, h]

theorem finish_some {L : Lattice} {ps : List Param} {args : List Arg} {st : DelSt} {b : Bound}
    (h : finish L ps args st = some b) :
    (args.length > st.vis → ∃ sp, starParam ps = some sp ∧ (args.drop st.vis).all (check L sp.ty) = true) ∧
    (st.rest.isEmpty = true ∨ ∃ sp, starStarParam ps = some sp ∧ st.rest.all (fun kv => check L sp.ty kv.2) = true) ∧
    b.kw = st.rest.foldl (fun acc kv => aset kv.1 (.arg kv.2) acc) st.kw := by
  unfold finish at h
  dsimp only at h
  split at h
  · cases h
  · next extra hx =>
    refine ⟨fun hlen => ?_, ?_⟩
    · simp only [hlen, if_true] at hx
      split at hx
      · next sp hsp =>
        split at hx
        · exact ⟨sp, hsp, ‹_›⟩
        · cases hx
      · cases hx
    · split at h
      · next he => cases h; exact ⟨.inl he, by rw [List.isEmpty_iff.1 he]; rfl⟩
      · split at h
        · next sp hsp =>
          split at h
          · cases h; exact ⟨.inr ⟨sp, hsp, ‹_›⟩, rfl⟩
          · cases h
        · cases h

/-- `args'` is `args` with slot `s` emptied (`f(1,,3)`) or cut off (`f(1)` for `f(1,2)`): every other
    slot, and whatever lies beyond position `k > s`, is unchanged -/
structure SlotFreed (s : Nat) (args args' : List Arg) : Prop where
  freed : given args' s = false
  same_given : ∀ i, i ≠ s → given args' i = given args i
  same_val : ∀ i, i ≠ s → args'.getD i .noValue = args.getD i .noValue
  extras : ∀ k, s < k → (decide (args'.length > k) = decide (args.length > k)) ∧ args'.drop k = args.drop k

theorem SlotFreed.of_getElem? {s : Nat} {args args' : List Arg} (hfreed : given args' s = false)
    (key : ∀ i, i ≠ s → args'[i]? = args[i]?) : SlotFreed s args args' := by
  refine ⟨hfreed, fun i hi => by simp only [given, key i hi],
    fun i hi => by simp only [List.getD_eq_getElem?_getD, key i hi], fun k hk => ⟨?_, ?_⟩⟩
  · have := key k (by omega)
    simp only [gt_iff_lt, ← Nat.not_le, ← List.getElem?_eq_none_iff, this]
  · apply List.ext_getElem?
    intro i
    simp only [List.getElem?_drop]
    exact key _ (by omega)

theorem slotFreed_set (s : Nat) (args : List Arg) : SlotFreed s args (args.set s .noValue) := by
  refine .of_getElem? ?_ (fun i hi => List.getElem?_set_ne (Ne.symm hi))
  simp only [given]
  by_cases h : s < args.length
  · rw [List.getElem?_set_self h]; rfl
  · rw [List.getElem?_eq_none (by simp; omega)]

theorem slotFreed_dropLast (args' : List Arg) (a : Arg) : SlotFreed args'.length (args' ++ [a]) args' := by
  refine .of_getElem? (by simp [given]) (fun i hi => ?_)
  rcases Nat.lt_or_gt_of_ne hi with h | h
  · exact (List.getElem?_append_left h).symm
  · rw [List.getElem?_eq_none (by omega), List.getElem?_eq_none (by simp; omega)]

theorem seesSame_other {s : Nat} {args args' : List Arg} (hf : SlotFreed s args args') (ps : List Param) {p' : Param}
    (hs : slotOf ps p' ≠ some s) : SeesSame ps args args' id p' := by
  have key : ∀ i, slotOf ps p' = some i →
      given args' i = given args i ∧ args'.getD i .noValue = args.getD i .noValue := fun i hi =>
    have hne : i ≠ s := fun e => hs (e ▸ hi)
    ⟨hf.same_given i hne, hf.same_val i hne⟩
  refine ⟨fun rest => ?_, fun rest _ => ?_, fun _ _ => rfl⟩
  · unfold passedTwice
    cases hi : slotOf ps p' with
    | none => rfl
    | some i => simp only [id, (key i hi).1]
  · unfold effective received
    cases hi : slotOf ps p' with
    | none => rfl
    | some i => simp only [id, (key i hi).1, (key i hi).2]

def NameOther (n : Name) (p' : Param) : Prop := p'.hidden = false → p'.argName ≠ n

theorem seesSame_kw_other {s : Nat} {args args' : List Arg} (hf : SlotFreed s args args') (ps : List Param) {p' : Param}
    (hs : slotOf ps p' ≠ some s) {n : Name} (a : Arg) (hn : NameOther n p') :
    SeesSame ps args args' (· ++ [(n, a)]) p' := by
  obtain ⟨h1, h2, _⟩ := seesSame_other hf ps hs
  have hne : takes p' = true → n ≠ p'.argName := fun ht => (hn (takes_hidden ht)).symm
  refine ⟨fun rest => ?_, fun rest ht => ?_, fun rest ht => adel_append_other a rest (hne ht)⟩
  · rw [← h1 rest]
    unfold passedTwice
    cases hi : slotOf ps p' with
    | none => rfl
    | some i => simp only [id, ahas_append_other a rest (hne (takes_of_slot hi))]
  · rw [← h2 rest ht]
    simp only [effective, received, id, alookup_append_other a rest (hne ht)]

theorem delegLoop_other (L : Lattice) (ps : List Param) {s : Nat} {args args' : List Arg} (hf : SlotFreed s args args')
    (l : List Param) (st : DelSt) (h : ∀ p' ∈ l, slotOf ps p' ≠ some s) :
    delegLoop L ps args' st l = delegLoop L ps args st l := by
  rw [delegLoop_congr L ps id l st st rfl rfl (fun p' hp' => seesSame_other hf ps (h p' hp'))]
  cases delegLoop L ps args st l <;> rfl

/-- the argument in slot `s`, owned by `p`, leaves the argument list and the keywords change by `f`: if
    the parameters before `p` are treated alike in the two runs, and so is `p` when its turn comes (after
    which the keywords are the same again), `get_delegate` binds the same vector -/
theorem getDelegate_move (L : Lattice) (ps : List Param) {args args' : List Arg} (kw : KwArgs) (f : KwArgs → KwArgs)
    (p : Param) (pre post : List Param) {s : Nat} (hps : ps = pre ++ p :: post) (hs : s < visCount ps)
    (hf : SlotFreed s args args') (hpre : ∀ p' ∈ pre, SeesSame ps args args' f p')
    (hpost : ∀ p' ∈ post, slotOf ps p' ≠ some s) (hkw : ahas p.argName kw = false)
    (hp : ∀ rest, ahas p.argName rest = false →
      passedTwice ps args' (f rest) p = passedTwice ps args rest p ∧
      effective ps p args' (f rest) = effective ps p args rest ∧ strike p (f rest) = strike p rest) :
    getDelegate L ps args' (f kw) = getDelegate L ps args kw := by
  have hloop : ∀ l, l = pre ++ p :: post →
      delegLoop L ps args' ((core0 ps).withRest (f kw)) l = delegLoop L ps args ((core0 ps).withRest kw) l := by
    rintro _ rfl
    rw [delegLoop_append, delegLoop_append, delegLoop_congr L ps f pre ((core0 ps).withRest kw) ((core0 ps).withRest (f kw)) rfl rfl hpre]
    cases h1 : delegLoop L ps args ((core0 ps).withRest kw) pre with
    | none => rfl
    | some st1 =>
        obtain ⟨h2, hv, hr⟩ := hp st1.rest (delegLoop_rest L ps args p.argName pre _ st1 h1 hkw)
        simp only [Option.map_some, Option.bind_some, delegLoop,
          delegStep_congr L ps id (st := st1) (st' := { st1 with rest := f st1.rest }) rfl h2 (fun _ => hv) hr]
        cases delegStep L ps args st1 p with
        | none => rfl
        | some st2 => exact delegLoop_other L ps hf post st2 hpost
  rw [getDelegate_eq_finish, getDelegate_eq_finish, hloop ps hps]
  cases hl : delegLoop L ps args ((core0 ps).withRest kw) ps with
  | none => rfl
  | some st =>
      have hv : s < st.vis := by rw [delegLoop_vis L ps args ps _ st hl]; exact hs
      exact (finish_congr L ps st (hf.extras st.vis hv).2.symm).symm

/-- **a defaulted argument may be left out** (cut off at the end, or skipped with an empty slot):
    `get_delegate` binds the same vector as when the default value is written out -/
theorem spelling_default_move (L : Lattice) (ps : List Param) (args args' : List Arg) (kw : KwArgs)
    (p : Param) (pre post : List Param) (s : Nat) (d : Arg)
    (hps : ps = pre ++ p :: post) (hslot : slotOf ps p = some s) (hs : s < visCount ps)
    (hothers : ∀ p' ∈ pre ++ post, slotOf ps p' ≠ some s)
    (hd : p.default = some d) (hgiven : given args s = true) (hval : args.getD s .noValue = d)
    (hkw : ahas p.argName kw = false) (hf : SlotFreed s args args') :
    getDelegate L ps args' kw = getDelegate L ps args kw := by
  subst hval
  refine getDelegate_move L ps kw id p pre post hps hs hf
    (fun p' h => seesSame_other hf ps (hothers p' (by simp [h]))) (fun p' h => hothers p' (by simp [h])) hkw
    fun rest hr => ⟨?_, ?_, rfl⟩
  · simp [passedTwice, hslot, hf.freed, hr]
  · simp [effective, received, hslot, hf.freed, hgiven, (alookup_eq_none _ _).2 hr, hd]

/-- **an argument may be passed positionally or by keyword** (under the parameter's alias name):
    moving the argument in slot `s` out of the argument list (empty slot, or cut off at the end) into
    the keywords leaves the vector `get_delegate` binds unchanged -/
theorem spelling_kw_move (L : Lattice) (ps : List Param) (args args' : List Arg) (kw : KwArgs)
    (p : Param) (pre post : List Param) (s : Nat) (a : Arg)
    (hps : ps = pre ++ p :: post) (hslot : slotOf ps p = some s) (hs : s < visCount ps)
    (hothers : ∀ p' ∈ pre ++ post, slotOf ps p' ≠ some s ∧ NameOther p.argName p')
    (hgiven : given args s = true) (hval : args.getD s .noValue = a)
    (hkw : ahas p.argName kw = false) (hf : SlotFreed s args args') :
    getDelegate L ps args' (kw ++ [(p.argName, a)]) = getDelegate L ps args kw := by
  subst hval
  refine getDelegate_move L ps kw (· ++ [(p.argName, _)]) p pre post hps hs hf
    (fun p' h => seesSame_kw_other hf ps (hothers p' (by simp [h])).1 _ (hothers p' (by simp [h])).2)
    (fun p' h => (hothers p' (by simp [h])).1) hkw fun rest hr => ⟨?_, ?_, ?_⟩
  · simp [passedTwice, hslot, hf.freed, hr]
  · simp [effective, received, hslot, hf.freed, hgiven, alookup_append_self _ _ _ hr]
  · simp [strike, takes_of_slot hslot, adel_append_self _ _ _ hr, adel_of_ahas_false _ _ hr]

/-- the side conditions of the two move theorems, read off a checked table (`movesOk`, which
    `C12Gen.registry_moves_ok` establishes for every registered definition) -/
theorem movesOk_spec {ps : List Param} (hok : movesOk ps = true) {i : Nat} {p : Param} {s : Nat}
    (hi : ps[i]? = some p) (hslot : slotOf ps p = some s) :
    ps = ps.take i ++ p :: ps.drop (i + 1) ∧ s < visCount ps ∧
    ∀ p' ∈ ps.take i ++ ps.drop (i + 1), slotOf ps p' ≠ some s ∧ NameOther p.argName p' := by
  obtain ⟨hlt, hget⟩ := List.getElem?_eq_some_iff.1 hi
  unfold movesOk at hok
  rw [List.all_eq_true] at hok
  have := hok i (List.mem_range.2 hlt)
  simp only [hi, hslot, Bool.and_eq_true, decide_eq_true_eq, List.all_eq_true] at this
  refine ⟨?_, this.1, ?_⟩
  · have h1 := (List.take_append_drop i ps).symm
    rw [List.drop_eq_getElem_cons hlt, hget] at h1
    exact h1
  · intro p' hp'
    have h2 := this.2 p' hp'
    simp only [bne_iff_ne, ne_eq, Bool.or_eq_true] at h2
    refine ⟨h2.1, fun hh => ?_⟩
    rcases h2.2 with h3 | h3
    · rw [hh] at h3; cases h3
    · exact h3

/-- the whole-vector statement WITHOUT guards, kept to be refuted.  It is FALSE (`spelling_equiv_unguarded_false`
    below): it lets one spelling pass an argument twice (in its slot and by keyword: ArgumentException) and
    lets the two keyword dictionaries differ in entries that no parameter takes (ArgumentException without
    `**`, another `**` dictionary with it); it also asks for the same *received* value, which does not cover
    a defaulted argument written out in one spelling and left out in the other.  The real `get_delegate`
    behaves like the model on both witnesses: the guards are needed, the code is not at fault.
    The guarded statement is `spelling_equiv_full`, proved as `spelling_equiv`. -/
def spelling_equiv_unguarded : Prop :=
  ∀ (L : Lattice) (ps : List Param), wfDef ps = true →
    ∀ (args args' : List Arg) (kw kw' : KwArgs),
      (∀ p ∈ ps, p.hidden = false → p.isStar = false → p.isStarStar = false →
        (match slotOf ps p with
          | some s => if given args s then some (args.getD s .noValue) else alookup p.argName kw
          | none => alookup p.argName kw) =
        (match slotOf ps p with
          | some s => if given args' s then some (args'.getD s .noValue) else alookup p.argName kw'
          | none => alookup p.argName kw')) →
      args.drop (visCount ps) = args'.drop (visCount ps) →
      getDelegate L ps args kw = getDelegate L ps args' kw'

theorem dropNames_nil (kw : KwArgs) : dropNames [] kw = kw := by simp [dropNames]

theorem namesOf_cons (p : Param) (r : List Param) :
    namesOf (p :: r) = if takes p then p.argName :: namesOf r else namesOf r := by
  simp only [namesOf, List.filter_cons]
  split <;> simp

theorem dropNames_namesOf_cons (p : Param) (r : List Param) (rest : KwArgs) :
    dropNames (namesOf (p :: r)) rest = dropNames (namesOf r) (strike p rest) := by
  rw [namesOf_cons]
  unfold strike
  split
  · simp only [dropNames, adel, List.filter_filter]
    congr 1
    funext kv
    simp only [List.contains_cons, Bool.not_or, Bool.and_comm]
  · rfl

theorem distinct_namesOf_cons {p : Param} {r : List Param} (hd : distinct (namesOf (p :: r)) = true) :
    distinct (namesOf r) = true ∧
      ∀ p' ∈ r, takes p' = true → takes p = true → p'.argName ≠ p.argName := by
  rw [namesOf_cons] at hd
  split at hd
  · simp only [distinct, Bool.and_eq_true, Bool.not_eq_true', List.contains_eq_mem, decide_eq_false_iff_not] at hd
    exact ⟨hd.2, fun p' hp' ht' _ e =>
      hd.1 (e ▸ List.mem_map.2 ⟨p', List.mem_filter.2 ⟨hp', ht'⟩, rfl⟩)⟩
  · exact ⟨hd, fun _ _ _ ht => absurd ht ‹_›⟩

theorem strike_other {p p' : Param} (rest : KwArgs) (hne : takes p = true → p'.argName ≠ p.argName) :
    alookup p'.argName (strike p rest) = alookup p'.argName rest ∧
      ahas p'.argName (strike p rest) = ahas p'.argName rest := by
  unfold strike
  split
  · exact ⟨alookup_adel_other (hne ‹_›) rest, ahas_adel_other (hne ‹_›) rest⟩
  · exact ⟨rfl, rfl⟩

theorem effective_strike (ps : List Param) {p p' : Param} (args : List Arg) (rest : KwArgs)
    (hne : takes p = true → p'.argName ≠ p.argName) :
    effective ps p' args (strike p rest) = effective ps p' args rest := by
  simp only [effective, received, (strike_other rest hne).1]

theorem passedTwice_strike {ps : List Param} {args : List Arg} (rest : KwArgs) {p p' : Param}
    (hne : takes p' = true → takes p = true → p'.argName ≠ p.argName) :
    passedTwice ps args (strike p rest) p' = passedTwice ps args rest p' := by
  unfold passedTwice
  cases hs : slotOf ps p' with
  | none => rfl
  | some s => simp only [(strike_other rest (hne (takes_of_slot hs))).2]

theorem all_congr_mem {α : Type} {f g : α → Bool} : ∀ {l : List α}, (∀ a ∈ l, f a = g a) → l.all f = l.all g
  | [], _ => rfl
  | a :: r, h => by
      rw [List.all_cons, List.all_cons, h a List.mem_cons_self,
        all_congr_mem fun x hx => h x (List.mem_cons_of_mem _ hx)]

theorem delegLoop_spec (L : Lattice) (ps : List Param) (args : List Arg) (ev : Param → Option Arg) :
    ∀ (l : List Param) (st : DelSt), distinct (namesOf l) = true →
    (∀ p ∈ l, takes p = true → ev p = effective ps p args st.rest) →
    delegLoop L ps args st l =
      if l.all fun p => !passedTwice ps args st.rest p then
        (bindLoop L ev (core st) l).map fun c => c.withRest (dropNames (namesOf l) st.rest)
      else none
  | [], st, _, _ => by
      simp only [delegLoop, bindLoop, namesOf, List.filter_nil, List.map_nil, dropNames_nil, Option.map_some,
        withRest_core, List.all_nil, if_true]
  | p :: r, st, hd, hev => by
      obtain ⟨hd', hne⟩ := distinct_namesOf_cons hd
      simp only [delegLoop, bindLoop, List.all_cons, delegStep_eq,
        ← bindStep_congr L (ev := ev) (ev' := fun p => effective ps p args st.rest) (core st) p (hev p (by simp))]
      rcases Bool.eq_false_or_eq_true (passedTwice ps args st.rest p) with hp | hp
      · simp [hp]
      · simp only [hp, Bool.false_eq_true, if_false, Bool.not_false, Bool.true_and]
        cases hb : bindStep L ev (core st) p with
        | none => simp
        | some c1 =>
            have hall := all_congr_mem (l := r) fun p' hp' =>
              congrArg (!·) (passedTwice_strike (ps := ps) (args := args) st.rest (hne p' hp'))
            simp only [Option.map_some, dropNames_namesOf_cons]
            rw [delegLoop_spec L ps args ev r (c1.withRest (strike p st.rest)) hd'
              (fun p' hp' ht' => (hev p' (by simp [hp']) ht').trans
                (effective_strike ps args st.rest (hne p' hp' ht')).symm), ← hall]
            rfl

theorem wfDef_takes {ps : List Param} (hwf : wfDef ps = true) :
    (∀ p ∈ ps, takes p = (!p.hidden && !p.isStar && !p.isStarStar)) ∧ namesOf ps = argNames ps ∧
      distinct (namesOf ps) = true := by
  simp only [wfDef, Bool.and_eq_true, List.all_eq_true, List.mem_filter, and_imp, beq_iff_eq] at hwf
  obtain ⟨⟨⟨⟨⟨⟨_, _⟩, hd⟩, _⟩, _⟩, hstar⟩, hss⟩ := hwf
  have ht : ∀ p ∈ ps, takes p = (!p.hidden && !p.isStar && !p.isStarStar) := by
    intro p hp
    unfold takes
    cases hq : p.position with
    | some q =>
        cases h2 : p.isStarStar with
        | true => have := hss p hp h2; rw [hq] at this; cases this
        | false => cases p.isStar <;> cases p.hidden <;> rfl
    | none =>
        cases h1 : p.isStar with
        | true => have := hstar p hp h1; rw [hq] at this; cases this
        | false => cases p.isStarStar <;> cases p.hidden <;> rfl
  have hn : namesOf ps = argNames ps :=
    congrArg (List.map Param.argName) (List.filter_congr ht)
  exact ⟨ht, hn, hn ▸ hd⟩

theorem noClash_eq (ps : List Param) (args : List Arg) (kw : KwArgs) :
    noClash ps args kw = ps.all fun p => !passedTwice ps args kw p := by
  unfold noClash passedTwice
  congr
  funext p
  cases slotOf ps p <;> rfl

theorem getDelegate_eq (L : Lattice) (ps : List Param) (hwf : wfDef ps = true) (args : List Arg) (kw : KwArgs) :
    getDelegate L ps args kw =
      if noClash ps args kw then
        (bindLoop L (fun p => effective ps p args kw) (core0 ps) ps).bind fun c =>
          finish L ps args (c.withRest (extraKw ps kw))
      else none := by
  obtain ⟨_, hn, hd⟩ := wfDef_takes hwf
  rw [getDelegate_eq_finish, noClash_eq,
    delegLoop_spec L ps args (fun p => effective ps p args kw) ps ((core0 ps).withRest kw) hd (fun _ _ _ => rfl),
    core_withRest, hn, show ((core0 ps).withRest kw).rest = kw from rfl]
  split
  · cases bindLoop L (fun p => effective ps p args kw) (core0 ps) ps <;> rfl
  · rfl

theorem getDelegate_clash (L : Lattice) (ps : List Param) (hwf : wfDef ps = true)
    (args : List Arg) (kw : KwArgs) (hc : noClash ps args kw = false) : getDelegate L ps args kw = none := by
  rw [getDelegate_eq L ps hwf, hc]
  rfl

/-- **what `get_delegate` binds is a function of the value every parameter receives**, of the arguments
    beyond the visible slots and of the keywords no parameter takes (when nothing is passed twice) -/
theorem getDelegate_eq_of_received (L : Lattice) (ps : List Param) (hwf : wfDef ps = true)
    (args : List Arg) (kw : KwArgs) (hnc : noClash ps args kw = true) :
    getDelegate L ps args kw =
      (bindLoop L (fun p => effective ps p args kw) (core0 ps) ps).bind fun c =>
        finish L ps args (c.withRest (extraKw ps kw)) := by
  rw [getDelegate_eq L ps hwf, hnc, if_pos rfl]

/-- **all ways of passing the same arguments bind the same vector** (the guarded whole-vector
    statement): two spellings of a call of a well-formed definition in which every named parameter ends up
    with the same value - passed in its slot, by keyword under its name in any order, or (defaulted) left
    out, skipped with an empty slot or written out - with the same arguments beyond the named slots (`*`'s
    share) and the same keywords that no parameter takes (`**`'s share), and which either both or neither
    pass some argument twice, make `get_delegate` bind the same vector or fail alike -/
def spelling_equiv_full : Prop :=
  ∀ (L : Lattice) (ps : List Param), wfDef ps = true →
    ∀ (args args' : List Arg) (kw kw' : KwArgs),
      (∀ p ∈ ps, p.hidden = false → p.isStar = false → p.isStarStar = false →
        effective ps p args kw = effective ps p args' kw') →
      args.drop (visCount ps) = args'.drop (visCount ps) →
      extraKw ps kw = extraKw ps kw' →
      noClash ps args kw = noClash ps args' kw' →
      getDelegate L ps args kw = getDelegate L ps args' kw'

theorem spelling_equiv : spelling_equiv_full := by
  intro L ps hwf args args' kw kw' hval hstar hextra hclash
  obtain ⟨ht, _, _⟩ := wfDef_takes hwf
  rw [getDelegate_eq L ps hwf, getDelegate_eq L ps hwf, ← hclash, hextra,
    bindLoop_congr L (ev := fun p => effective ps p args kw) (ev' := fun p => effective ps p args' kw') ps _
      (fun p hp htp => by
        rw [ht p hp] at htp
        simp only [Bool.and_eq_true, Bool.not_eq_true'] at htp
        exact hval p hp htp.1.1 htp.1.2 htp.2)]
  split
  · cases hb : bindLoop L (fun p => effective ps p args' kw') (core0 ps) ps with
    | none => rfl
    | some c =>
        have hv := bindLoop_vis L _ ps _ c hb
        apply finish_congr
        simp only [Core.withRest, hv, core0]
        exact hstar
  · rfl

/-- the unguarded statement (same received values) holds wherever the two guards it lacks hold -/
theorem spelling_equiv_of_received (L : Lattice) (ps : List Param) (hwf : wfDef ps = true)
    (args args' : List Arg) (kw kw' : KwArgs)
    (hval : ∀ p ∈ ps, p.hidden = false → p.isStar = false → p.isStarStar = false →
      received ps p args kw = received ps p args' kw')
    (hstar : args.drop (visCount ps) = args'.drop (visCount ps))
    (hextra : extraKw ps kw = extraKw ps kw') (hclash : noClash ps args kw = noClash ps args' kw') :
    getDelegate L ps args kw = getDelegate L ps args' kw' :=
  spelling_equiv L ps hwf args args' kw kw'
    (fun p hp h1 h2 h3 => by simp only [effective, hval p hp h1 h2 h3]) hstar hextra hclash

namespace Ex12
open C05.Ex
def pa : Param := pos 'a' 0 (cls 4)
def pb : Param := { pos 'b' 1 (cls 4) with default := some (.value dVal) }
def pkw : Param := { key := .starstar, name := ['k'], alias := none, position := none, default := none, ty := cls 4 }
def v : Arg := .value dVal
def v' : Arg := .value (.obj 4 [] 2)
def psab : List Param := [pa, pb]
end Ex12

open Ex12 in
/-- the unguarded statement is false: `f(x, a => x)` passes `a` twice and is rejected, `f(x)` is bound;
    both give `a` the same received value `x` -/
theorem spelling_equiv_unguarded_false : ¬ spelling_equiv_unguarded := by
  intro h
  have h1 := h C05.Ex.lat [pa] (by decide) [v] [v] [(['a'], v')] []
    (by intro p hp; simp only [List.mem_singleton] at hp; subst hp; intros; decide) (by decide)
  exact absurd h1 (by decide)

open Ex12 in
/-- each guard of `spelling_equiv_full` is needed: without `noClash .. = noClash ..` the witness above;
    without `extraKw .. = extraKw ..` a keyword that no parameter takes (`f(x, z => x)`: rejected; with a
    `**` parameter: another `**` dictionary); the remaining hypotheses hold in all three -/
example :
    (wfDef [pa] = true ∧ effective [pa] pa [v] [(['a'], v')] = effective [pa] pa [v] [] ∧
      extraKw [pa] [(['a'], v')] = extraKw [pa] [] ∧
      getDelegate C05.Ex.lat [pa] [v] [(['a'], v')] ≠ getDelegate C05.Ex.lat [pa] [v] []) ∧
    (effective [pa] pa [v] [(['z'], v)] = effective [pa] pa [v] [] ∧
      noClash [pa] [v] [(['z'], v)] = noClash [pa] [v] [] ∧
      getDelegate C05.Ex.lat [pa] [v] [(['z'], v)] ≠ getDelegate C05.Ex.lat [pa] [v] []) ∧
    (wfDef [pa, pkw] = true ∧ effective [pa, pkw] pa [v] [(['z'], v)] = effective [pa, pkw] pa [v] [(['y'], v)] ∧
      noClash [pa, pkw] [v] [(['z'], v)] = noClash [pa, pkw] [v] [(['y'], v)] ∧
      (getDelegate C05.Ex.lat [pa, pkw] [v] [(['z'], v)]).isSome = true ∧
      getDelegate C05.Ex.lat [pa, pkw] [v] [(['z'], v)] ≠ getDelegate C05.Ex.lat [pa, pkw] [v] [(['y'], v)]) := by
  decide +kernel

open Ex12 in
/-- non-vacuity of `spelling_equiv`: `f(a, b = d)` called as `f(x)`, `f(x, d)`, `f(x, <empty>)`,
    `f(b => d, a => x)`, `f(a => x)`, `f(x, b => d)`: the hypotheses hold pairwise with the first and the vector is bound -/
example :
    wfDef psab = true ∧ (getDelegate C05.Ex.lat psab [v'] []).isSome = true ∧
    ([([v', v], []), ([v', .noValue], []), ([], [(['b'], v), (['a'], v')]), ([], [(['a'], v')]),
      ([v'], [(['b'], v)])] : List (List Arg × KwArgs)).all (fun sp =>
        psab.all (fun p => effective psab p sp.1 sp.2 == effective psab p [v'] []) &&
        sp.1.drop (visCount psab) == ([v'] : List Arg).drop (visCount psab) &&
        extraKw psab sp.2 == extraKw psab [] && noClash psab sp.1 sp.2 == noClash psab [v'] [] &&
        getDelegate C05.Ex.lat psab sp.1 sp.2 == getDelegate C05.Ex.lat psab [v'] []) = true := by
  decide +kernel

/-! ## map_args on the whole argument vector -/

theorem mapAct_eq (ps : List Param) (args : List Arg) (rest : KwArgs) (p : Param) :
    mapAct ps args rest p =
      if takes p then
        match slotOf ps p with
        | some i =>
            if given args i then (if ahas p.argName rest then .fail else .setPos i)
            else if ahas p.argName rest then .toKwd
            else if p.default.isNone then .fail
            else if i < args.length then .setPos i else .keep
        | none => if ahas p.argName rest then .toKwd else if p.default.isNone then .fail else .keep
      else .keep := by
  unfold mapAct takes
  cases hq : p.position with
  | some q =>
      cases h1 : p.isStar with
      | true => rfl
      | false =>
        cases h2 : p.hidden with
        | true => rfl
        | false => simp only [slotOf_eq_some.2 ⟨q, hq, h1, h2, rfl⟩]; rfl
  | none =>
      cases h1 : p.isStarStar with
      | true => rfl
      | false =>
        cases h2 : p.hidden with
        | true => rfl
        | false => simp only [show slotOf ps p = none by simp [slotOf, hq]]; rfl

theorem mapAct_of_not_takes {ps : List Param} {args : List Arg} {rest : KwArgs} {p : Param} (h : takes p = false) :
    mapAct ps args rest p = .keep := by
  simp [mapAct_eq, h]

theorem given_lt {args : List Arg} {i : Nat} (h : given args i = true) : i < args.length := by
  unfold given at h
  split at h
  · exact (List.getElem?_eq_some_iff.1 ‹_›).1
  · cases h

theorem mapAct_slot {ps : List Param} {args : List Arg} {rest : KwArgs} {p : Param} {i : Nat}
    (h : mapAct ps args rest p = .setPos i) : slotOf ps p = some i ∧ i < args.length := by
  obtain ⟨q, hq, h1, h2, rfl⟩ := mapAct_setPos h
  have hs : slotOf ps p = some (q - fixAt ps q) := slotOf_eq_some.2 ⟨q, hq, h1, h2, rfl⟩
  refine ⟨hs, ?_⟩
  by_cases hg : given args (q - fixAt ps q) = true
  · exact given_lt hg
  · -- without an argument in the slot, `setPos` is only reached through the test `.. < args.length`
    refine Nat.lt_of_not_le fun hle => ?_
    have hlt := Nat.not_lt.2 hle
    have := congrArg (fun a => match a with | MapAct.setPos _ => true | _ => false) h
    simp [mapAct_eq, takes_of_slot hs, hs, hg, hlt,
      apply_ite (fun a => match a with | MapAct.setPos _ => true | _ => false)] at this

/-- the slot `map_args` enters `p` into (given that `p` is not passed twice and has a value) -/
def claim (ps : List Param) (args : List Arg) (rest : KwArgs) (p : Param) : Option Nat :=
  match slotOf ps p with
  | some s =>
      if given args s then some s
      else if ahas p.argName rest then none
      else if s < args.length then some s else none
  | none => none

/-- the final loop of `map_args` at one slot -/
def goodV (L : Lattice) (a : Arg) (o : Option Param) : Bool :=
  match o with
  | some p => check L p.ty (if a.isNoValue then p.default.getD .noValue else a)
  | none => false

theorem posOk_of_good (L : Lattice) : ∀ (pos : List (Option Param)) (args : List Arg),
    pos.length = args.length →
    (∀ i, i < pos.length → goodV L (args.getD i .noValue) (pos.getD i none) = true) → posOk L pos args = true
  | [], _, _, _ => by simp [posOk]
  | o :: r, [], h, _ => by simp at h
  | o :: r, a :: as, h, hg => by
      have h0 := hg 0 (by simp)
      simp only [List.getD_cons_zero] at h0
      cases o with
      | none => simp [goodV] at h0
      | some p =>
          simp only [goodV] at h0
          simp only [posOk, h0, Bool.true_and]
          apply posOk_of_good L r as (by simpa using h)
          intro i hi
          have := hg (i + 1) (by simp; omega)
          simpa using this

theorem noValue_or_self (a : Arg) : (if a.isNoValue then Arg.noValue else a) = a := by
  cases a <;> rfl

theorem given_false_lt {args : List Arg} {s : Nat} (hg : given args s = false) (hs : s < args.length) :
    (args.getD s .noValue).isNoValue = true := by
  simp only [given, List.getElem?_eq_getElem hs, Bool.not_eq_false'] at hg
  simp only [List.getD_eq_getElem?_getD, List.getElem?_eq_getElem hs, Option.getD_some, hg]

theorem given_true_val {args : List Arg} {s : Nat} (hg : given args s = true) :
    s < args.length ∧ (args.getD s .noValue).isNoValue = false := by
  have hlt := given_lt hg
  simp only [given, List.getElem?_eq_getElem hlt, Bool.not_eq_true'] at hg
  exact ⟨hlt, by simp [List.getD_eq_getElem?_getD, List.getElem?_eq_getElem hlt, hg]⟩

theorem claim_some {ps : List Param} {args : List Arg} {rest : KwArgs} {p : Param} {i : Nat}
    (h : claim ps args rest p = some i) :
    slotOf ps p = some i ∧
      (given args i = true ∨ given args i = false ∧ ahas p.argName rest = false ∧ i < args.length) := by
  unfold claim at h
  cases hs : slotOf ps p with
  | none => simp [hs] at h
  | some s =>
      cases hg : given args s with
      | true => simp [hs, hg] at h; subst h; exact ⟨rfl, .inl hg⟩
      | false =>
          cases hk : ahas p.argName rest with
          | true => simp [hs, hg, hk] at h
          | false => simp [hs, hg, hk] at h; obtain ⟨hlt, rfl⟩ := h; exact ⟨rfl, .inr ⟨hg, rfl, hlt⟩⟩

/-- whoever enters a slot passes the final check of `map_args` there, if `get_delegate` accepts its value -/
theorem claim_good (L : Lattice) (ps : List Param) (args : List Arg) (rest : KwArgs) (p : Param) (s : Nat) (v : Arg)
    (hc : claim ps args rest p = some s) (he : effective ps p args rest = some v) (hv : check L p.ty v = true) :
    s < args.length ∧ goodV L (args.getD s .noValue) (some p) = true := by
  obtain ⟨hs, hg | ⟨hg, hk, hlt⟩⟩ := claim_some hc
  · -- the argument in the slot is the effective value
    obtain ⟨hlt, hnv⟩ := given_true_val hg
    simp only [effective, received, hs, hg, if_true, Option.some.injEq] at he
    rw [he] at hnv
    exact ⟨hlt, by simp only [goodV, he, hnv, Bool.false_eq_true, if_false, hv]⟩
  · -- an empty place, nothing by keyword: the default is the effective value
    simp only [effective, received, hs, hg, Bool.false_eq_true, if_false, (alookup_eq_none _ _).2 hk] at he
    exact ⟨hlt, by simp only [goodV, given_false_lt hg hlt, if_true, he, Option.getD_some, hv]⟩

/-- one iteration of the loop of `map_args` for a parameter that is not passed twice and has a value -/
theorem mapStep_spec (ps : List Param) (args : List Arg) (st : MapSt) (p : Param)
    (hnc : passedTwice ps args st.rest p = false)
    (hv : takes p = true → (effective ps p args st.rest).isSome = true) :
    ∃ st1, mapStep ps args st p = some st1 ∧
      st1.rest = strike p st.rest ∧
      st1.pos = (match claim ps args st.rest p with | some s => st.pos.set s (some p) | none => st.pos) := by
  -- by cases on what decides the action (takes an argument, owns a slot, argument given, name among the keywords,
  -- slot inside the list).  `hnc` and `hv` exclude the two failing leaves; in every other leaf the action names
  -- the next state and the three claims hold by computation
  rw [mapStep_eq, mapAct_eq]
  unfold claim strike
  cases ht : takes p with
  | false =>
      have hs : slotOf ps p = none := by
        cases hs : slotOf ps p with
        | none => rfl
        | some s => rw [takes_of_slot hs] at ht; cases ht
      exact ⟨st, by simp [MapAct.run], by simp, by simp [hs]⟩
  | true =>
      have hv' := hv ht
      simp only [effective, received] at hv'
      have hdef : ahas p.argName st.rest = false → alookup p.argName st.rest = none ∧
          adel p.argName st.rest = st.rest := fun hk =>
        ⟨(alookup_eq_none _ _).2 hk, adel_of_ahas_false _ _ hk⟩
      cases hs : slotOf ps p with
      | none =>
          simp only [hs] at hv'
          cases hk : ahas p.argName st.rest with
          | true => exact ⟨_, rfl, rfl, rfl⟩
          | false =>
              simp only [(hdef hk).1] at hv'
              cases hd : p.default with
              | none => simp [hd] at hv'
              | some d => exact ⟨_, rfl, (hdef hk).2.symm, rfl⟩
      | some i =>
          simp only [hs] at hv'
          cases hg : given args i with
          | true =>
              have hr : ahas p.argName st.rest = false := by simpa [passedTwice, hs, hg] using hnc
              simp only [hg, hr, (hdef hr).2]
              exact ⟨_, rfl, rfl, rfl⟩
          | false =>
              cases hk : ahas p.argName st.rest with
              | true => simp only [hg]; exact ⟨_, rfl, rfl, rfl⟩
              | false =>
                  simp only [hg, (hdef hk).1] at hv'
                  cases hd : p.default with
                  | none => simp [hd] at hv'
                  | some d =>
                      simp only [hg, (hdef hk).2]
                      by_cases hlt : i < args.length
                      · simp only [hlt]; exact ⟨_, rfl, rfl, rfl⟩
                      · simp only [hlt]; exact ⟨_, rfl, rfl, rfl⟩

theorem getD_set_self' {α : Type} {l : List α} {i : Nat} (a d : α) (h : i < l.length) : (l.set i a).getD i d = a := by
  simp only [List.getD_eq_getElem?_getD, List.getElem?_set_self h, Option.getD_some]

theorem getD_set_ne' {α : Type} {l : List α} {s i : Nat} (a d : α) (h : s ≠ i) : (l.set s a).getD i d = l.getD i d := by
  simp only [List.getD_eq_getElem?_getD, List.getElem?_set_ne h]

theorem claim_strike (ps : List Param) (args : List Arg) (rest : KwArgs) {p p' : Param}
    (hne : takes p = true → p'.argName ≠ p.argName) :
    claim ps args (strike p rest) p' = claim ps args rest p' := by
  simp only [claim, (strike_other rest hne).2]

theorem bindStep_checks {L : Lattice} {ev : Param → Option Arg} {c c' : Core} {p : Param}
    (h : bindStep L ev c p = some c') (ht : takes p = true) : ∃ v, ev p = some v ∧ check L p.ty v = true := by
  obtain ⟨g, c0, _, _, _, hb⟩ := bindStep_normal L c p
  simp only [hb, ht, if_true, Option.bind_eq_some_iff, Option.map_eq_some_iff, checked] at h
  obtain ⟨v, hv, s, hc, _⟩ := h
  refine ⟨v, hv, ?_⟩
  split at hc
  · assumption
  · cases hc

/-- the loop of `map_args` follows the loop of `get_delegate` (names being distinct): where that succeeds so does
    this, with the same keywords left, and every slot that was fine before or is entered by someone is fine after -/
theorem mapLoop_of_delegLoop (L : Lattice) (ps : List Param) (args : List Arg) :
    ∀ (l : List Param) (d d' : DelSt) (m : MapSt), delegLoop L ps args d l = some d' → m.rest = d.rest →
    distinct (namesOf l) = true → m.pos.length = args.length →
    ∃ m', mapLoop ps args m l = some m' ∧ m'.rest = d'.rest ∧ m'.pos.length = args.length ∧
      ∀ i, (goodV L (args.getD i .noValue) (m.pos.getD i none) = true ∨ ∃ p ∈ l, claim ps args m.rest p = some i) →
        goodV L (args.getD i .noValue) (m'.pos.getD i none) = true
  | [], d, d', m, h, hr, _, hlen => by
      cases h
      exact ⟨m, rfl, hr, hlen, fun i hi => hi.resolve_right (by simp)⟩
  | p :: r, d, d', m, h, hr, hd, hlen => by
      simp only [delegLoop] at h
      cases hs : delegStep L ps args d p with
      | none => simp [hs] at h
      | some d1 =>
      rw [hs] at h
      obtain ⟨hnc, c, hc, rfl⟩ := delegStep_some hs
      rw [← hr] at hnc hc
      have hval := bindStep_checks hc
      obtain ⟨m1, hstep, hrest1, hpos1⟩ := mapStep_spec ps args m p hnc
        (fun ht => by obtain ⟨v, hv, _⟩ := hval ht; simp [hv])
      have hgood1 : ∀ i, (goodV L (args.getD i .noValue) (m.pos.getD i none) = true ∨ claim ps args m.rest p = some i) →
          goodV L (args.getD i .noValue) (m1.pos.getD i none) = true := by
        intro i hi
        rw [hpos1]
        cases hcl : claim ps args m.rest p with
        | none => exact hi.resolve_right (by simp [hcl])
        | some s =>
            obtain ⟨v, hv, hcv⟩ := hval (takes_of_slot (claim_some hcl).1)
            obtain ⟨hlt, hg⟩ := claim_good L ps args m.rest p s v hcl hv hcv
            by_cases hsi : s = i
            · subst hsi
              rwa [getD_set_self' _ _ (by omega)]
            · rw [getD_set_ne' _ _ hsi]
              exact hi.resolve_right (by simp [hcl, hsi])
      have hlen1 : m1.pos.length = args.length := by
        rw [hpos1]; split <;> simp [hlen]
      obtain ⟨hd', hne⟩ := distinct_namesOf_cons hd
      obtain ⟨m', hl, hr', hlen', hg'⟩ := mapLoop_of_delegLoop L ps args r _ d' m1 h (by rw [hrest1, hr]; rfl) hd' hlen1
      refine ⟨m', by simp only [mapLoop, hstep, hl], hr', hlen', fun i hi => hg' i ?_⟩
      rcases hi with h | ⟨p', hp', hcl⟩
      · exact Or.inl (hgood1 i (Or.inl h))
      · rcases List.mem_cons.1 hp' with rfl | hpr
        · exact Or.inl (hgood1 i (Or.inr hcl))
        · -- a later parameter enters the same slot after `p`'s name is struck: its name is another
          exact Or.inr ⟨p', hpr, by rwa [hrest1, claim_strike ps args m.rest (hne p' hpr (takes_of_slot (claim_some hcl).1))]⟩

theorem mapFinish_isSome (L : Lattice) (ps : List Param) (args : List Arg) (kw : KwArgs) (st : MapSt)
    (hpos : posOk L st.pos args = true)
    (hrest : st.rest.isEmpty = true ∨
      ∃ sp, starStarParam ps = some sp ∧ st.rest.all (fun kv => check L sp.ty kv.2) = true) :
    (mapFinish L ps args kw st).isSome = true := by
  unfold mapFinish kwdOf
  by_cases he : st.rest.isEmpty = true
  · simp [hpos, List.isEmpty_iff.1 he]
  · obtain ⟨sp, hsp, hall⟩ := hrest.resolve_left he
    have hchk : (st.rest.all fun kv =>
        checkOpt L (alookup kv.1 (st.rest.foldl (fun acc kv => aset kv.1 sp acc) st.kwd)) kv.2) = true := by
      rw [List.all_eq_true] at hall ⊢
      intro kv hkv
      have hh : ahas kv.1 st.rest = true := List.any_eq_true.2 ⟨kv, hkv, by simp⟩
      rw [alookup_foldl_aset, hh, if_pos rfl]
      exact hall kv hkv
    simp only [he, Bool.false_eq_true, if_false, hsp, hpos, Bool.not_true, hchk, Option.isSome_some]

/-- every argument slot below `visCount` that the call writes (filled or empty) is entered by its
    parameter: there is no empty slot whose parameter comes by keyword instead -/
def slotsClaimed (ps : List Param) (args : List Arg) (kw : KwArgs) : Bool :=
  (List.range (min args.length (visCount ps))).all fun i => ps.any fun p => claim ps args kw p == some i

/-- **a vector that `get_delegate` binds passes `map_args`**, in every spelling that has no empty slot
    whose parameter comes by keyword (the `*` parameter having no default) -/
theorem mapArgs_of_getDelegate (L : Lattice) (ps : List Param) (hwf : wfDef ps = true)
    (hstar : ∀ sp, starParam ps = some sp → sp.default = none)
    (args : List Arg) (kw : KwArgs) (hcl : slotsClaimed ps args kw = true)
    (h : (getDelegate L ps args kw).isSome = true) : (mapArgs L ps args kw).isSome = true := by
  obtain ⟨_, _, hd⟩ := wfDef_takes hwf
  rw [getDelegate_eq_finish] at h
  cases hl : delegLoop L ps args ((core0 ps).withRest kw) ps with
  | none => rw [hl] at h; cases h
  | some d =>
      rw [hl, Option.bind_some] at h
      obtain ⟨b, hf⟩ := Option.isSome_iff_exists.1 h
      obtain ⟨hF1, hF2, _⟩ := finish_some hf
      have hvis : d.vis = visCount ps := delegLoop_vis L ps args ps _ d hl
      rw [hvis] at hF1
      obtain ⟨st', hm, hr', hlen', hg'⟩ := mapLoop_of_delegLoop L ps args ps _ d
        { pos := List.replicate args.length (starParam ps), kwd := [], rest := kw } hl rfl hd (by simp)
      rw [mapArgs_eq_finish, hm, Option.bind_some]
      apply mapFinish_isSome
      · apply posOk_of_good L st'.pos args hlen'
        intro i hi
        rw [hlen'] at hi
        apply hg'
        by_cases hiv : i < visCount ps
        · right
          simp only [slotsClaimed, List.all_eq_true, List.mem_range, List.any_eq_true, beq_iff_eq] at hcl
          exact hcl i (by omega)
        · -- beyond the visible slots the initial entry stands, the `*` parameter; `get_delegate` has checked the
          -- argument itself, and so does `map_args` since `*` has no default
          left
          obtain ⟨sp, hsp, hall⟩ := hF1 (by omega)
          have hchk : check L sp.ty args[i] = true :=
            List.all_eq_true.1 hall _ (List.mem_drop_iff_getElem.2 ⟨i - visCount ps, by omega, by congr 1; omega⟩)
          simp only [List.getD_eq_getElem?_getD, List.getElem?_replicate, List.getElem?_eq_getElem hi, hi, if_true,
            Option.getD_some, hsp, goodV, hstar sp hsp, Option.getD_none, noValue_or_self]
          exact hchk
      · rw [hr']
        exact hF2

/-- `map_args` agrees on the spellings of a vector that `get_delegate` binds -/
theorem spelling_mapArgs_agree (L : Lattice) (ps : List Param) (hwf : wfDef ps = true)
    (hstarNoDefault : ∀ sp, starParam ps = some sp → sp.default = none)
    (args args' : List Arg) (kw kw' : KwArgs)
    (hval : ∀ p ∈ ps, p.hidden = false → p.isStar = false → p.isStarStar = false →
      effective ps p args kw = effective ps p args' kw')
    (hstar : args.drop (visCount ps) = args'.drop (visCount ps))
    (hextra : extraKw ps kw = extraKw ps kw') (hclash : noClash ps args kw = noClash ps args' kw')
    (hcl : slotsClaimed ps args kw = true) (hcl' : slotsClaimed ps args' kw' = true)
    (h : (getDelegate L ps args kw).isSome = true) :
    (mapArgs L ps args kw).isSome = true ∧ (mapArgs L ps args' kw').isSome = true :=
  ⟨mapArgs_of_getDelegate L ps hwf hstarNoDefault args kw hcl h,
   mapArgs_of_getDelegate L ps hwf hstarNoDefault args' kw' hcl'
     (spelling_equiv L ps hwf args args' kw kw' hval hstar hextra hclash ▸ h)⟩

namespace Ex12
def c6 : Arg := .const (.obj 6 [] 2) .num none 0
def pstar : Param := { key := .star, name := ['r'], alias := none, position := some 1, default := some (.value .none),
                       ty := .py (.one 0) false [] }
end Ex12

open Ex12 in
/-- `map_args` alone is NOT spelling-invariant (the real `map_args` agrees with the model on both witnesses):
    (1) it checks the arguments in the slots and `**`'s share, but not the keywords that named parameters
    take: a constant of the wrong class is rejected in the slot and accepted by keyword (`get_delegate`
    rejects both);
    (2) an empty slot whose parameter comes by keyword is never entered: `f(x, <empty>, b => d)` is rejected
    by `map_args` although `get_delegate` alone binds it; `f(x, b => d)` and `f(x, d)` pass -/
theorem mapArgs_not_spelling_invariant :
    ((mapArgs C05.Ex.lat [pa] [c6] []).isSome = false ∧ (mapArgs C05.Ex.lat [pa] [] [(['a'], c6)]).isSome = true ∧
      effective [pa] pa [c6] [] = effective [pa] pa [] [(['a'], c6)] ∧
      getDelegate C05.Ex.lat [pa] [c6] [] = none ∧ getDelegate C05.Ex.lat [pa] [] [(['a'], c6)] = none) ∧
    ((mapArgs C05.Ex.lat psab [v', .noValue] [(['b'], v)]).isSome = false ∧
      slotsClaimed psab [v', .noValue] [(['b'], v)] = false ∧
      (getDelegate C05.Ex.lat psab [v', .noValue] [(['b'], v)]).isSome = true ∧
      getDelegate C05.Ex.lat psab [v', .noValue] [(['b'], v)] = getDelegate C05.Ex.lat psab [v', v] [] ∧
      (mapArgs C05.Ex.lat psab [v'] [(['b'], v)]).isSome = true ∧ (mapArgs C05.Ex.lat psab [v', v] []).isSome = true) := by
  decide +kernel

open Ex12 in
/-- what (1) does to the choice of an overload: `P(x: Lambda)`, `Q(x: String)`; `f(1)` is answered by `P`
    (`map_args` drops `Q` before the laziness comparison), `f(x => 1)` is Ambiguous (`Q` stays in).  The real
    resolver does the same (notes/C12.md) -/
example :
    (resolve C05.Ex.lat C05.Ex.famPQ { receiver := none, args := [c6], kwargs := [] }).res =
      .ok (0, { pos := [some (.arg c6)], extra := [], kw := [] }) ∧
    (resolve C05.Ex.lat C05.Ex.famPQ { receiver := none, args := [], kwargs := [(['x'], c6)] }).res =
      .error .ambiguous := by
  decide +kernel

open Ex12 in
/-- the guards of `mapArgs_of_getDelegate` are needed and satisfiable: (2) above for `slotsClaimed`; a `*`
    parameter with a default and an empty slot in its share for the other (`map_args` checks the default,
    `get_delegate` the NO_VALUE marker); every spelling of the non-vacuity example of `spelling_equiv`
    satisfies both and passes `map_args` -/
example :
    (wfDef [pa, pstar] = true ∧ slotsClaimed [pa, pstar] [v, .noValue] [] = true ∧
      (getDelegate C05.Ex.lat [pa, pstar] [v, .noValue] []).isSome = true ∧
      (mapArgs C05.Ex.lat [pa, pstar] [v, .noValue] []).isSome = false) ∧
    ([([v'], []), ([v', v], []), ([v', .noValue], []), ([], [(['b'], v), (['a'], v')]), ([], [(['a'], v')]),
      ([v'], [(['b'], v)])] : List (List Arg × KwArgs)).all (fun sp =>
        slotsClaimed psab sp.1 sp.2 && (mapArgs C05.Ex.lat psab sp.1 sp.2).isSome) = true := by
  decide +kernel

/-- hypotheses of the two move theorems are satisfiable: `f(a, ctx, b = d)` with a hidden parameter
    in the middle, `b` moved to a keyword / left to its default -/
example :
    let pa : Param := C05.Ex.pos 'a' 0 (C05.Ex.cls 4)
    let ph : Param := { C05.Ex.pos 'h' 1 (.hidden .context) with }
    let pb : Param := { C05.Ex.pos 'b' 2 (C05.Ex.cls 1) with default := some (.value C05.Ex.dVal) }
    let ps := [pa, ph, pb]
    slotOf ps pb = some 1 ∧ visCount ps = 2 ∧
    getDelegate C05.Ex.lat ps [C05.Ex.tick 1] [(['b'], .value C05.Ex.dVal)] =
      getDelegate C05.Ex.lat ps [C05.Ex.tick 1, .value C05.Ex.dVal] [] ∧
    getDelegate C05.Ex.lat ps [C05.Ex.tick 1] [] = getDelegate C05.Ex.lat ps [C05.Ex.tick 1, .value C05.Ex.dVal] [] ∧
    (getDelegate C05.Ex.lat ps [C05.Ex.tick 1] []).isSome = true := by
  decide +kernel

end Yaql.Props.C12
