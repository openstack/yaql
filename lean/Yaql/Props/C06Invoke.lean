import Yaql.Props.C06
import Yaql.Model.Invoke
/-!
C06 over the phase after winner selection (argument conversion, payload call).

* `callFinal_perm_invariant` - evaluation log and FINAL outcome (payload that ran / the chosen overload's conversion
  failure / resolution error) do not depend on the enumeration order of any layer, for every class graph, family,
  call and every conversion behaviour;
* `conversion_failure_is_final` - when the chosen overload's conversion fails, that IS the outcome, whatever else
  matched;
* the contrasting design `chooseFallback` (after a conversion failure of the winner the layer's other matches are
  tried in enumeration order) is order dependent: `Ex.fallback_order_dependent`.
-/
namespace Yaql.Props.C06Invoke
open Yaql.Types Yaql.Resolve Yaql.Props.C05 Yaql.Props.C06

/-- **C06 including conversion**: same log, same final outcome for every layer-wise permutation -/
theorem callFinal_perm_invariant (L : Lattice) (conv : Conv) (c : Call) (ls ls' : List Layer)
    (h : LayersPerm ls ls') : callFinal L conv ls' c = callFinal L conv ls c := by
  simp only [callFinal, perm_invariant L c ls ls' h]

/-- a conversion failure of the chosen overload is the outcome of the call -/
theorem conversion_failure_is_final (L : Lattice) (conv : Conv) (ls : List Layer) (c : Call) (i : Nat) (b : Bound)
    (hr : (resolve L ls c).res = .ok (i, b)) (hc : conv i b = false) :
    (callFinal L conv ls c).2 = .conversionFailed i := by
  simp [callFinal, invoke, hr, hc]

/-- and it is the same failure in every enumeration order -/
theorem conversion_failure_every_order (L : Lattice) (conv : Conv) (ls ls' : List Layer) (c : Call) (i : Nat)
    (b : Bound) (h : LayersPerm ls ls') (hr : (resolve L ls c).res = .ok (i, b)) (hc : conv i b = false) :
    (callFinal L conv ls' c).2 = .conversionFailed i := by
  rw [callFinal_perm_invariant L conv c ls ls' h]
  exact conversion_failure_is_final L conv ls c i b hr hc

/-! ## the contrasting design -/

/-- the selection over the matches of the deciding layer, followed by the invocation -/
def chooseFinal (L : Lattice) (conv : Conv) (ms : List Match) : Final :=
  match choose L ms with
  | .error e => .error e
  | .ok (i, b) => if conv i b then .ran i b else .conversionFailed i

/-- with a fallback: when the winner's conversion fails, the other matches get their turn in the order the
    layer enumerated them -/
def chooseFallback (L : Lattice) (conv : Conv) (ms : List Match) : Final :=
  match choose L ms with
  | .error e => .error e
  | .ok (i, b) =>
      if conv i b then .ran i b
      else match (ms.filter fun m => m.cand.fd.id != i).find? (fun m => conv m.cand.fd.id m.bound) with
        | some m => .ran m.cand.fd.id m.bound
        | none => .conversionFailed i

theorem chooseFinal_perm (L : Lattice) (conv : Conv) {ms ms' : List Match} (h : ms.Perm ms') :
    chooseFinal L conv ms = chooseFinal L conv ms' := by
  simp only [chooseFinal, choose_perm L h]

namespace Ex
open Yaql.Props.C06.Ex

/-- the conversion of overload 0 (`A(D, D)`, the winner over `B(L, Base)` and `C(Base, R)`) turns the value down -/
def convA : Conv := fun i _ => i != 0

/-- the real selection: the winner's conversion failure in every order; the fallback: `B` or `C` by order -/
theorem fallback_order_dependent :
    (∀ ms, ms.Perm [mA, mB, mC] → chooseFinal C05.Ex.lat convA ms = .conversionFailed 0) ∧
    chooseFallback C05.Ex.lat convA [mA, mB, mC] = .ran 1 mB.bound ∧
    chooseFallback C05.Ex.lat convA [mA, mC, mB] = .ran 2 mC.bound ∧
    chooseFallback C05.Ex.lat convA [mC, mB, mA] = .ran 2 mC.bound := by
  refine ⟨fun ms h => ?_, by decide +kernel, by decide +kernel, by decide +kernel⟩
  rw [chooseFinal_perm _ _ h]
  decide +kernel

/-- through the whole model: `f($x, $x)` on the one-below-two family, conversion of the winner failing -/
example : (callFinal C05.Ex.lat convA C05.Ex.famABC C05.Ex.callXX) = ([1, 2], .conversionFailed 0) ∧
    (callFinal C05.Ex.lat convA [{ fns := (C05.Ex.famABC.head!).fns.reverse, exclusive := false }] C05.Ex.callXX)
      = ([1, 2], .conversionFailed 0) ∧
    (callFinal C05.Ex.lat (fun _ _ => true) C05.Ex.famABC C05.Ex.callXX).2 =
      .ran 0 { pos := [some (.arg (.value C05.Ex.dVal)), some (.arg (.value C05.Ex.dVal))], extra := [], kw := [] } := by
  decide +kernel

end Ex

end Yaql.Props.C06Invoke
