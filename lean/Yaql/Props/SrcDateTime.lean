import Yaql.Gen.SrcDateTime
/-!
Equivalence of the operator payloads translated from the CURRENT source of `yaql/standard_library/date_time.py`
(`Yaql.Gen.SrcDateTime`, regenerated on every run by harness/py2lean.py) with the hand-written model
`Yaql.DateTime` of C20 - for all inputs.  Each payload is one Python operator application; the theorems fix WHICH
operator on WHICH operands in WHICH order (`PyDt.liftErr` embeds the model's error classes).
-/
namespace Yaql.Props.SrcDateTime
open Yaql Yaql.DateTime Yaql.Gen

theorem datetime_plus_timespan_src_eq (left : DT) (right : PyDt.TS) :
    SrcDateTime.datetime_plus_timespan left right
      = PyDt.liftErr (DateTime.pyAddTd left right) := rfl

theorem timespan_plus_datetime_src_eq (left : PyDt.TS) (right : DT) :
    SrcDateTime.timespan_plus_datetime left right
      = PyDt.liftErr (DateTime.pyAddTd right left) := rfl

theorem datetime_minus_timespan_src_eq (dt : DT) (ts : PyDt.TS) :
    SrcDateTime.datetime_minus_timespan dt ts
      = PyDt.liftErr (DateTime.pyAddTd dt (-ts)) := rfl

theorem datetime_minus_datetime_src_eq (dt1 : DT) (dt2 : DT) :
    SrcDateTime.datetime_minus_datetime dt1 dt2
      = PyDt.liftErr (DateTime.pySubDt dt1 dt2) := rfl

theorem timespan_plus_timespan_src_eq (ts1 : PyDt.TS) (ts2 : PyDt.TS) :
    SrcDateTime.timespan_plus_timespan ts1 ts2
      = PyDt.liftErr (DateTime.tsAdd ts1 ts2) := rfl

theorem timespan_minus_timespan_src_eq (ts1 : PyDt.TS) (ts2 : PyDt.TS) :
    SrcDateTime.timespan_minus_timespan ts1 ts2
      = PyDt.liftErr (DateTime.tsSub ts1 ts2) := rfl

theorem negative_timespan_src_eq (ts : PyDt.TS) :
    SrcDateTime.negative_timespan ts
      = PyDt.liftErr (DateTime.tsNeg ts) := rfl

theorem positive_timespan_src_eq (ts : PyDt.TS) :
    SrcDateTime.positive_timespan ts
      = PyDt.liftErr (DateTime.tsPos ts) := rfl

theorem datetime_eq_datetime_src_eq (dt1 : DT) (dt2 : DT) :
    SrcDateTime.datetime_eq_datetime dt1 dt2
      = PyDt.liftErr (DateTime.pyCmp .eq dt1 dt2) := rfl

theorem datetime_neq_datetime_src_eq (dt1 : DT) (dt2 : DT) :
    SrcDateTime.datetime_neq_datetime dt1 dt2
      = PyDt.liftErr (DateTime.pyCmp .ne dt1 dt2) := rfl

theorem datetime_gt_datetime_src_eq (dt1 : DT) (dt2 : DT) :
    SrcDateTime.datetime_gt_datetime dt1 dt2
      = PyDt.liftErr (DateTime.pyCmp .gt dt1 dt2) := rfl

theorem datetime_gte_datetime_src_eq (dt1 : DT) (dt2 : DT) :
    SrcDateTime.datetime_gte_datetime dt1 dt2
      = PyDt.liftErr (DateTime.pyCmp .ge dt1 dt2) := rfl

theorem datetime_lt_datetime_src_eq (dt1 : DT) (dt2 : DT) :
    SrcDateTime.datetime_lt_datetime dt1 dt2
      = PyDt.liftErr (DateTime.pyCmp .lt dt1 dt2) := rfl

theorem datetime_lte_datetime_src_eq (dt1 : DT) (dt2 : DT) :
    SrcDateTime.datetime_lte_datetime dt1 dt2
      = PyDt.liftErr (DateTime.pyCmp .le dt1 dt2) := rfl

theorem timespan_gt_timespan_src_eq (ts1 : PyDt.TS) (ts2 : PyDt.TS) :
    SrcDateTime.timespan_gt_timespan ts1 ts2
      = DateTime.tsCmp .gt ts1 ts2 := rfl

theorem timespan_gte_timespan_src_eq (ts1 : PyDt.TS) (ts2 : PyDt.TS) :
    SrcDateTime.timespan_gte_timespan ts1 ts2
      = DateTime.tsCmp .ge ts1 ts2 := rfl

theorem timespan_lt_timespan_src_eq (ts1 : PyDt.TS) (ts2 : PyDt.TS) :
    SrcDateTime.timespan_lt_timespan ts1 ts2
      = DateTime.tsCmp .lt ts1 ts2 := rfl

theorem timespan_lte_timespan_src_eq (ts1 : PyDt.TS) (ts2 : PyDt.TS) :
    SrcDateTime.timespan_lte_timespan ts1 ts2
      = DateTime.tsCmp .le ts1 ts2 := rfl

end Yaql.Props.SrcDateTime
