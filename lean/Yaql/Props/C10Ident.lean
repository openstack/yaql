import Yaql.Model.ConvertMemo
import Yaql.Props.C09
/-!
# C10 - the round trip does not depend on the addresses of the host's objects

`convert_input_data` is a function of the content of the host document (`convIn_identity_free`).  A
converter with an `id()`-keyed memo is correct exactly as far as addresses identify objects
(`memo_sound`), which they do not for lazily built documents (`memo_breaks_transient_items`).
-/
namespace Yaql.Props.C10
open Yaql Yaql.Convert

/-- the value `$` is bound to has the content `convIn` of the document's content, whatever identities the
    host's objects have - equal, different, or REUSED between objects that are not alive at the same time -/
theorem convIn_identity_free (n m : Nat) (x y : Obj) (h : erase x = erase y) :
    erase (convInI n x).1 = erase (convInI m y).1 := by
  rw [Yaql.Props.C09.convInI_erase, Yaql.Props.C09.convInI_erase, h]

theorem find_cons_ne {m : Memo} {i id : Nat} {r : Py} (h : i ≠ id) : Memo.find ((i, r) :: m) id = Memo.find m id := by
  simp [Memo.find, h]

theorem MemoOK.cons {c : Nat → Option Py} {m : Memo} {id : Nat} {p : Py} (hm : MemoOK c m) (hc : c id = some p) :
    MemoOK c ((id, convIn p) :: m) := by
  intro i r hf
  by_cases h : id = i
  · subst h
    simp [Memo.find] at hf
    exact ⟨p, hc, hf.symm⟩
  · rw [find_cons_ne h] at hf
    exact hm i r hf

theorem MemoOK.hit {c : Nat → Option Py} {m : Memo} {id : Nat} {p r : Py} (hm : MemoOK c m)
    (hf : m.find id = some r) (hc : c id = some p) : r = convIn p := by
  obtain ⟨q, hq, hr⟩ := hm id r hf
  rw [hc] at hq
  cases hq
  exact hr

mutual
/-- **a memo keyed by address is sound for documents whose objects are all alive**: if every address of the
    document stands for one content (`Respects c x`) and the memo so far is right about `c`, the memoising
    converter returns `convIn` of the content and leaves a memo that is right about `c` -/
theorem memo_sound (c : Nat → Option Py) : ∀ (x : Obj) (m : Memo), Respects c x → MemoOK c m →
    (convMemo m x).1 = convIn (erase x) ∧ MemoOK c (convMemo m x).2
  | .sc s, m, _, hm => by simp [convMemo, erase, convIn, hm]
  | .seq id k l, m, hx, hm => by
    rw [Respects] at hx
    rw [convMemo]
    obtain ⟨h1, h2⟩ := memo_soundL c l m hx.2 hm
    have e : Py.seq (inKind k) (convMemoL m l).1 = convIn (erase (.seq id k l)) := by simp [erase, convIn, h1]
    split
    · split
      · exact ⟨MemoOK.hit hm ‹_› (hx.1 ‹_›), hm⟩
      · refine ⟨e, ?_⟩
        simp only
        rw [e]
        exact MemoOK.cons h2 (hx.1 ‹_›)
    · exact ⟨e, h2⟩
  | .map id k kvs, m, hx, hm => by
    rw [Respects] at hx
    rw [convMemo]
    obtain ⟨h1, h2⟩ := memo_soundP c kvs m hx.2 hm
    have e : Py.map .fdict (convMemoP m kvs).1 = convIn (erase (.map id k kvs)) := by simp [erase, convIn, h1]
    split
    · exact ⟨MemoOK.hit hm ‹_› hx.1, hm⟩
    · refine ⟨e, ?_⟩
      simp only
      rw [e]
      exact MemoOK.cons h2 hx.1
  | .lazyMap id src l, m, hx, hm => by
    rw [Respects] at hx
    rw [convMemo]
    obtain ⟨h1, h2⟩ := memo_soundL c l m hx hm
    exact ⟨by simp [erase, convIn, inKind, h1], h2⟩
theorem memo_soundL (c : Nat → Option Py) : ∀ (l : List Obj) (m : Memo), RespectsL c l → MemoOK c m →
    (convMemoL m l).1 = convInL (eraseL l) ∧ MemoOK c (convMemoL m l).2
  | [], m, _, hm => by simp [convMemoL, eraseL, convInL, hm]
  | x :: xs, m, hx, hm => by
    rw [RespectsL] at hx
    rw [convMemoL]
    obtain ⟨h1, h2⟩ := memo_sound c x m hx.1 hm
    obtain ⟨h3, h4⟩ := memo_soundL c xs _ hx.2 h2
    exact ⟨by simp [eraseL, convInL, h1, h3], h4⟩
theorem memo_soundP (c : Nat → Option Py) : ∀ (l : List (Obj × Obj)) (m : Memo), RespectsP c l → MemoOK c m →
    (convMemoP m l).1 = convInP (eraseP l) ∧ MemoOK c (convMemoP m l).2
  | [], m, _, hm => by simp [convMemoP, eraseP, convInP, hm]
  | (k, v) :: r, m, hx, hm => by
    rw [RespectsP] at hx
    rw [convMemoP]
    obtain ⟨h1, h2⟩ := memo_sound c k m hx.1 hm
    obtain ⟨h3, h4⟩ := memo_sound c v _ hx.2.1 h2
    obtain ⟨h5, h6⟩ := memo_soundP c r _ hx.2.2 h4
    exact ⟨by simp [eraseP, convInP, h1, h3, h5], h6⟩
end

/-- ... in particular from the empty memo: a finished document converts as `convIn` says -/
theorem memo_sound_empty (c : Nat → Option Py) (x : Obj) (hx : Respects c x) : (convMemo [] x).1 = convIn (erase x) :=
  (memo_sound c x [] hx (fun _ _ h => by simp [Memo.find] at h)).1

/-- **a memo keyed by address breaks the round trip of lazily built documents**: a generator that builds a
    record per item - each record dies when the converter drops it, the next one is allocated at the same
    address 7 - comes out as copies of the FIRST record; `convIn` (what the real converter computes) keeps
    them apart. -/
theorem memo_breaks_transient_items :
    let doc : Obj := .seq 1 .iter [.map 7 .dict [(.sc (.str ['i', 'd']), .sc (.int 1))],
                                   .map 7 .dict [(.sc (.str ['i', 'd']), .sc (.int 2))]]
    (convMemo [] doc).1 = .seq .iter [.map .fdict [(.sc (.str ['i', 'd']), .sc (.int 1))],
                                      .map .fdict [(.sc (.str ['i', 'd']), .sc (.int 1))]] ∧
    convIn (erase doc) = .seq .iter [.map .fdict [(.sc (.str ['i', 'd']), .sc (.int 1))],
                                     .map .fdict [(.sc (.str ['i', 'd']), .sc (.int 2))]] ∧
    erase (convInI 100 doc).1 = convIn (erase doc) := by
  refine ⟨rfl, rfl, ?_⟩
  exact Yaql.Props.C09.convInI_erase _ _

-- the same for `zip('ab', [[1], [2]])`: the pairs are fresh tuples at one address
example : (convMemo [] (.seq 1 .iter [.seq 9 .tuple [.sc (.str ['a']), .seq 3 .list [.sc (.int 1)]],
                                        .seq 9 .tuple [.sc (.str ['b']), .seq 4 .list [.sc (.int 2)]]])).1 =
    .seq .iter [.seq .tuple [.sc (.str ['a']), .seq .tuple [.sc (.int 1)]],
                .seq .tuple [.sc (.str ['a']), .seq .tuple [.sc (.int 1)]]] := rfl

-- memo_sound is not vacuous: a finished document in which ONE sub-document is referenced twice (a DAG) respects
-- the address map that sends 5 to that sub-document, and the memoising converter is right about it
example : Respects (fun id => if id = 5 then some (.seq .list [.sc (.int 1)]) else if id = 1 then
      some (.seq .list [.seq .list [.sc (.int 1)], .seq .list [.sc (.int 1)]]) else none)
    (.seq 1 .list [.seq 5 .list [.sc (.int 1)], .seq 5 .list [.sc (.int 1)]]) := by
  simp [Respects, RespectsL, eraseL, erase, memoKind]

end Yaql.Props.C10
