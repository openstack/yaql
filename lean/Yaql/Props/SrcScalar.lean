import Yaql.Gen.SrcScalar
import Yaql.Lemmas.PyPrelude
import Yaql.Props.C15
/-!
Equivalence of the definitions translated from the CURRENT source of `yaql/standard_library/math.py`,
`common.py`, `boolean.py` and the string comparisons of `strings.py` (`Yaql.Gen.SrcScalar`, regenerated on every run
by harness/py2lean.py) with the payload table `Yaql.Scalar.run` of the hand-written scalar model - for all inputs.
`PyNum.liftErr` embeds the error classes of the scalar model into the translator's error enum; `PyNum.boolOf` /
`PyNum.valOf` read the Bool / the value out of a successful outcome (the payloads concerned never fail on operands
of their kinds).
-/
namespace Yaql.Props.SrcScalar
open Yaql Yaql.Scalar Yaql.Gen

/-- the two string orders of the models agree -/
theorem ltStr_eq_strLt (a b : List Char) : Strings.ltStr a b = Scalar.strLt a b := by
  induction a generalizing b with
  | nil => cases b <;> simp [Strings.ltStr, Scalar.strLt]
  | cons x xs ih =>
    cases b with
    | nil => simp [Strings.ltStr, Scalar.strLt]
    | cons y ys => simp [Strings.ltStr, Scalar.strLt, ih]

theorem binary_plus_src_eq (F : FloatOps) (left : Num) (right : Num) :
    SrcScalar.binary_plus F left right
      = PyNum.liftErr (Scalar.run F 0 .mathPlus [left.toSVal, right.toSVal]) := by
  exact congrArg PyNum.liftErr (Props.C15.numArith_toSVal F .add left right).symm

theorem binary_minus_src_eq (F : FloatOps) (left : Num) (right : Num) :
    SrcScalar.binary_minus F left right
      = PyNum.liftErr (Scalar.run F 0 .mathMinus [left.toSVal, right.toSVal]) := by
  exact congrArg PyNum.liftErr (Props.C15.numArith_toSVal F .sub left right).symm

theorem multiplication_src_eq (F : FloatOps) (left : Num) (right : Num) :
    SrcScalar.multiplication F left right
      = PyNum.liftErr (Scalar.run F 0 .mathMul [left.toSVal, right.toSVal]) := by
  exact congrArg PyNum.liftErr (Props.C15.numArith_toSVal F .mul left right).symm

/-- true division is the float branch of the model's `/` -/
theorem truediv_eq (F : FloatOps) {a b : Num} (hf : (Props.C15.isFltN a || Props.C15.isFltN b) = true) :
    PyNum.truediv F a b = PyNum.liftErr (Scalar.arith F .div a b) := by
  rw [Props.C15.arith_float F .div hf]
  unfold PyNum.truediv
  cases a.toF with
  | error e => rfl
  | ok fa =>
    cases b.toF with
    | error e => rfl
    | ok fb => rfl

theorem division_src_eq (F : FloatOps) (left : Num) (right : Num) :
    SrcScalar.division F left right
      = PyNum.liftErr (Scalar.run F 0 .mathDiv [left.toSVal, right.toSVal]) := by
  show _ = PyNum.liftErr (Scalar.numArith F .div left.toSVal right.toSVal)
  rw [Props.C15.numArith_toSVal]
  cases left with
  | flt w => exact truediv_eq F (a := .flt w) (b := right) rfl
  | int a =>
    cases right with
    | flt w => exact truediv_eq F (a := .int a) (b := .flt w) rfl
    | int b =>
      simp only [SrcScalar.division, Py.floordiv?, Scalar.arith]
      by_cases h : b = 0
      · rw [if_pos h, if_pos h]; rfl
      · rw [if_neg h, if_neg h]; rfl

theorem modulo_src_eq (F : FloatOps) (left : Num) (right : Num) :
    SrcScalar.modulo F left right
      = PyNum.liftErr (Scalar.run F 0 .mathMod [left.toSVal, right.toSVal]) := by
  exact congrArg PyNum.liftErr (Props.C15.numArith_toSVal F .mod left right).symm

theorem unary_minus_src_eq (F : FloatOps) (op : Num) :
    SrcScalar.unary_minus F op
      = PyNum.valOf (Scalar.run F 0 .mathUMinus [op.toSVal]) := by
  cases op <;> rfl

theorem unary_plus_src_eq (F : FloatOps) (op : Num) :
    SrcScalar.unary_plus F op
      = PyNum.valOf (Scalar.run F 0 .mathUPlus [op.toSVal]) := by
  cases op <;> rfl

theorem gt_src_eq (F : FloatOps) (left : Num) (right : Num) :
    SrcScalar.gt F left right
      = PyNum.boolOf (Scalar.run F 0 .mathGt [left.toSVal, right.toSVal]) := by
  cases left <;> cases right <;> rfl

theorem gte_src_eq (F : FloatOps) (left : Num) (right : Num) :
    SrcScalar.gte F left right
      = PyNum.boolOf (Scalar.run F 0 .mathGte [left.toSVal, right.toSVal]) := by
  cases left <;> cases right <;> rfl

theorem lt_src_eq (F : FloatOps) (left : Num) (right : Num) :
    SrcScalar.lt F left right
      = PyNum.boolOf (Scalar.run F 0 .mathLt [left.toSVal, right.toSVal]) := by
  cases left <;> cases right <;> rfl

theorem lte_src_eq (F : FloatOps) (left : Num) (right : Num) :
    SrcScalar.lte F left right
      = PyNum.boolOf (Scalar.run F 0 .mathLte [left.toSVal, right.toSVal]) := by
  cases left <;> cases right <;> rfl

theorem str_gt_src_eq (F : FloatOps) (left : List Char) (right : List Char) :
    SrcScalar.str_gt F left right
      = PyNum.boolOf (Scalar.run F 0 .strGt [.str left, .str right]) := ltStr_eq_strLt right left

theorem str_gte_src_eq (F : FloatOps) (left : List Char) (right : List Char) :
    SrcScalar.str_gte F left right
      = PyNum.boolOf (Scalar.run F 0 .strGte [.str left, .str right]) := by
  show (!Strings.ltStr left right) = Scalar.strLe right left
  rw [Props.C15.strLe_eq, ltStr_eq_strLt]

theorem str_lt_src_eq (F : FloatOps) (left : List Char) (right : List Char) :
    SrcScalar.str_lt F left right
      = PyNum.boolOf (Scalar.run F 0 .strLt [.str left, .str right]) := ltStr_eq_strLt left right

theorem str_lte_src_eq (F : FloatOps) (left : List Char) (right : List Char) :
    SrcScalar.str_lte F left right
      = PyNum.boolOf (Scalar.run F 0 .strLte [.str left, .str right]) := by
  show (!Strings.ltStr right left) = Scalar.strLe left right
  rw [Props.C15.strLe_eq, ltStr_eq_strLt]

theorem eq_src_eq (F : FloatOps) (left : SVal) (right : SVal) :
    SrcScalar.eq F left right
      = PyNum.boolOf (Scalar.run F 0 .eq [left, right]) := rfl

theorem neq_src_eq (F : FloatOps) (left : SVal) (right : SVal) :
    SrcScalar.neq F left right
      = PyNum.boolOf (Scalar.run F 0 .neq [left, right]) := rfl

theorem left_lt_null_src_eq (F : FloatOps) (left : SVal) (right : SVal) :
    SrcScalar.left_lt_null F left right
      = PyNum.boolOf (Scalar.run F 0 .leftLtNull [left, right]) := rfl

theorem left_lte_null_src_eq (F : FloatOps) (left : SVal) (right : SVal) :
    SrcScalar.left_lte_null F left right
      = PyNum.boolOf (Scalar.run F 0 .leftLteNull [left, right]) := rfl

theorem left_gt_null_src_eq (F : FloatOps) (left : SVal) (right : SVal) :
    SrcScalar.left_gt_null F left right
      = PyNum.boolOf (Scalar.run F 0 .leftGtNull [left, right]) := rfl

theorem left_gte_null_src_eq (F : FloatOps) (left : SVal) (right : SVal) :
    SrcScalar.left_gte_null F left right
      = PyNum.boolOf (Scalar.run F 0 .leftGteNull [left, right]) := rfl

theorem null_lt_right_src_eq (F : FloatOps) (left : SVal) (right : SVal) :
    SrcScalar.null_lt_right F left right
      = PyNum.boolOf (Scalar.run F 0 .nullLtRight [left, right]) := rfl

theorem null_lte_right_src_eq (F : FloatOps) (left : SVal) (right : SVal) :
    SrcScalar.null_lte_right F left right
      = PyNum.boolOf (Scalar.run F 0 .nullLteRight [left, right]) := rfl

theorem null_gt_right_src_eq (F : FloatOps) (left : SVal) (right : SVal) :
    SrcScalar.null_gt_right F left right
      = PyNum.boolOf (Scalar.run F 0 .nullGtRight [left, right]) := rfl

theorem null_gte_right_src_eq (F : FloatOps) (left : SVal) (right : SVal) :
    SrcScalar.null_gte_right F left right
      = PyNum.boolOf (Scalar.run F 0 .nullGteRight [left, right]) := rfl

theorem null_lt_null_src_eq (F : FloatOps) (left : SVal) (right : SVal) :
    SrcScalar.null_lt_null F left right
      = PyNum.boolOf (Scalar.run F 0 .nullLtNull [left, right]) := rfl

theorem null_lte_null_src_eq (F : FloatOps) (left : SVal) (right : SVal) :
    SrcScalar.null_lte_null F left right
      = PyNum.boolOf (Scalar.run F 0 .nullLteNull [left, right]) := rfl

theorem null_gt_null_src_eq (F : FloatOps) (left : SVal) (right : SVal) :
    SrcScalar.null_gt_null F left right
      = PyNum.boolOf (Scalar.run F 0 .nullGtNull [left, right]) := rfl

theorem null_gte_null_src_eq (F : FloatOps) (left : SVal) (right : SVal) :
    SrcScalar.null_gte_null F left right
      = PyNum.boolOf (Scalar.run F 0 .nullGteNull [left, right]) := rfl

theorem and_src_eq (F : FloatOps) (left : SVal) (right : SVal) :
    SrcScalar.and_ F left right
      = PyNum.valOf (Scalar.run F 0 .and [left, right]) := rfl

theorem or_src_eq (F : FloatOps) (left : SVal) (right : SVal) :
    SrcScalar.or_ F left right
      = PyNum.valOf (Scalar.run F 0 .or [left, right]) := rfl

theorem not_src_eq (F : FloatOps) (arg : SVal) :
    SrcScalar.not_ F arg
      = PyNum.boolOf (Scalar.run F 0 .not [arg]) := by
  show decide (¬ Scalar.truthy arg = true) = !Scalar.truthy arg
  cases Scalar.truthy arg <;> rfl

end Yaql.Props.SrcScalar
