import Yaql.Model.SharedObjs
import Yaql.Props.C18
/-!
C18 for yaql's stateful objects: the machine `SharedObjs.machine` (FrozenDict hash cache, the
`yaql.eval` module caches, function dispatch, and the three lazy objects OrderingIterable /
GroupAggregator / memorize) as an instance of the generic theorems of `Props/C18.lean`.
-/
namespace Yaql.Props.C18
open Yaql.Sched Yaql.SharedObjs

/-! ## invariants, denotation, measure -/

/-- the shared component is the initial base plus a table all of whose entries are THE value of
    their key -/
def SInv (b0 : Base) (s : Shared) : Prop := s.1 = b0 ∧ Memo.Sound (entry b0) s.2

/-- the locals of an operation in progress are consistent with what the operation computes
    (`hashing`: the accumulator xor the hashes still to come is the dict's hash) and name only
    objects of the evaluation itself -/
def pendOK (b0 : Base) : Option Pend → Prop
  | none => True
  | some (.hashing d acc rest) => (b0.pairs[d]?).isSome ∧ xorFold acc rest = entry b0 (.hash d)
  | some (.pulling r _) => r.isOwn = true
  | some (.evalMkCtx t e) => e = entry b0 (.expr t)
  | some (.evalMkEngine _) => True
  | some (.evalParse _) => True
  | some (.calling _ _) => True
  | some (.hashingShared _ _ _) => False
  | some (.callingParked _) => False

/-- **the condition under which the lazy objects are private**: every operation of the program
    dereferences only objects the evaluation created itself (`Ref.own`), i.e. no OrderingIterable,
    GroupAggregator or memorized iterator is reached through the shared context -/
def PInv (b0 : Base) (p : PState) : Prop :=
  (∀ op ∈ p.prog, op.ownOnly = true) ∧ pendOK b0 p.pend

def opCost (b0 : Base) : Op → Nat
  | .hash d => ((b0.pairs[d]?).getD []).length + 2
  | .evalCached _ => 4
  | .call _ _ => 2
  | .memoNext _ _ => 2
  | _ => 1

def progCost (b0 : Base) : List Op → Nat
  | [] => 0
  | op :: rest => opCost b0 op + progCost b0 rest

def pendCost : Option Pend → Nat
  | none => 0
  | some (.hashing _ _ rest) => rest.length + 1
  | some (.evalMkEngine _) => 3
  | some (.evalParse _) => 2
  | some _ => 1

def μ (b0 : Base) (p : PState) : Nat := progCost b0 p.prog + pendCost p.pend + 1

theorem cacheGet_sound (b0 : Base) (c : Cache) (k : CKey) (v : Int)
    (hc : Memo.Sound (entry b0) c) (h : cacheGet c k = some v) : v = entry b0 k := by
  induction c with
  | nil => cases h
  | cons kv rest ih =>
      unfold cacheGet at h
      split at h
      · next hk => exact hk ▸ Option.some.inj h ▸ hc kv List.mem_cons_self
      · exact ih (fun kv hkv => hc kv (List.mem_cons_of_mem _ hkv)) h

theorem cacheGet_publish (s : Shared) (k : CKey) (v : Int) :
    cacheGet (publish s k v).2 k = some v :=
  if_pos rfl

theorem SInv_publish (b0 : Base) (s : Shared) (k : CKey) (hs : SInv b0 s) :
    SInv b0 (publish s k (entry b0 k)) :=
  ⟨hs.1, hs.2.cons k⟩

def Pub (b0 : Base) (s s' : Shared) : Prop := s' = s ∨ ∃ k, s' = publish s k (entry b0 k)

theorem Pub.sinv {b0 : Base} {s s' : Shared} (h : Pub b0 s s') (hs : SInv b0 s) : SInv b0 s' := by
  rcases h with rfl | ⟨k, rfl⟩
  · exact hs
  · exact SInv_publish b0 s k hs

/-- what a step from the shared component `s0` must establish about its result `x`, for a thread
    `p0` whose operation in progress yields the heap and outputs `y` in at most `n` more steps: at
    most one publication, the rest of the program untouched, consistent locals, the denotation of
    `p0` after that operation, and an operation in progress that needs fewer than `n` more steps -/
structure Good (b0 : Base) (s0 : Shared) (p0 : PState) (y : List Obj × List Out) (n : Nat)
    (x : Shared × PState) : Prop where
  pub : Pub b0 s0 x.1
  prog : x.2.prog = p0.prog
  ok : pendOK b0 x.2.pend
  den : den b0 x.2 = p0.outs ++ (y.2 ++ evalProg b0 p0.ctxId y.1 p0.prog)
  cost : pendCost x.2.pend < n

variable {b0 : Base} {s0 s : Shared} {p0 : PState} {n : Nat}

theorem Good.emit (hpub : Pub b0 s0 s) (o : Out) (hn : 0 < n) : Good b0 s0 p0 (p0.heap, [o]) n (s, emit p0 o) :=
  ⟨hpub, rfl, trivial, List.append_assoc .., hn⟩

theorem Good.pend (hpub : Pub b0 s0 s) (pd : Pend)
    (hok : pendOK b0 (some pd)) (hn : pendCost (some pd) < n) :
    Good b0 s0 p0 (finishPend b0 p0.heap pd) n (s, { p0 with pend := some pd }) :=
  ⟨hpub, rfl, hok, rfl, hn⟩

theorem applyL_fst (s : Shared) (p0 : PState) (res : LRes) (h : res.sh = s.1.heap) :
    (applyL s p0 res).1 = s := by
  unfold applyL
  rw [h]

theorem Good.step {y : List Obj × List Out} {x : Shared × PState} (g : Good b0 s0 p0 y n x)
    (hprog : ∀ op ∈ p0.prog, op.ownOnly = true) :
    Pub b0 s0 x.1 ∧ PInv b0 x.2 ∧
      SharedObjs.den b0 x.2 = p0.outs ++ (y.2 ++ evalProg b0 p0.ctxId y.1 p0.prog) ∧
      μ b0 x.2 < progCost b0 p0.prog + n + 1 :=
  ⟨g.pub, ⟨g.prog ▸ hprog, g.ok⟩, g.den,
    Nat.add_lt_add_right (g.prog ▸ Nat.add_lt_add_left g.cost _) 1⟩

theorem Good.applyL (res : LRes) (hsh : res.sh = s.1.heap) (hok : pendOK b0 res.pend)
    (hn : pendCost res.pend < n) : Good b0 s p0 (finishL b0 res) n (applyL s p0 res) := by
  refine ⟨Or.inl (applyL_fst s p0 res hsh), rfl, hok, ?_, hn⟩
  obtain ⟨sh, own, outs, pend⟩ := res
  cases pend with
  | none => exact List.append_assoc ..
  | some pd => exact (List.append_assoc ..).trans (congrArg _ (List.append_assoc ..).symm)

/-! ### `yaql.eval`: each segment leaves the shared component as it finds it and ends finished with
the value of the text, or waiting at one of the three miss paths -/

theorem evalFinish_spec (e c : Int) (hs : SInv b0 s) (hpub : Pub b0 s0 s)
    (hc : cacheGet s.2 .defctx = some c) (hn : 0 < n) :
    Good b0 s0 p0 (p0.heap, [.evald e (entry b0 .defctx)]) n (evalFinish s p0 e) := by
  unfold evalFinish
  rw [hc, cacheGet_sound b0 s.2 .defctx c hs.2 hc]
  exact Good.emit hpub _ hn

theorem evalCtx_spec (t : Nat) (hs : SInv b0 s) (hpub : Pub b0 s0 s) (hn : 1 < n) :
    Good b0 s0 p0 (p0.heap, [.evald (entry b0 (.expr t)) (entry b0 .defctx)]) n
      (evalCtx s p0 t (entry b0 (.expr t))) := by
  unfold evalCtx
  cases hc : cacheGet s.2 .defctx with
  | none => exact Good.pend hpub (.evalMkCtx t _) rfl hn
  | some c =>
      exact evalFinish_spec _ c hs hpub hc (Nat.lt_of_succ_lt hn)

theorem evalLookup_spec (t : Nat) (hs : SInv b0 s) (hpub : Pub b0 s0 s) (hn : 2 < n) :
    Good b0 s0 p0 (p0.heap, [.evald (entry b0 (.expr t)) (entry b0 .defctx)]) n
      (evalLookup s p0 t) := by
  unfold evalLookup
  cases hc : cacheGet s.2 (.expr t) with
  | none => exact Good.pend hpub (.evalParse t) trivial hn
  | some e =>
      simp only
      rw [cacheGet_sound b0 s.2 _ e hs.2 hc]
      exact evalCtx_spec t hs hpub (Nat.lt_of_succ_lt hn)

theorem evalStart_spec (t : Nat) (hs : SInv b0 s) (hpub : Pub b0 s0 s) (hn : 3 < n) :
    Good b0 s0 p0 (p0.heap, [.evald (entry b0 (.expr t)) (entry b0 .defctx)]) n
      (evalStart s p0 t) := by
  unfold evalStart
  cases hc : cacheGet s.2 .engine with
  | none => exact Good.pend hpub (.evalMkEngine t) trivial hn
  | some e => exact evalLookup_spec t hs hpub (Nat.lt_of_succ_lt hn)

/-! ### `FrozenDict.__hash__` (the fixed code: accumulate in a local, publish once) -/

theorem emitCached_publish (s : Shared) (p0 : PState) (d : Nat) (v : Int) :
    emitCached (publish s (.hash d) v) p0 d = emit p0 (.val v) := by
  unfold emitCached
  rw [cacheGet_publish]

theorem entry_hash {d : Nat} {ps : List Int} (h : b0.pairs[d]? = some ps) :
    entry b0 (.hash d) = xorFold 0 ps :=
  congrArg (fun o : Option (List Int) => xorFold 0 (o.getD [])) h

theorem hash_publish_good (s : Shared) (p0 : PState) (k : Nat) (v : Int) (hv : v = entry b0 (.hash k)) (hn : 0 < n) :
    Good b0 s p0 (p0.heap, [.val (entry b0 (.hash k))]) n
      (publish s (.hash k) v, emitCached (publish s (.hash k) v) p0 k) := by
  subst hv
  rw [emitCached_publish]
  exact Good.emit (Or.inr ⟨_, rfl⟩) _ hn

theorem hashStart_good (b0 : Base) (s : Shared) (p0 : PState) (k : Nat) (hs : SInv b0 s) :
    Good b0 s p0 (fullOp b0 p0.ctxId p0.heap (.hash k)) (opCost b0 (.hash k))
      (hashStart current s p0 k) := by
  obtain ⟨hb, hsound⟩ := hs
  simp only [fullOp, opCost]
  unfold hashStart
  rw [hb]
  cases hps : b0.pairs[k]? with
  | none => exact Good.emit (Or.inl rfl) _ (Nat.succ_pos _)
  | some ps =>
      simp only
      cases hc : cacheGet s.2 (.hash k) with
      | some h =>
          rw [cacheGet_sound b0 s.2 _ h hsound hc]
          exact Good.emit (Or.inl rfl) _ (Nat.succ_pos _)
      | none =>
          cases ps with
          | nil => exact hash_publish_good s p0 k 0 (entry_hash hps).symm (Nat.succ_pos _)
          | cons x xs =>
              exact Good.pend (Or.inl rfl) (.hashing k 0 (x :: xs))
                ⟨by rw [hps]; rfl, (entry_hash hps).symm⟩ (Nat.lt_succ_self _)

theorem hashing_good (b0 : Base) (s : Shared) (p0 : PState) (k : Nat) (acc : Int) (rest : List Int) (hok : pendOK b0 (some (.hashing k acc rest))) :
    Good b0 s p0 (p0.heap, [.val (entry b0 (.hash k))]) (rest.length + 1)
      (stepPend s p0 (.hashing k acc rest)) := by
  obtain ⟨hsome, hx⟩ := hok
  match rest, hx with
  | [], hx => exact hash_publish_good s p0 k acc hx (Nat.succ_pos _)
  | [x], hx => exact hash_publish_good s p0 k (ixor acc x) hx (Nat.succ_pos _)
  | x :: y :: more, hx =>
      exact Good.pend (Or.inl rfl) (.hashing k (ixor acc x) (y :: more)) ⟨hsome, hx⟩
        (Nat.lt_succ_self _)

/-! ### the lazy objects: operations on objects of the evaluation itself touch nothing shared -/

theorem setObj_own (sh own : List Obj) (i : Nat) (o : Obj) (outs : List Out) :
    (setObj sh own (.own i) o outs).sh = sh ∧ (setObj sh own (.own i) o outs).pend = none :=
  ⟨rfl, rfl⟩

/-- **an operation on an object the evaluation created itself leaves every object stored in the
    shared context as it is** -/
theorem lazyOp_own (ctxId : Nat) (sh own : List Obj) (op : Op) (hown : op.ownOnly = true) :
    (lazyOp ctxId sh own op).sh = sh ∧
    ((lazyOp ctxId sh own op).pend = none ∨
      ∃ i k, op = .memoNext (.own i) k ∧ (lazyOp ctxId sh own op).pend = some (.pulling (.own i) k)) := by
  -- every branch of `lazyOp` hands `sh` back as it got it, or writes through `setObj .. (.own i)`,
  -- which computes to a result with the same `sh` and nothing pending (`setObj_own`)
  cases op with
  | orderBy | memorize | aggNew | hash | evalCached | call => exact ⟨rfl, Or.inl rfl⟩
  | thenBy r | memoIter r | aggCall r =>
      cases r with
      | shared i => cases hown
      | own i =>
          dsimp only [lazyOp]
          split
          · exact ⟨rfl, Or.inl rfl⟩
          · exact ⟨rfl, Or.inl rfl⟩
  | iterate r =>
      cases r with
      | shared i => cases hown
      | own i =>
          dsimp only [lazyOp]
          split
          · split
            · exact ⟨rfl, Or.inl rfl⟩
            · exact ⟨rfl, Or.inl rfl⟩
          · exact ⟨rfl, Or.inl rfl⟩
  | memoNext r k =>
      cases r with
      | shared i => cases hown
      | own i =>
          dsimp only [lazyOp]
          split
          · split
            · exact ⟨rfl, Or.inl rfl⟩
            · split
              · split
                · exact ⟨rfl, Or.inl rfl⟩
                · exact ⟨rfl, Or.inl rfl⟩
              · exact ⟨rfl, Or.inr ⟨i, k, rfl, rfl⟩⟩
          · exact ⟨rfl, Or.inl rfl⟩

theorem pullSeg_own (sh own : List Obj) (i k : Nat) :
    (pullSeg sh own (.own i) k).sh = sh ∧ (pullSeg sh own (.own i) k).pend = none := by
  unfold pullSeg
  split
  · split
    · exact ⟨rfl, rfl⟩
    · exact setObj_own ..
  · exact ⟨rfl, rfl⟩

theorem fullOp_lazy (b0 : Base) (ctxId : Nat) (own : List Obj) (op : Op) (hl : op.isLazy = true) :
    fullOp b0 ctxId own op = finishL b0 (lazyOp ctxId b0.heap own op) := by
  cases op <;> first | rfl | cases hl

theorem stepOp_lazy (s : Shared) (p0 : PState) (op : Op) (hl : op.isLazy = true) :
    stepOp current s p0 op = applyL s p0 (lazyOp p0.ctxId s.1.heap p0.heap op) := by
  cases op <;> first | rfl | cases hl

theorem opCost_pos (b0 : Base) (op : Op) : 0 < opCost b0 op := by
  cases op <;> exact Nat.succ_pos _

/-! ### one step of the machine -/

theorem progCost_cons (b0 : Base) (op : Op) (rest : List Op) :
    progCost b0 (op :: rest) = opCost b0 op + progCost b0 rest := rfl

theorem finishL_none (b0 : Base) {res : LRes} (h : res.pend = none) :
    finishL b0 res = (res.own, res.outs) := by
  unfold finishL
  rw [h]

theorem stepPend_good (b0 : Base) (s : Shared) (p0 : PState) (pd : Pend) (hs : SInv b0 s) (hok : pendOK b0 (some pd)) :
    Good b0 s p0 (finishPend b0 p0.heap pd) (pendCost (some pd)) (stepPend s p0 pd) := by
  have hb : s.1 = b0 := hs.1
  subst hb
  cases pd with
  | hashing k acc rest => exact hashing_good s.1 s p0 k acc rest hok
  | hashingShared | callingParked => exact hok.elim
  | pulling r k =>
      cases r with
      | shared i => cases hok
      | own i =>
          obtain ⟨hsh, hnone⟩ := pullSeg_own s.1.heap p0.heap i k
          have g := Good.applyL (b0 := s.1) (p0 := p0) (n := 1) _ hsh (hnone ▸ trivial)
            (hnone ▸ Nat.lt_succ_self _)
          rw [finishL_none s.1 hnone] at g
          exact g
  | evalMkEngine t =>
      exact evalLookup_spec t (SInv_publish s.1 s .engine hs) (Or.inr ⟨_, rfl⟩) (Nat.lt_succ_self _)
  | evalParse t =>
      exact evalCtx_spec t (SInv_publish s.1 s (.expr t) hs) (Or.inr ⟨_, rfl⟩) (Nat.lt_succ_self _)
  | evalMkCtx t e =>
      exact evalFinish_spec e _ (SInv_publish s.1 s .defctx hs) (Or.inr ⟨_, rfl⟩)
        (cacheGet_publish s .defctx _) (Nat.lt_succ_self _)
  | calling f x => exact Good.emit (Or.inl rfl) _ (Nat.lt_succ_self _)

theorem stepOp_good (b0 : Base) (s : Shared) (p0 : PState) (op : Op) (hs : SInv b0 s) (hown : op.ownOnly = true) :
    Good b0 s p0 (fullOp b0 p0.ctxId p0.heap op) (opCost b0 op) (stepOp current s p0 op) := by
  by_cases hl : op.isLazy = true
  · have hb : s.1 = b0 := hs.1
    subst hb
    rw [stepOp_lazy s p0 op hl, fullOp_lazy s.1 _ _ op hl]
    obtain ⟨hsh, hpend | ⟨i, k, rfl, hpend⟩⟩ := lazyOp_own p0.ctxId s.1.heap p0.heap op hown
    · exact Good.applyL _ hsh (hpend ▸ trivial) (hpend ▸ opCost_pos s.1 op)
    · exact Good.applyL _ hsh (hpend ▸ rfl) (hpend ▸ Nat.lt_succ_self _)
  · cases op with
    | hash k => exact hashStart_good b0 s p0 k hs
    | evalCached t => exact evalStart_spec t hs (Or.inl rfl) (Nat.lt_succ_self _)
    | call f x => exact Good.pend (Or.inl rfl) (.calling f x) trivial (Nat.lt_succ_self _)
    | _ => exact absurd rfl hl

/-- **every step of the current code is good**: it leaves the base alone, publishes at most one
    entry `(k, entry k)`, keeps the private invariant, preserves the thread's denotation and
    decreases the measure -/
theorem step_good (b0 : Base) (s : Shared) (p : PState) (s' : Shared) (p' : PState)
    (hs : SInv b0 s) (hp : PInv b0 p) (hst : SharedObjs.step current s p = .inl (s', p')) :
    Pub b0 s s' ∧ PInv b0 p' ∧ den b0 p' = den b0 p ∧ μ b0 p' < μ b0 p := by
  obtain ⟨ctxId, heap, prog, pend, outs⟩ := p
  obtain ⟨hprog, hpend⟩ := hp
  cases pend with
  | some pd =>
      have g := stepPend_good b0 s ⟨ctxId, heap, prog, none, outs⟩ pd hs hpend
      rw [Sum.inl.inj hst] at g
      exact g.step hprog
  | none =>
      cases prog with
      | nil => cases hst
      | cons op rest =>
          have g := stepOp_good b0 s ⟨ctxId, heap, rest, none, outs⟩ op hs (hprog op List.mem_cons_self)
          rw [Sum.inl.inj hst] at g
          obtain ⟨h1, h2, h3, h4⟩ := g.step fun o ho => hprog o (List.mem_cons_of_mem _ ho)
          exact ⟨h1, h2, h3, Nat.lt_of_lt_of_eq h4 (congrArg (· + 1) (Nat.add_comm ..))⟩

theorem step_done (b0 : Base) (s : Shared) (p : PState) (r : List Out)
    (hst : step current s p = .inr r) : r = den b0 p := by
  obtain ⟨ctxId, heap, prog, pend, outs⟩ := p
  cases pend with
  | some pd => cases hst
  | none =>
      cases prog with
      | nil => exact (Sum.inr.inj hst).symm.trans (List.append_nil _).symm
      | cons op rest => cases hst

/-- the hypotheses of `solo_of_denotation` / `oblivious_of_denotation` for the current code -/
theorem objs_step (b0 : Base) (s : Shared) (p : PState) (s' : Shared) (p' : PState)
    (hs : SInv b0 s) (hp : PInv b0 p) (hst : (machine current).step s p = .inl (s', p')) :
    SInv b0 s' ∧ PInv b0 p' ∧ den b0 p' = den b0 p ∧ μ b0 p' < μ b0 p :=
  have g := step_good b0 s p s' p' hs hp hst
  ⟨g.1.sinv hs, g.2⟩

/-! ## the theorems about yaql's stateful objects -/

/-- the only shared writes of the current code are publications of `(k, entry k)` -/
theorem objs_benign (b0 : Base) : BenignWrites (machine current) (entry b0) b0 (PInv b0) := by
  intro c p s' p' hc hp hst
  obtain ⟨rfl | ⟨k, rfl⟩, g, _⟩ := step_good b0 (b0, c) p s' p' ⟨rfl, hc⟩ hp hst
  · exact ⟨rfl, g, Or.inl rfl⟩
  · exact ⟨rfl, g, Or.inr ⟨k, rfl⟩⟩

/-- sequentially, a thread's result does not depend on which sound tables it starts from: it is
    `den b0 p`, a function of the private state and the immutable base -/
theorem objs_oblivious (b0 : Base) :
    Oblivious (machine current) (fun s => s.1 = b0 ∧ Memo.Sound (entry b0) s.2) (PInv b0) :=
  oblivious_of_denotation (machine current) _ (PInv b0) (den b0) (μ b0) (objs_step b0)
    (fun s p r _ _ hst => step_done b0 s p r hst)

/-- **C18 for the stateful objects of yaql (current code).**  Any number of threads, each running
    any program of dispatches, `FrozenDict` hashes, `yaql.eval` calls and operations on lazy objects
    it created itself, over one shared base and any sound initial cache contents, under EVERY
    schedule: the base (frozen documents, definitions, objects stored in the shared context) is
    unchanged, the caches have only grown by entries that are the value of their key, and every
    finished thread returned exactly what it returns alone. -/
theorem objs_isolated (b0 : Base) (c0 : Cache) (hc0 : Memo.Sound (entry b0) c0)
    (threads : List (Thread PState (List Out))) (hinv : ∀ t ∈ threads, TInv (PInv b0) t)
    (sched : List Nat) :
    (run (machine current) ⟨(b0, c0), threads⟩ sched).shared.1 = b0 ∧
    Memo.GrownFrom (entry b0) c0 (run (machine current) ⟨(b0, c0), threads⟩ sched).shared.2 ∧
    ∀ (i : Nat) (r : List Out),
      (run (machine current) ⟨(b0, c0), threads⟩ sched).threads[i]? = some (Thread.done r) →
      ∃ t, threads[i]? = some t ∧ SoloResult (machine current) (b0, c0) t r ∧
        ∀ r', SoloResult (machine current) (b0, c0) t r' → r' = r :=
  isolation_benign_cache (machine current) (entry b0) b0 c0 (PInv b0) hc0 (objs_benign b0)
    (objs_oblivious b0) threads hinv sched

/-- the solo result is the big-step reference `den`: what the driver predicts without a schedule -/
theorem solo_is_den (b0 : Base) (c0 : Cache) (hc0 : Memo.Sound (entry b0) c0) (p : PState)
    (hp : PInv b0 p) : SoloResult (machine current) (b0, c0) (.running p) (den b0 p) :=
  solo_of_denotation (machine current) (SInv b0) (PInv b0) (den b0) (μ b0) (objs_step b0)
    (fun s p r _ _ hst => step_done b0 s p r hst) _ (b0, c0) p (Nat.lt_succ_self _) ⟨rfl, hc0⟩ hp

/-- **the results are schedule-independent and explicit**: every finished thread returned `den` of
    its initial private state -/
theorem objs_results (b0 : Base) (c0 : Cache) (hc0 : Memo.Sound (entry b0) c0)
    (ps : List PState) (hinv : ∀ p ∈ ps, PInv b0 p) (sched : List Nat) (i : Nat) (r : List Out)
    (h : (run (machine current) ⟨(b0, c0), ps.map .running⟩ sched).threads[i]? = some (Thread.done r)) :
    ∃ p, ps[i]? = some p ∧ r = den b0 p :=
  finished_eq (machine current) (b0, c0) ps (den b0)
    (fun p hp => solo_is_den b0 c0 hc0 p (hinv p hp)) i r
    ((objs_isolated b0 c0 hc0 _ (TInv.running hinv) sched).2.2 i r h)

/-! ### the lazy objects are private to the evaluation that created them -/

/-- programs that only operate on lazy objects (OrderingIterable, GroupAggregator, memorized
    iterators) they created themselves -/
def LazyOwn (p : PState) : Prop :=
  (∀ op ∈ p.prog, op.isLazy = true ∧ op.ownOnly = true) ∧
  (p.pend = none ∨ ∃ i k, p.pend = some (.pulling (.own i) k))

theorem lazy_readOnly : ReadOnly (machine current) LazyOwn := by
  intro s p s' p' ⟨hprog, hpend⟩ hst
  obtain ⟨ctxId, heap, prog, pend, outs⟩ := p
  rcases hpend with hnone | ⟨i, k, hpull⟩
  · subst hnone
    cases prog with
    | nil => cases hst
    | cons op rest =>
        obtain ⟨hl, hown⟩ := hprog op List.mem_cons_self
        obtain ⟨hsh, hpend⟩ := lazyOp_own ctxId s.1.heap heap op hown
        cases (Sum.inl.inj hst).symm.trans (stepOp_lazy s ⟨ctxId, heap, rest, none, outs⟩ op hl)
        exact ⟨applyL_fst s ⟨ctxId, heap, rest, none, outs⟩ _ hsh,
          fun o ho => hprog o (List.mem_cons_of_mem _ ho),
          hpend.imp id fun ⟨i, k, _, h⟩ => ⟨i, k, h⟩⟩
  · subst hpull
    obtain ⟨hsh, hnone⟩ := pullSeg_own s.1.heap heap i k
    cases Sum.inl.inj hst
    exact ⟨applyL_fst s ⟨ctxId, heap, prog, none, outs⟩ _ hsh, hprog, Or.inl hnone⟩

/-- **C18.lazy_objects_private.**  An OrderingIterable, GroupAggregator or memorized iterator is
    private to the evaluation that created it: as long as the programs reach such objects only
    through references of their own (`Ref.own` - none was stored in the shared context), then for
    every number of threads and EVERY schedule the shared component - including every object that
    IS stored in the shared context - is untouched, and every thread is exactly where it is after
    the same number of its own steps alone. -/
theorem lazy_objects_private (sys : Sys Shared PState (List Out))
    (hinv : ∀ t ∈ sys.threads, TInv LazyOwn t) (sched : List Nat) :
    (run (machine current) sys sched).shared = sys.shared ∧
    ∀ i, (run (machine current) sys sched).threads[i]? =
      (sys.threads[i]?).map fun t => (soloIter (machine current) (sched.count i) (sys.shared, t)).2 := by
  obtain ⟨h1, _, h3⟩ := isolation_exact (machine current) LazyOwn lazy_readOnly sched sys hinv
  exact ⟨h1, h3⟩

/-! ## negative witnesses: where the state is NOT private, some schedule interferes -/

def soloAll (cfg : Cfg) (s : Shared) (ps : List PState) : List (Option (List Out)) :=
  ps.map fun p => soloResult? (machine cfg) 64 s (.running p)

def runAll (cfg : Cfg) (s : Shared) (ps : List PState) (sched : List Nat) : List (Option (List Out)) :=
  results (run (machine cfg) ⟨s, ps.map .running⟩ sched)

/-- a frozen dict with two pairs (hashes 5 and 9), hashed by two threads -/
def hashBase : Base := { pairs := [[5, 9]] }
def hashThreads : List PState := [{ ctxId := 0, prog := [.hash 0] }, { ctxId := 1, prog := [.hash 0] }]

/-- **partial publication interferes** (`FrozenDict.__hash__` accumulating in the shared field,
    finding F11 of DESIGN.md section 6): thread 0 stores the
    partial hash `0` into the shared field, thread 1 takes it for the completed hash.  Alone both
    return `5 ^ 9 = 12`. -/
theorem partial_publication_interferes :
    runAll { hashMode := .accumulateShared } (hashBase, []) hashThreads [0, 1, 1, 0, 0, 0] =
      [some [.val 12], some [.val 0]] ∧
    soloAll { hashMode := .accumulateShared } (hashBase, []) hashThreads =
      [some [.val 12], some [.val 12]] := by decide +kernel

/-- the same schedule on the fixed code (publish once, complete) -/
example : runAll current (hashBase, []) hashThreads [0, 1, 1, 0, 0, 0, 1, 1] =
    [some [.val 12], some [.val 12]] := by decide +kernel

/-- lost update: with the accumulator in the shared field even the dict's final cached hash is wrong -/
example : (run (machine { hashMode := .accumulateShared }) ⟨(hashBase, []), hashThreads.map .running⟩
      [0, 0, 0, 0]).shared.2.head? = some (.hash 0, 12) := by decide +kernel

def callBase : Base := { funcs := [(1, 0)], scratch := [none] }
def callThreads : List PState :=
  [{ ctxId := 0, prog := [.call 0 10] }, { ctxId := 1, prog := [.call 0 20] }]

/-- **parked state interferes**: if the dispatch parks its argument on the shared definition
    (expression node, `FunctionDefinition`, module variable ...) between the dispatch and the
    payload, thread 0 returns thread 1's value.  With the state in locals (the real code) the same
    schedule returns each thread its own. -/
theorem parked_state_interferes :
    runAll { park := .onDefinition } (callBase, []) callThreads [0, 1, 0, 1, 0, 1] =
      [some [.val 20], some [.val 20]] ∧
    soloAll { park := .onDefinition } (callBase, []) callThreads = [some [.val 10], some [.val 20]] ∧
    runAll current (callBase, []) callThreads [0, 1, 0, 1, 0, 1] = [some [.val 10], some [.val 20]] := by
  decide +kernel

/-- an OrderingIterable stored in the shared context (`$o`), both threads call `$o.thenBy...` -/
def sharedOrderBase : Base :=
  { heap := [.ordering [(2, 1), (1, 2), (1, 1)] [(.fst, true)] none none] }
def sharedOrderThreads : List PState :=
  [{ ctxId := 0, prog := [.thenBy (.shared 0) .snd true, .iterate (.shared 0)] },
   { ctxId := 1, prog := [.thenBy (.shared 0) .snd false, .iterate (.shared 0)] }]

/-- a memorized iterator stored in the shared context, each thread has its own
    RememberingIterator instance over it -/
def sharedMemoBase : Base := { heap := [.memo [1, 2, 3] 0 [] [0, 0]] }
def sharedMemoThreads : List PState :=
  [{ ctxId := 0, prog := [.memoNext (.shared 0) 0, .memoNext (.shared 0) 0] },
   { ctxId := 1, prog := [.memoNext (.shared 0) 1, .memoNext (.shared 0) 1] }]

/-- **the condition of `lazy_objects_private` is necessary**: a lazy object that IS reachable through
    the shared context is mutated by the evaluations that use it - thread 1 gets rows ordered by
    thread 0's key, resp. the second element of the memorized sequence as its first -/
theorem shared_lazy_object_interferes :
    (runAll current (sharedOrderBase, []) sharedOrderThreads [0, 1, 0, 1, 0, 1] =
      [some [.rows [(1, 1), (1, 2), (2, 1)]], some [.rows [(1, 1), (1, 2), (2, 1)]]] ∧
     soloAll current (sharedOrderBase, []) sharedOrderThreads =
      [some [.rows [(1, 1), (1, 2), (2, 1)]], some [.rows [(1, 2), (1, 1), (2, 1)]]]) ∧
    (runAll current (sharedMemoBase, []) sharedMemoThreads [0, 1, 0, 1, 0, 1, 0, 1, 0, 1] =
      [some [.val 1, .val 2], some [.val 2, .val 2]] ∧
     soloAll current (sharedMemoBase, []) sharedMemoThreads =
      [some [.val 1, .val 2], some [.val 1, .val 2]]) := by decide +kernel

/-! ### non-vacuity of `objs_isolated` / `lazy_objects_private` -/

def demoBase : Base := { pairs := [[5, 9], []], funcs := [(2, 1)] }
def demoThreads : List PState :=
  [{ ctxId := 0, prog := [.hash 0, .evalCached 7, .orderBy [(2, 1), (1, 2)] .fst true, .iterate (.own 0)] },
   { ctxId := 1, prog := [.evalCached 7, .hash 0, .call 0 5, .memorize [4, 5], .memoNext (.own 0) 0] },
   { ctxId := 2, prog := [.aggNew .sum true, .aggCall (.own 0) 1 [2, 3], .hash 1] }]

example : ∀ p ∈ demoThreads, PInv demoBase p := by
  intro p hp
  simp only [demoThreads, List.mem_cons, List.not_mem_nil, or_false] at hp
  rcases hp with h | h | h <;> subst h <;> exact ⟨by decide, trivial⟩

example : runAll current (demoBase, []) demoThreads
      (List.replicate 14 [0, 1, 2]).flatten =
    demoThreads.map (fun p => some (den demoBase p)) ∧
    demoThreads.map (den demoBase) =
      [[.val 12, .evald 7 1, .made 0, .rows [(1, 2), (2, 1)]],
       [.evald 7 1, .val 12, .val 11, .made 0, .val 4],
       [.made 0, .group 1 (.scalar 5), .val 0]] := by decide +kernel

end Yaql.Props.C18
