import Yaql.Model.Stream
/-!
C14 - streaming operators consume only what they need from their source.

`causal`          generic: what an operator (any `Machine`) has produced by the time `n` source
                  elements are pulled, with its cost stamps, depends on those `n` elements only.
`causal_pipeline` the same for pipelines of ANY length (induction over the stages).
`causal_<op>`     instances for the listed operators.
`cost_tight_<op>` what the operator produces from a prefix, stamps included, as an explicit function
                  (`lin`, `keptSt`, `linEnum`, ...), or a bound on the pulls of result `k` (insert,
                  replace, delete).  `run m s i a xs` is what `m` produces over the elements `xs` of
                  the source; operators with a step of the same shape share a lemma about it: `lin_run`
                  (select, memorize, append, member, splice, selectManyInner, skip once it hands on),
                  `filter_run` (where, distinct, delete, skipWhile), `search_run` (any, all,
                  indexWhere, indexOf), `pulls_le_of_potential` (the bounds for insert, replace,
                  delete), `run_cost` (the application bounds of join).  enumerate, take,
                  skip, takeWhile, zip, accumulate, slice, selectMany and join each have an induction
                  of their own against their cost function (`<op>_run`).
`endless_total`   on an endless source the first k results are available with fuel = their cost,
                  and more fuel never changes them.
-/
namespace Yaql.Props.C14
open Yaql Yaql.Value Yaql.Seq Yaql.Stream

theorem stampOuts_stamps (outs : List (Item × Nat)) (p a : Nat) :
    ∀ o ∈ stampOuts outs p a, o.pulls = p ∧ a ≤ o.apps := by
  simp only [stampOuts, List.mem_map]
  rintro o ⟨q, _, rfl⟩
  exact ⟨rfl, Nat.le_add_right ..⟩

theorem runFrom_stamps (m : Machine) (is : List Out) (s : m.σ) (a : Nat) (fin : Option (Nat × Nat)) :
    (∀ o ∈ (runFrom m s a is fin).outs,
      (∃ i ∈ is, o.pulls = i.pulls ∧ i.apps ≤ o.apps) ∨ (∃ p ua, fin = some (p, ua) ∧ o.pulls = p ∧ ua ≤ o.apps)) ∧
    (∀ p ua, (runFrom m s a is fin).fin = some (p, ua) → (∃ i ∈ is, p = i.pulls) ∨ ∃ ua', fin = some (p, ua')) := by
  have here : ∀ (i : Out) is outs a, ∀ o ∈ stampOuts outs i.pulls (i.apps + a),
      ∃ j ∈ i :: is, o.pulls = j.pulls ∧ j.apps ≤ o.apps := fun i is outs a o ho =>
    have := stampOuts_stamps _ _ _ o ho
    ⟨i, List.mem_cons_self .., this.1, by omega⟩
  fun_induction runFrom m s a is fin with
  | case1 => simp
  | case2 s a p ua r =>
    refine ⟨fun o ho => Or.inr ⟨p, ua, rfl, ?_⟩, fun p' ua' h => Or.inr ⟨ua, by cases h; rfl⟩⟩
    have := stampOuts_stamps _ _ _ o ho
    omega
  | case3 s a i rest fin e =>
    -- the error is handed on with the stamps `stampOuts` would give it
    exact ⟨fun o ho => Or.inl (here i rest [(.error e, 0)] a o ho),
      fun p ua h => Or.inl ⟨i, List.mem_cons_self .., by cases h; rfl⟩⟩
  | case4 s a i rest fin x _ r hereo =>
    exact ⟨fun o ho => Or.inl (here i rest _ _ o ho), fun p ua h => Or.inl ⟨i, List.mem_cons_self .., by cases h; rfl⟩⟩
  | case5 s a i rest fin x _ r hereo _ t ih =>
    refine ⟨fun o ho => ?_, fun p ua h => (ih.2 p ua h).imp_left fun ⟨j, hj, hp⟩ => ⟨j, List.mem_cons_of_mem _ hj, hp⟩⟩
    rcases List.mem_append.mp ho with h | h
    · exact Or.inl (here i rest _ _ o h)
    · exact (ih.1 o h).imp_left fun ⟨j, hj, hp⟩ => ⟨j, List.mem_cons_of_mem _ hj, hp⟩

theorem runFrom_pulls (m : Machine) (P : Nat → Prop) (is : List Out) (s : m.σ) (a : Nat) (fin : Option (Nat × Nat))
    (hI : ∀ o ∈ is, P o.pulls) (hf : ∀ p ua, fin = some (p, ua) → P p) :
    (∀ o ∈ (runFrom m s a is fin).outs, P o.pulls) ∧ (∀ p ua, (runFrom m s a is fin).fin = some (p, ua) → P p) := by
  obtain ⟨h1, h2⟩ := runFrom_stamps m is s a fin
  constructor
  · intro o ho
    rcases h1 o ho with ⟨i, hi, hp, _⟩ | ⟨p, ua, hfin, hp, _⟩
    · exact hp ▸ hI i hi
    · exact hp ▸ hf p ua hfin
  · intro p ua h
    rcases h2 p ua h with ⟨i, hi, rfl⟩ | ⟨ua', hfin⟩
    · exact hI i hi
    · exact hf p ua' hfin

theorem runFrom_closed (m : Machine) (is : List Out) (s : m.σ) (a : Nat) (pa : Nat × Nat) :
    ∃ pa', (runFrom m s a is (some pa)).fin = some pa' := by
  induction is generalizing s a with
  | nil => exact ⟨_, rfl⟩
  | cons i is ih =>
    simp only [runFrom]
    split
    · exact ⟨_, rfl⟩
    · split
      · exact ⟨_, rfl⟩
      · exact ih _ _

theorem runFrom_append (m : Machine) (is E : List Out) (fin : Option (Nat × Nat)) (s : m.σ) (a : Nat) :
    ((runFrom m s a is none).fin = none ∧ ∃ s' a', runFrom m s a (is ++ E) fin =
        ⟨(runFrom m s a is none).outs ++ (runFrom m s' a' E fin).outs, (runFrom m s' a' E fin).fin⟩) ∨
    ((∃ pa, (runFrom m s a is none).fin = some pa) ∧ runFrom m s a (is ++ E) fin = runFrom m s a is none) := by
  induction is generalizing s a with
  | nil => exact Or.inl ⟨rfl, s, a, rfl⟩
  | cons i is ih =>
    simp only [List.cons_append, runFrom]
    split
    · exact Or.inr ⟨⟨_, rfl⟩, rfl⟩
    · split
      · exact Or.inr ⟨⟨_, rfl⟩, rfl⟩
      · rcases ih (m.step s _).st (a + (m.step s _).apps) with ⟨hnone, s', a', heq⟩ | ⟨hsome, heq⟩
        · exact Or.inl ⟨hnone, s', a', by rw [heq, List.append_assoc]⟩
        · exact Or.inr ⟨hsome, by rw [heq]⟩

/-- `J` is `I` continued beyond `b` pulls: either `I` is an open prefix and everything `J` adds
    costs more than `b`, or `I` has ended within `b` and `J` is the same stream -/
def Ext (b : Nat) (I J : Strm) : Prop :=
  (∀ o ∈ I.outs, o.pulls ≤ b) ∧
  ((I.fin = none ∧ ∃ E, J.outs = I.outs ++ E ∧ (∀ o ∈ E, b < o.pulls) ∧ (∀ p ua, J.fin = some (p, ua) → b < p)) ∨
   (∃ p ua, I.fin = some (p, ua) ∧ p ≤ b ∧ J = I))

/-- the core step: reading on beyond the bound cannot change what was produced within it -/
theorem runFrom_ext (m : Machine) (b : Nat) (I J : Strm) (h : Ext b I J) (s : m.σ) (a : Nat) :
    Ext b (runFrom m s a I.outs I.fin) (runFrom m s a J.outs J.fin) := by
  obtain ⟨hlow, ⟨hopen, E, hE, hhigh, hfin⟩ | ⟨p, ua, hfin, hp, heq⟩⟩ := h
  · rw [hE, hopen]
    have hI := runFrom_pulls m (· ≤ b) I.outs s a none hlow (by simp)
    refine ⟨hI.1, ?_⟩
    rcases runFrom_append m I.outs E J.fin s a with ⟨hnone, s', a', heq⟩ | ⟨⟨⟨p, ua⟩, hsome⟩, heq⟩
    · have hE := runFrom_pulls m (b < ·) E s' a' J.fin hhigh hfin
      exact Or.inl ⟨hnone, _, by rw [heq], hE.1, by rw [heq]; exact hE.2⟩
    · exact Or.inr ⟨p, ua, hsome, hI.2 p ua hsome, heq⟩
  · rw [heq, hfin]
    have hI := runFrom_pulls m (· ≤ b) I.outs s a (some (p, ua)) hlow (by simp; omega)
    obtain ⟨⟨p', ua'⟩, h'⟩ := runFrom_closed m I.outs s a (p, ua)
    exact ⟨hI.1, Or.inr ⟨p', ua', h', hI.2 p' ua' h', rfl⟩⟩

theorem Ext.prepend {b : Nat} {I J : Strm} (h : Ext b I J) (here : List Out) (hh : ∀ o ∈ here, o.pulls ≤ b) :
    Ext b ⟨here ++ I.outs, I.fin⟩ ⟨here ++ J.outs, J.fin⟩ := by
  refine ⟨fun o ho => (List.mem_append.mp ho).elim (hh o) (h.1 o), ?_⟩
  rcases h.2 with ⟨hopen, E, hE, hhigh, hfin⟩ | ⟨p, ua, hfin, hp, heq⟩
  · exact Or.inl ⟨hopen, E, by simp [hE], hhigh, hfin⟩
  · exact Or.inr ⟨p, ua, hfin, hp, by rw [heq]⟩

theorem runOn_ext (m : Machine) (b : Nat) (I J : Strm) (h : Ext b I J) : Ext b (runOn m I) (runOn m J) := by
  have h0 : ∀ o ∈ stampOuts m.start.outs 0 0, o.pulls ≤ b := fun o ho => by
    rw [(stampOuts_stamps _ _ _ o ho).1]; exact Nat.zero_le _
  simp only [runOn]
  split
  · -- the operator is done before pulling anything
    exact ⟨h0, Or.inr ⟨0, _, rfl, Nat.zero_le _, rfl⟩⟩
  · exact (runFrom_ext m b I J h _ _).prepend _ h0

/-- **compose**: pipelines of any length preserve it (induction over the stages) -/
theorem runPipe_ext (ms : List Machine) (b : Nat) (I J : Strm) (h : Ext b I J) :
    Ext b (runPipe ms I) (runPipe ms J) := by
  induction ms generalizing I J with
  | nil => exact h
  | cons m ms ih => exact ih _ _ (runOn_ext m b I J h)

theorem stampSrc_append (i : Nat) (xs ys : VL) :
    stampSrc i (xs ++ ys) = stampSrc i xs ++ stampSrc (i + xs.length) ys := by
  induction xs generalizing i with
  | nil => simp [stampSrc]
  | cons x xs ih => simp [stampSrc, ih, Nat.add_assoc, Nat.add_comm 1]

theorem stampSrc_pulls (i : Nat) (xs : VL) : ∀ o ∈ stampSrc i xs, i < o.pulls ∧ o.pulls ≤ i + xs.length := by
  induction xs generalizing i with
  | nil => simp [stampSrc]
  | cons x xs ih =>
    intro o ho
    simp only [stampSrc, List.mem_cons] at ho
    rcases ho with rfl | ho
    · simp
    · have := ih (i + 1) o ho
      simp; omega

theorem src_ext (xs ys : VL) : Ext xs.length (src xs) (src (xs ++ ys)) := by
  refine ⟨?_, Or.inl ⟨rfl, stampSrc xs.length ys, ?_, ?_, by simp [src]⟩⟩
  · intro o ho; have := stampSrc_pulls 0 xs o ho; omega
  · simp [src, stampSrc_append]
  · intro o ho; have := stampSrc_pulls xs.length ys o ho; omega

/-- every result of a pipeline over a prefix was produced within the prefix -/
theorem pulls_le (ms : List Machine) (xs : VL) : ∀ o ∈ pipeOuts ms xs, o.pulls ≤ xs.length :=
  (runPipe_ext ms xs.length _ _ (src_ext xs [])).1

theorem pipeOuts_append (ms : List Machine) (xs ys : VL) :
    ∃ E, pipeOuts ms (xs ++ ys) = pipeOuts ms xs ++ E ∧ ∀ o ∈ E, xs.length < o.pulls := by
  obtain ⟨_, ⟨_, E, hE, hhigh, _⟩ | ⟨_, _, _, _, heq⟩⟩ := runPipe_ext ms xs.length _ _ (src_ext xs ys)
  · exact ⟨E, hE, hhigh⟩
  · exact ⟨[], by simp [pipeOuts, heq], by simp⟩

/-- **Causality of a pipeline of streaming operators (any length).**  Whatever follows the
    first `|xs|` source elements, the results the pipeline produces while at most `|xs|` elements
    have been pulled - values, pull stamps and lambda-application stamps - are exactly what it
    produces from the prefix `xs` alone.  In particular they do not depend on the length of the
    source, so the pipeline works on endless sources. -/
theorem causal_pipeline (ms : List Machine) (xs ys : VL) :
    (pipeOuts ms (xs ++ ys)).filter (fun o => decide (o.pulls ≤ xs.length)) = pipeOuts ms xs := by
  obtain ⟨E, hE, hhigh⟩ := pipeOuts_append ms xs ys
  rw [hE, List.filter_append, List.filter_eq_self.mpr (by simpa using pulls_le ms xs),
    List.filter_eq_nil_iff.mpr (by simpa using hhigh), List.append_nil]

theorem causal (m : Machine) (xs ys : VL) :
    (outsOf m (xs ++ ys)).filter (fun o => decide (o.pulls ≤ xs.length)) = outsOf m xs :=
  causal_pipeline [m] xs ys

/-- what was produced from a prefix stays produced, in the same order, whatever follows -/
theorem prefix_stable (ms : List Machine) (xs ys : VL) : pipeOuts ms xs <+: pipeOuts ms (xs ++ ys) :=
  (pipeOuts_append ms xs ys).imp fun _ h => h.1.symm

theorem firstK_append (ms : List Machine) (xs ys : VL) (k : Nat) (r : List Out) :
    (firstK ms (xs ++ ys) k = some r ∧ ∀ o ∈ r, o.pulls ≤ xs.length) ↔ firstK ms xs k = some r := by
  obtain ⟨E, hE, hhigh⟩ := pipeOuts_append ms xs ys
  simp only [firstK, hE, List.length_append, List.take_append, Option.ite_none_right_eq_some, Option.some.injEq]
  constructor
  · rintro ⟨⟨_, rfl⟩, hc⟩
    have hE : E.take (k - (pipeOuts ms xs).length) = [] := List.eq_nil_iff_forall_not_mem.mpr fun e he =>
      Nat.not_le_of_lt (hhigh e (List.mem_of_mem_take he)) (hc e (List.mem_append_right _ he))
    have hk : k ≤ (pipeOuts ms xs).length := by
      rcases List.take_eq_nil_iff.mp hE with h | rfl
      · omega
      · simpa using ‹k ≤ _›
    simp [hk]
  · rintro ⟨hk, rfl⟩
    exact ⟨⟨by omega, by simp [Nat.sub_eq_zero_of_le hk]⟩, fun o ho => pulls_le ms xs o (List.mem_of_mem_take ho)⟩

/-- the first `k` results depend only on the source elements up to their cost -/
theorem firstK_causal (ms : List Machine) (xs ys zs : VL) (k : Nat) (r : List Out)
    (h : firstK ms (xs ++ ys) k = some r) (hc : ∀ o ∈ r, o.pulls ≤ xs.length) :
    firstK ms (xs ++ zs) k = some r :=
  ((firstK_append ms xs zs k r).mpr ((firstK_append ms xs ys k r).mp ⟨h, hc⟩)).1

theorem prefixOf_add (f : Nat → Value) (n d : Nat) :
    prefixOf f (n + d) = prefixOf f n ++ (List.range d).map fun i => f (n + i) := by
  simp [prefixOf, List.range_add]

/-- **endless sources**: if the first `n` elements of an endless source suffice for the first
    `k` results, then (1) so does every longer prefix, with the same results and costs, and
    (2) the fuel actually needed is the cost of the k-th result. -/
theorem endless_total (ms : List Machine) (f : Nat → Value) (k n : Nat) (r : List Out)
    (h : firstK ms (prefixOf f n) k = some r) :
    (∀ n', n ≤ n' → firstK ms (prefixOf f n') k = some r) ∧
    (∀ c, (∀ o ∈ r, o.pulls ≤ c) → c ≤ n → firstK ms (prefixOf f c) k = some r) := by
  have hlen : ∀ n, (prefixOf f n).length = n := by simp [prefixOf]
  constructor
  · intro n' hn
    obtain ⟨d, rfl⟩ := Nat.exists_eq_add_of_le hn
    rw [prefixOf_add]
    exact ((firstK_append ms _ _ k r).mpr h).1
  · intro c hc hcn
    obtain ⟨d, rfl⟩ := Nat.exists_eq_add_of_le hcn
    rw [prefixOf_add] at h
    exact (firstK_append ms _ _ k r).mp ⟨h, by rwa [hlen]⟩

/-- **compose** (cost part): a result of stage `g` over stage `f` costs, in source pulls, exactly
    what the `f`-result that triggered it costs; its application count includes that result's.
    By `runPipe` (iterated `runOn`) this extends to pipelines of any length. -/
theorem compose_cost (g : Machine) (I : Strm) :
    ∀ o ∈ (runOn g I).outs,
      o.pulls = 0 ∨ (∃ i ∈ I.outs, o.pulls = i.pulls ∧ i.apps ≤ o.apps) ∨
      (∃ p ua, I.fin = some (p, ua) ∧ o.pulls = p ∧ ua ≤ o.apps) := by
  intro o ho
  simp only [runOn] at ho
  split at ho
  · exact Or.inl (stampOuts_stamps _ _ _ o ho).1
  · rcases List.mem_append.mp ho with h | h
    · exact Or.inl (stampOuts_stamps _ _ _ o h).1
    · exact Or.inr ((runFrom_stamps g I.outs _ _ I.fin).1 o h)

theorem runPipe_cons (m : Machine) (ms : List Machine) (I : Strm) : runPipe (m :: ms) I = runPipe ms (runOn m I) := rfl
theorem runPipe_append (ms ns : List Machine) (I : Strm) : runPipe (ms ++ ns) I = runPipe ns (runPipe ms I) := by
  simp [Stream.runPipe, List.foldl_append]

/-- **compose**: causal operators compose, and the cost of a pipeline is the composition of the
    costs - for pipelines of ANY length (`ms ++ [g]`, by induction through `runPipe_ext`):
    (1) the pipeline extended by a stage is causal; (2) every result of the added stage carries the
    pull stamp of the result of the shorter pipeline that triggered it. -/
theorem compose (ms : List Machine) (g : Machine) (xs ys : VL) :
    (pipeOuts (ms ++ [g]) (xs ++ ys)).filter (fun o => decide (o.pulls ≤ xs.length)) = pipeOuts (ms ++ [g]) xs ∧
    ∀ o ∈ pipeOuts (ms ++ [g]) xs,
      o.pulls = 0 ∨ (∃ i ∈ pipeOuts ms xs, o.pulls = i.pulls ∧ i.apps ≤ o.apps) ∨
      (∃ p ua, (Stream.runPipe ms (src xs)).fin = some (p, ua) ∧ o.pulls = p ∧ ua ≤ o.apps) := by
  refine ⟨causal_pipeline (ms ++ [g]) xs ys, ?_⟩
  intro o ho
  rw [pipeOuts, runPipe_append] at ho
  exact compose_cost g _ o ho

/-- what `m` produces from state `s`, `a` applications of its own made so far, while it is fed the
    source elements `xs`, pulled as numbers `i+1, i+2, ...` -/
def run (m : Machine) (s : m.σ) (i a : Nat) (xs : VL) : List Out :=
  (runFrom m s a (stampSrc i xs) none).outs

@[simp] theorem run_nil (m : Machine) (s : m.σ) (i a : Nat) : run m s i a [] = [] := rfl

@[simp] theorem run_cons (m : Machine) (s : m.σ) (i a : Nat) (x : Value) (xs : VL) :
    run m s i a (x :: xs) =
      stampOuts (m.step s x).outs (i + 1) a ++
        (if (m.step s x).stop then [] else run m (m.step s x).st (i + 1) (a + (m.step s x).apps) xs) := by
  simp only [run, stampSrc, runFrom, Nat.zero_add]
  split <;> simp

theorem outsOf_eq (m : Machine) (xs : VL) :
    outsOf m xs = stampOuts m.start.outs 0 0 ++ (if m.start.stop then [] else run m m.start.st 0 m.start.apps xs) := by
  simp only [outsOf, runOn, src, run]
  split <;> simp

theorem outsOf_idle (m : Machine) (s : m.σ) (h : m.start = idle s) (xs : VL) : outsOf m xs = run m s 0 0 xs := by
  simp [outsOf_eq, h, idle, stampOuts]

@[simp] theorem stampOuts_nil (p a : Nat) : stampOuts [] p a = [] := rfl

@[simp] theorem stampOuts_oks (vs : VL) (c p a : Nat) :
    stampOuts (oks vs c) p a = vs.map fun v => ⟨.ok v, p, a + c⟩ := by
  simp [stampOuts, oks]

/-- an operator that is done before its first pull never asks its input for anything: the result
    is closed at 0 pulls whatever the input is (even an endless one) -/
theorem runOn_of_start_stop (m : Machine) (h : m.start.stop = true) (I : Strm) :
    runOn m I = ⟨stampOuts m.start.outs 0 0, some (0, m.start.apps)⟩ := by
  simp [runOn, h]

/-- the outputs of a one-to-one operator: element `j` of the prefix gives one result, stamped
    with `i+j+1` pulls and `a + (j+1)*c` applications -/
def lin (g : Value → Value) (c : Nat) (i a : Nat) : VL → List Out
  | [] => []
  | x :: xs => ⟨.ok (g x), i + 1, a + c⟩ :: lin g c (i + 1) (a + c) xs

theorem lin_length (g : Value → Value) (c i a : Nat) (xs : VL) : (lin g c i a xs).length = xs.length := by
  induction xs generalizing i a with
  | nil => rfl
  | cons x xs ih => simp [lin, ih]

theorem lin_get (g : Value → Value) (c i a : Nat) (xs : VL) (k : Nat) (h : k < xs.length) :
    (lin g c i a xs)[k]'(by rw [lin_length]; exact h) = ⟨.ok (g xs[k]), i + k + 1, a + (k + 1) * c⟩ := by
  induction xs generalizing i a k with
  | nil => simp at h
  | cons x xs ih =>
    cases k with
    | zero => simp [lin]
    | succ k =>
      simp only [lin, List.getElem_cons_succ, ih (i + 1) (a + c) k (by simpa using h), Out.mk.injEq, true_and]
      rw [Nat.succ_mul (k + 1)]
      omega

theorem lin_run (m : Machine) (s : m.σ) (g : Value → Value) (c : Nat) (xs : VL)
    (h : ∀ x ∈ xs, m.step s x = { st := s, outs := oks [g x] c, apps := c }) (i a : Nat) :
    run m s i a xs = lin g c i a xs := by
  induction xs generalizing i a with
  | nil => rfl
  | cons x xs ih =>
    rw [List.forall_mem_cons] at h
    simpa [h.1, lin] using ih h.2 (i + 1) (a + c)

theorem run_cost (m : Machine) (c : Nat)
    (hc : ∀ s x, (m.step s x).apps ≤ c ∧ ∀ p ∈ (m.step s x).outs, p.2 ≤ c) (xs : VL) (s : m.σ) (i a : Nat) :
    ∀ o ∈ run m s i a xs,
      ∃ j, j < xs.length ∧ o.pulls = i + j + 1 ∧ o.apps ≤ a + c * (j + 1) := by
  induction xs generalizing s i a with
  | nil => simp
  | cons x xs ih =>
    intro o ho
    rw [run_cons, List.mem_append] at ho
    rcases ho with ho | ho
    · simp only [stampOuts, List.mem_map] at ho
      obtain ⟨p, hp, rfl⟩ := ho
      have := (hc s x).2 p hp
      exact ⟨0, by simp, rfl, by simp; omega⟩
    · split at ho
      · simp at ho
      · obtain ⟨j, hj, hp, ha⟩ := ih _ _ _ o ho
        have := (hc s x).1
        exact ⟨j + 1, by simp; omega, by omega, by rw [Nat.mul_add c (j + 1) 1]; omega⟩

theorem causal_select (f : Lam) (xs ys : VL) :
    (outsOf (mSelect f) (xs ++ ys)).filter (fun o => decide (o.pulls ≤ xs.length)) = outsOf (mSelect f) xs := causal _ xs ys
theorem causal_where (p : Lam) (xs ys : VL) :
    (outsOf (mWhere p) (xs ++ ys)).filter (fun o => decide (o.pulls ≤ xs.length)) = outsOf (mWhere p) xs := causal _ xs ys
theorem causal_selectMany (f : Lam) (xs ys : VL) :
    (outsOf (mSelectMany f) (xs ++ ys)).filter (fun o => decide (o.pulls ≤ xs.length)) = outsOf (mSelectMany f) xs := causal _ xs ys
theorem causal_skip (n : Int) (xs ys : VL) :
    (outsOf (mSkip n) (xs ++ ys)).filter (fun o => decide (o.pulls ≤ xs.length)) = outsOf (mSkip n) xs := causal _ xs ys
theorem causal_take (n : Int) (xs ys : VL) :
    (outsOf (mTake n) (xs ++ ys)).filter (fun o => decide (o.pulls ≤ xs.length)) = outsOf (mTake n) xs := causal _ xs ys
theorem causal_takeWhile (p : Lam) (xs ys : VL) :
    (outsOf (mTakeWhile p) (xs ++ ys)).filter (fun o => decide (o.pulls ≤ xs.length)) = outsOf (mTakeWhile p) xs := causal _ xs ys
theorem causal_skipWhile (p : Lam) (xs ys : VL) :
    (outsOf (mSkipWhile p) (xs ++ ys)).filter (fun o => decide (o.pulls ≤ xs.length)) = outsOf (mSkipWhile p) xs := causal _ xs ys
theorem causal_append (tail xs ys : VL) :
    (outsOf (mAppend tail) (xs ++ ys)).filter (fun o => decide (o.pulls ≤ xs.length)) = outsOf (mAppend tail) xs := causal _ xs ys
theorem causal_concat (colls : List VL) (xs ys : VL) :
    (outsOf (mAppend colls.flatten) (xs ++ ys)).filter (fun o => decide (o.pulls ≤ xs.length)) = outsOf (mAppend colls.flatten) xs := causal _ xs ys
theorem causal_distinct (key : Option Lam) (xs ys : VL) :
    (outsOf (mDistinct key) (xs ++ ys)).filter (fun o => decide (o.pulls ≤ xs.length)) = outsOf (mDistinct key) xs := causal _ xs ys
theorem causal_enumerate (start : Int) (xs ys : VL) :
    (outsOf (mEnumerate start) (xs ++ ys)).filter (fun o => decide (o.pulls ≤ xs.length)) = outsOf (mEnumerate start) xs := causal _ xs ys
theorem causal_zip (others : List VL) (xs ys : VL) :
    (outsOf (mZip others) (xs ++ ys)).filter (fun o => decide (o.pulls ≤ xs.length)) = outsOf (mZip others) xs := causal _ xs ys
theorem causal_accumulate (f : Lam2) (seed : Option Value) (xs ys : VL) :
    (outsOf (mAccumulate f seed) (xs ++ ys)).filter (fun o => decide (o.pulls ≤ xs.length)) = outsOf (mAccumulate f seed) xs := causal _ xs ys
theorem causal_insert (pos : Int) (vals : VL) (front : Bool) (xs ys : VL) :
    (outsOf (mInsert pos vals front) (xs ++ ys)).filter (fun o => decide (o.pulls ≤ xs.length)) = outsOf (mInsert pos vals front) xs := causal _ xs ys
theorem causal_delete (pos count : Int) (xs ys : VL) :
    (outsOf (mDelete pos count) (xs ++ ys)).filter (fun o => decide (o.pulls ≤ xs.length)) = outsOf (mDelete pos count) xs := causal _ xs ys
theorem causal_replace (pos count : Int) (vals xs ys : VL) :
    (outsOf (mReplace pos count vals) (xs ++ ys)).filter (fun o => decide (o.pulls ≤ xs.length)) = outsOf (mReplace pos count vals) xs := causal _ xs ys
theorem causal_slice (n : Int) (xs ys : VL) :
    (outsOf (mSlice n) (xs ++ ys)).filter (fun o => decide (o.pulls ≤ xs.length)) = outsOf (mSlice n) xs := causal _ xs ys
theorem causal_memorize (xs ys : VL) :
    (outsOf mMemorize (xs ++ ys)).filter (fun o => decide (o.pulls ≤ xs.length)) = outsOf mMemorize xs := causal _ xs ys
theorem causal_member (name : List Char) (xs ys : VL) :
    (outsOf (mAttr name) (xs ++ ys)).filter (fun o => decide (o.pulls ≤ xs.length)) = outsOf (mAttr name) xs := causal _ xs ys
theorem causal_first (d : Option Value) (xs ys : VL) :
    (outsOf (mFirst d) (xs ++ ys)).filter (fun o => decide (o.pulls ≤ xs.length)) = outsOf (mFirst d) xs := causal _ xs ys
theorem causal_any (p : Option Lam) (xs ys : VL) :
    (outsOf (mAny p) (xs ++ ys)).filter (fun o => decide (o.pulls ≤ xs.length)) = outsOf (mAny p) xs := causal _ xs ys
theorem causal_all (p : Option Lam) (xs ys : VL) :
    (outsOf (mAll p) (xs ++ ys)).filter (fun o => decide (o.pulls ≤ xs.length)) = outsOf (mAll p) xs := causal _ xs ys
theorem causal_indexOf (v : Value) (xs ys : VL) :
    (outsOf (mIndexOf v) (xs ++ ys)).filter (fun o => decide (o.pulls ≤ xs.length)) = outsOf (mIndexOf v) xs := causal _ xs ys
theorem causal_indexWhere (p : Lam) (xs ys : VL) :
    (outsOf (mIndexWhere p.test true) (xs ++ ys)).filter (fun o => decide (o.pulls ≤ xs.length)) = outsOf (mIndexWhere p.test true) xs := causal _ xs ys
theorem causal_join (other : VL) (pred sel : Lam2) (xs ys : VL) :
    (outsOf (mJoin other pred sel) (xs ++ ys)).filter (fun o => decide (o.pulls ≤ xs.length)) = outsOf (mJoin other pred sel) xs := causal _ xs ys

/-- `causal_pipeline`; the hypothesis only says where `ms` comes from and is not used -/
theorem causal_ops (ops : List Op) (ms : List Machine) (_h : ops.map machineOf = ms.map some) (xs ys : VL) :
    (pipeOuts ms (xs ++ ys)).filter (fun o => decide (o.pulls ≤ xs.length)) = pipeOuts ms xs :=
  causal_pipeline ms xs ys

/-- `select`: the k-th result costs exactly k pulls and k applications -/
theorem cost_tight_select (f : Lam) (g : Value → Value) (xs : VL) (h : ∀ x ∈ xs, f.eval x = .ok (g x)) :
    outsOf (mSelect f) xs = lin g 1 0 0 xs := by
  rw [outsOf_idle (mSelect f) () rfl]
  exact lin_run (mSelect f) () g 1 xs (fun x hx => by simp [react1, h x hx]) 0 0

theorem cost_select_kth (f : Lam) (g : Value → Value) (xs : VL) (h : ∀ x ∈ xs, f.eval x = .ok (g x))
    (k : Nat) (hk : k < xs.length) :
    (outsOf (mSelect f) xs)[k]? = some ⟨.ok (g xs[k]), k + 1, k + 1⟩ := by
  rw [cost_tight_select f g xs h, List.getElem?_eq_getElem (by rw [lin_length]; exact hk), lin_get _ _ _ _ _ _ hk]
  simp

/-- `memorize`: element k is handed on when it is pulled -/
theorem cost_tight_memorize (xs : VL) : outsOf mMemorize xs = lin id 0 0 0 xs := by
  rw [outsOf_idle mMemorize () rfl]
  exact lin_run mMemorize () id 0 xs (fun _ _ => rfl) 0 0

/-- `append` / `concat`: while the source delivers, elements are handed on one for one; the tail
    is not touched (on an endless source it never is) -/
theorem cost_tight_append (tail xs : VL) : outsOf (mAppend tail) xs = lin id 0 0 0 xs := by
  rw [outsOf_idle (mAppend tail) () rfl]
  exact lin_run (mAppend tail) () id 0 xs (fun _ _ => rfl) 0 0

/-- member projection `collection.name`: one result per element, k pulls for result k -/
theorem cost_tight_member (name : List Char) (g : Value → Value) (xs : VL) (h : ∀ x ∈ xs, memberV x name = .ok (g x)) :
    outsOf (mAttr name) xs = lin g 0 0 0 xs := by
  rw [outsOf_idle (mAttr name) () rfl]
  exact lin_run (mAttr name) () g 0 xs (fun x hx => by simp [h x hx]) 0 0

/-- the results of `enumerate`: pair number `j` costs `i+j+1` pulls -/
def linEnum (start : Int) (i a : Nat) : VL → List Out
  | [] => []
  | x :: xs => ⟨.ok (list [int start, x]), i + 1, a⟩ :: linEnum (start + 1) (i + 1) a xs

theorem enumerate_run (start : Int) (xs : VL) (s : Int) (i a : Nat) :
    run (mEnumerate start) s i a xs = linEnum s i a xs := by
  induction xs generalizing s i with
  | nil => rfl
  | cons x xs ih => simp [linEnum, ih]

theorem cost_tight_enumerate (start : Int) (xs : VL) : outsOf (mEnumerate start) xs = linEnum start 0 0 xs := by
  rw [outsOf_idle (mEnumerate start) start rfl]
  exact enumerate_run start xs start 0 0

theorem linEnum_pulls (start : Int) (i a : Nat) (xs : VL) (k : Nat) (o : Out) (h : (linEnum start i a xs)[k]? = some o) :
    o.pulls = i + k + 1 ∧ o.apps = a := by
  fun_induction linEnum start i a xs generalizing k with
  | case1 => simp at h
  | case2 start i x xs ih =>
    cases k with
    | zero => simp at h; subst h; simp
    | succ k => have := ih k (by simpa using h); omega

theorem take_run (n : Nat) (xs : VL) (c r i a : Nat) (h : c + r + 1 = n) :
    run (mTake n) c i a xs = lin id 0 i a (xs.take (r + 1)) := by
  induction xs generalizing c r i with
  | nil => rfl
  | cons x xs ih =>
    cases r with
    | zero => simp [lin, show n ≤ c + 1 by omega]
    | succ r =>
      simp [lin, show ¬ n ≤ c + 1 by omega, ih (c + 1) r (i + 1) (by omega)]

/-- `take(n)`: result k costs k pulls, and the (n+1)-th element is never pulled -/
theorem cost_tight_take (n : Nat) (xs : VL) : outsOf (mTake n) xs = lin id 0 0 0 (xs.take n) := by
  cases n with
  | zero => simp [outsOf_eq, done, stampOuts, lin]
  | succ r =>
    rw [outsOf_idle (mTake (r + 1 : Nat)) 0 (by simp [show ¬ (r : Int) + 1 < 0 by omega, show ¬ (r : Int) + 1 = 0 by omega])]
    exact take_run (r + 1) xs 0 r 0 0 (by omega)

theorem take_never_beyond (n : Nat) (xs : VL) : ∀ o ∈ outsOf (mTake n) xs, o.pulls ≤ n := by
  intro o ho
  rw [cost_tight_take] at ho
  obtain ⟨k, hk, rfl⟩ := List.getElem_of_mem ho
  rw [lin_length] at hk
  rw [lin_get _ _ _ _ _ _ hk]
  simp at hk ⊢; omega

theorem skip_run (n : Nat) (xs : VL) (c r i a : Nat) (h : c + r = n) :
    run (mSkip n) c i a xs = lin id 0 (i + min r xs.length) a (xs.drop r) := by
  induction r generalizing c i xs with
  | zero => simpa using lin_run (mSkip n) c id 0 xs (fun y _ => by simp [show ¬ c < n by omega]) i a
  | succ r ih =>
    cases xs with
    | nil => simp [lin]
    | cons x xs =>
      simp [show c < n by omega, ih xs (c + 1) (i + 1) (by omega)]
      congr 1; omega

/-- `skip(n)`: result k costs n + k pulls -/
theorem cost_tight_skip (n : Nat) (xs : VL) : outsOf (mSkip n) xs = lin id 0 (min n xs.length) 0 (xs.drop n) := by
  rw [outsOf_idle (mSkip n) 0 (by simp [show ¬ (n : Int) < 0 by omega])]
  simpa using skip_run n xs 0 n 0 0 (by omega)

/-! #### filter-like operators: where, distinct, skipWhile, delete

The result is a sub-sequence of the source; result `k` is stamped with the position at which the
`k`-th kept element was pulled. -/

/-- a stateful filter: new state, keep this element?, lambda applications made -/
abbrev FStep (σ : Type) := σ → Value → σ × Bool × Nat

/-- `run m s i a xs` for a machine whose step is the filter step `st` (`filter_run`) -/
def keptSt {σ : Type} (st : FStep σ) : σ → Nat → Nat → VL → List Out
  | _, _, _, [] => []
  | s, i, a, x :: xs =>
    (if (st s x).2.1 then [⟨.ok x, i + 1, a + (st s x).2.2⟩] else []) ++
      keptSt st (st s x).1 (i + 1) (a + (st s x).2.2) xs

/-- position (0-based) of the `k`-th kept element, if the prefix contains it -/
def nthKept {σ : Type} (st : FStep σ) : σ → Nat → VL → Option Nat
  | _, _, [] => none
  | s, k, x :: xs =>
    if (st s x).2.1 then
      (match k with
       | 0 => some 0
       | k + 1 => (nthKept st (st s x).1 k xs).map (· + 1))
    else (nthKept st (st s x).1 k xs).map (· + 1)

/-- the `k`-th result of a filter is produced exactly when the `k`-th kept element is pulled -/
theorem keptSt_pulls {σ : Type} (st : FStep σ) (s : σ) (i a : Nat) (xs : VL) (k : Nat) :
    ((keptSt st s i a xs)[k]?).map (·.pulls) = (nthKept st s k xs).map (fun j => i + j + 1) := by
  induction xs generalizing s i a k with
  | nil => simp [keptSt, nthKept]
  | cons x xs ih =>
    have hj : (fun j => i + 1 + j + 1) = (fun j => i + j + 1) ∘ (· + 1) := by funext j; simp; omega
    simp only [keptSt, nthKept]
    split
    · cases k <;> simp [ih, hj]
    · simp [ih, hj]

theorem keptSt_items {σ : Type} (st : FStep σ) (s : σ) (i a : Nat) (xs : VL) :
    ∀ o ∈ keptSt st s i a xs, ∃ j, j < xs.length ∧ o.pulls = i + j + 1 ∧ o.item = .ok (xs.getD j .null) := by
  fun_induction keptSt st s i a xs with
  | case1 => simp
  | case2 s i a x xs ih =>
    intro o ho
    rcases List.mem_append.mp ho with ho | ho
    · split at ho
      · simp at ho; subst ho; exact ⟨0, by simp, rfl, by simp⟩
      · simp at ho
    · obtain ⟨j, hj, hp, hi⟩ := ih o ho
      exact ⟨j + 1, by simp; omega, by omega, by simpa using hi⟩

theorem filter_run (m : Machine) (st : FStep m.σ) (xs : VL)
    (hstep : ∀ s, ∀ x ∈ xs, m.step s x =
      { st := (st s x).1, outs := if (st s x).2.1 then oks [x] (st s x).2.2 else [], apps := (st s x).2.2 })
    (s : m.σ) (i a : Nat) :
    run m s i a xs = keptSt st s i a xs := by
  induction xs generalizing s i a with
  | nil => rfl
  | cons x xs ih =>
    rw [run_cons, hstep s x (List.mem_cons_self ..)]
    simp only [keptSt, Bool.false_eq_true, ↓reduceIte]
    rw [ih (fun s y hy => hstep s y (List.mem_cons_of_mem _ hy))]
    congr 1
    split <;> simp [stampOuts, oks]

def whereStep (q : Value → Bool) : FStep Unit := fun _ x => ((), q x, 1)

/-- `where`: result k costs (index of the k-th satisfying element + 1) pulls and as many applications -/
theorem cost_tight_where (p : Lam) (q : Value → Bool) (xs : VL) (h : ∀ x ∈ xs, p.test x = .ok (q x)) :
    outsOf (mWhere p) xs = keptSt (whereStep q) () 0 0 xs := by
  rw [outsOf_idle (mWhere p) () rfl]
  refine filter_run (mWhere p) (whereStep q) xs (fun s x hx => ?_) () 0 0
  cases hq : q x <;> simp [react1, h x hx, whereStep, hq, oks]

theorem cost_where_kth (p : Lam) (q : Value → Bool) (xs : VL) (h : ∀ x ∈ xs, p.test x = .ok (q x)) (k : Nat) :
    ((outsOf (mWhere p) xs)[k]?).map (·.pulls) = (nthKept (whereStep q) () k xs).map (· + 1) := by
  rw [cost_tight_where p q xs h, keptSt_pulls]; simp

theorem where_items (q : Value → Bool) (i a : Nat) (xs : VL) :
    (keptSt (whereStep q) () i a xs).map (·.item) = (where_ q xs).map .ok := by
  induction xs generalizing i a with
  | nil => simp [keptSt, where_]
  | cons x xs ih =>
    simp only [keptSt, whereStep, where_, List.filter_cons] at ih ⊢
    by_cases hq : q x = true <;> simp [hq, ih]

def distinctStep (k : Value → Value) (c : Nat) : FStep VL :=
  fun seen x => if sMem seen (k x) then (seen, false, c) else (k x :: seen, true, c)

/-- `distinct`: result k costs the position of the k-th new key -/
theorem cost_tight_distinct (key : Option Lam) (k : Value → Value) (xs : VL)
    (h : ∀ x ∈ xs, (optLam key).eval x = .ok (k x)) (hh : ∀ x ∈ xs, hashable (k x) = true) :
    outsOf (mDistinct key) xs = keptSt (distinctStep k (if key.isSome then 1 else 0)) [] 0 0 xs := by
  rw [outsOf_idle (mDistinct key) [] rfl]
  refine filter_run (mDistinct key) (distinctStep k _) xs (fun s x hx => ?_) [] 0 0
  cases hm : sMem s (k x) <;> simp [h x hx, hh x hx, distinctStep, hm]

theorem distinct_items (k : Value → Value) (c : Nat) (seen : VL) (i a : Nat) (xs : VL) :
    (keptSt (distinctStep k c) seen i a xs).map (·.item) = (distinctAux k seen xs).map .ok := by
  induction xs generalizing seen i a with
  | nil => simp [keptSt, distinctAux]
  | cons x xs ih =>
    simp only [keptSt, distinctStep, distinctAux]
    by_cases hq : sMem seen (k x) = true <;> simp [hq, ih]

def deleteStep (pos count : Int) : FStep Nat := fun i _ => (i + 1, !inRange pos count i, 0)

/-- `delete`: no lambda; result k costs the position of the k-th element outside the range -/
theorem cost_tight_delete (pos count : Int) (xs : VL) :
    outsOf (mDelete pos count) xs = keptSt (deleteStep pos count) 0 0 0 xs := by
  rw [outsOf_idle (mDelete pos count) 0 rfl]
  refine filter_run (mDelete pos count) (deleteStep pos count) xs (fun s x _ => ?_) 0 0 0
  cases hr : inRange pos count s <;> simp [deleteStep, hr]

def skipWhileStep (q : Value → Bool) : FStep Bool :=
  fun dropping x => if dropping then (if q x then (true, false, 1) else (false, true, 1)) else (false, true, 0)

/-- `skipWhile`: the predicate is applied only until it first fails -/
theorem cost_tight_skipWhile (p : Lam) (q : Value → Bool) (xs : VL) (h : ∀ x ∈ xs, p.test x = .ok (q x)) :
    outsOf (mSkipWhile p) xs = keptSt (skipWhileStep q) true 0 0 xs := by
  rw [outsOf_idle (mSkipWhile p) true rfl]
  refine filter_run (mSkipWhile p) (skipWhileStep q) xs (fun s x hx => ?_) true 0 0
  cases s <;> cases hq : q x <;> simp [skipWhileStep, h x hx, hq]

/-- after the first failure `skipWhile` makes no further application -/
theorem skipWhile_apps_bounded (q : Value → Bool) (i a : Nat) (xs : VL) :
    ∀ o ∈ keptSt (skipWhileStep q) false i a xs, o.apps = a := by
  induction xs generalizing i with
  | nil => simp [keptSt]
  | cons x xs ih =>
    intro o ho
    simp only [keptSt, skipWhileStep, Bool.false_eq_true, ↓reduceIte, List.singleton_append, Nat.add_zero,
      List.mem_cons] at ho
    rcases ho with rfl | ho
    · rfl
    · exact ih (i + 1) o ho

theorem takeWhile_run (p : Lam) (q : Value → Bool) (xs : VL) (h : ∀ x ∈ xs, p.test x = .ok (q x)) (i a : Nat) :
    run (mTakeWhile p) () i a xs = lin id 1 i a (xs.takeWhile q) := by
  induction xs generalizing i a with
  | nil => rfl
  | cons x xs ih =>
    rw [List.forall_mem_cons] at h
    cases hq : q x <;> simp [h.1, hq, lin, ih h.2]

/-- `takeWhile`: result k costs k pulls and k applications; the failing element is pulled only
    when a further result is demanded (it is stamped on no result) -/
theorem cost_tight_takeWhile (p : Lam) (q : Value → Bool) (xs : VL) (h : ∀ x ∈ xs, p.test x = .ok (q x)) :
    outsOf (mTakeWhile p) xs = lin id 1 0 0 (xs.takeWhile q) := by
  rw [outsOf_idle (mTakeWhile p) () rfl]
  exact takeWhile_run p q xs h 0 0

/-- `w s j` is what the first hit emits when it comes `j` elements on from state `s` -/
theorem search_run (m : Machine) (q : Value → Bool) (c : Nat) (w : m.σ → Nat → Item) (nxt : m.σ → m.σ)
    (hw : ∀ s j, w (nxt s) j = w s (j + 1)) (xs : VL)
    (h : ∀ s, ∀ x ∈ xs, m.step s x =
      if q x then { st := s, outs := one (w s 0) c, apps := c, stop := true } else { st := nxt s, apps := c })
    (s : m.σ) (i a : Nat) :
    run m s i a xs =
      match nthKept (whereStep q) () 0 xs with
      | none => []
      | some j => [⟨w s j, i + j + 1, a + (j + 1) * c⟩] := by
  induction xs generalizing s i a with
  | nil => rfl
  | cons x xs ih =>
    rw [run_cons, h s x (List.mem_cons_self ..)]
    cases hq : q x
    · simp only [nthKept, whereStep, hq, Bool.false_eq_true, ↓reduceIte, stampOuts, List.map_nil, List.nil_append,
        ih (fun s y hy => h s y (List.mem_cons_of_mem _ hy))]
      cases nthKept (whereStep q) () 0 xs with
      | none => rfl
      | some j => simp [hw, Nat.succ_mul (j + 1), Nat.add_assoc, Nat.add_comm c]; omega
    · simp [nthKept, whereStep, hq, stampOuts, one]

theorem indexWhere_run (p : Value → R Bool) (b : Bool) (q : Value → Bool) (xs : VL) (h : ∀ x ∈ xs, p x = .ok (q x))
    (s i a : Nat) :
    run (mIndexWhere p b) s i a xs =
      match nthKept (whereStep q) () 0 xs with
      | none => []
      | some j => [⟨.ok (int ((s + j : Nat) : Int)), i + j + 1, a + (j + 1) * (if b then 1 else 0)⟩] :=
  search_run (mIndexWhere p b) q _ (fun s j => .ok (int ((s + j : Nat) : Int))) (· + 1)
    (fun s j => by simp only [Nat.add_assoc, Nat.add_comm 1]) xs
    (fun s x hx => by cases hq : q x <;> simp [h x hx, hq, oks, one]) s i a

/-- `indexWhere`: the only result costs (position of the first hit + 1) pulls and applications;
    nothing is produced (and nothing more is known) while no hit is in the prefix -/
theorem cost_tight_indexWhere (p : Lam) (q : Value → Bool) (xs : VL) (h : ∀ x ∈ xs, p.test x = .ok (q x)) :
    outsOf (mIndexWhere p.test true) xs =
      match nthKept (whereStep q) () 0 xs with
      | none => []
      | some j => [⟨.ok (int j), j + 1, j + 1⟩] := by
  simpa [outsOf_idle (mIndexWhere p.test true) 0 rfl] using indexWhere_run p.test true q xs h 0 0 0

/-- `indexOf`: position of the first `==` element + 1 pulls, no lambda -/
theorem cost_tight_indexOf (v : Value) (xs : VL) :
    outsOf (mIndexOf v) xs =
      match nthKept (whereStep (fun x => pyEq x v)) () 0 xs with
      | none => []
      | some j => [⟨.ok (int j), j + 1, 0⟩] := by
  simpa [outsOf_idle (mIndexOf v) 0 rfl] using indexWhere_run _ false (fun x => pyEq x v) xs (fun _ _ => rfl) 0 0 0

/-- `first`: one pull -/
theorem cost_tight_first (d : Option Value) (x : Value) (xs : VL) :
    outsOf (mFirst d) (x :: xs) = [⟨.ok x, 1, 0⟩] := by
  simp [outsOf_idle (mFirst d) () rfl]

/-- `any(p)`: stops at the first hit -/
theorem cost_tight_any (l : Lam) (q : Value → Bool) (xs : VL) (h : ∀ x ∈ xs, l.test x = .ok (q x)) :
    outsOf (mAny (some l)) xs =
      match nthKept (whereStep q) () 0 xs with
      | none => []
      | some j => [⟨.ok (bool true), j + 1, j + 1⟩] := by
  simpa [outsOf_idle (mAny (some l)) () rfl] using
    search_run (mAny (some l)) q 1 (fun _ _ => .ok (bool true)) id (fun _ _ => rfl) xs
      (fun s x hx => by cases hq : q x <;> simp [h x hx, hq, oks, one]) () 0 0

/-- `all(p)`: stops at the first counter-example -/
theorem cost_tight_all (l : Lam) (q : Value → Bool) (xs : VL) (h : ∀ x ∈ xs, l.test x = .ok (q x)) :
    outsOf (mAll (some l)) xs =
      match nthKept (whereStep (fun x => !q x)) () 0 xs with
      | none => []
      | some j => [⟨.ok (bool false), j + 1, j + 1⟩] := by
  simpa [outsOf_idle (mAll (some l)) () rfl] using
    search_run (mAll (some l)) (fun x => !q x) 1 (fun _ _ => .ok (bool false)) id (fun _ _ => rfl) xs
      (fun s x hx => by cases hq : q x <;> simp [optLam, h x hx, hq, oks, one]) () 0 0

/-- `zip(before.., S, after..)` seen from `S`: row `j` while every collection behind has an element
    `j`, and a further pull only if every collection in front has an element `j+1` -/
def linZipAt (before after : List VL) (j i a : Nat) : VL → List Out
  | [] => []
  | y :: ys =>
    if after.all (fun o => decide (j < o.length)) then
      ⟨.ok (tuple (before.map (fun o => o.getD j null) ++ y :: after.map fun o => o.getD j null)), i + 1, a⟩ ::
        (if before.all (fun o => decide (j + 1 < o.length)) then linZipAt before after (j + 1) (i + 1) a ys else [])
    else []

theorem zipAt_run (before after : List VL) (ys : VL) (j i a : Nat) :
    run (mZipAt before after) j i a ys = linZipAt before after j i a ys := by
  induction ys generalizing j i with
  | nil => rfl
  | cons y ys ih =>
    by_cases hall : after.all (fun o => decide (j < o.length)) = true <;>
      by_cases hb : before.all (fun o => decide (j + 1 < o.length)) = true <;>
        simp [linZipAt, hall, hb, done, ih]

/-- `zip`, a later collection: nothing is pulled when a collection in front is empty; otherwise row k
    costs k pulls (`linZipAt_pulls`) -/
theorem cost_tight_zipAt (before after : List VL) (ys : VL) :
    outsOf (mZipAt before after) ys =
      if before.all (fun o => decide (0 < o.length)) then linZipAt before after 0 0 0 ys else [] := by
  by_cases hb : before.all (fun o => decide (0 < o.length)) = true
  · rw [outsOf_idle (mZipAt before after) 0 (by simp only [hb, ↓reduceIte]), if_pos hb]
    exact zipAt_run before after ys 0 0 0
  · simp [outsOf_eq, hb, done, stampOuts]

/-- row k costs k+1 pulls of the later collection, and it is never asked for more rows than the
    shortest collection in front of it has -/
theorem linZipAt_pulls (before after : List VL) (j i a : Nat) (ys : VL) (k : Nat) (o : Out)
    (h : (linZipAt before after j i a ys)[k]? = some o) :
    o.pulls = i + k + 1 ∧ o.apps = a ∧ ∀ b ∈ before, j + k < b.length ∨ k = 0 := by
  fun_induction linZipAt before after j i a ys generalizing k with
  | case1 | case3 => simp at h
  | case2 j i y ys _ ih =>
    cases k with
    | zero => simp at h; subst h; simp
    | succ k =>
      simp only [List.getElem?_cons_succ] at h
      split at h
      · rename_i hb
        have := ih k h
        refine ⟨by omega, this.2.1, fun b hbm => Or.inl ?_⟩
        have hlen := List.all_eq_true.mp hb b hbm
        simp at hlen
        rcases this.2.2 b hbm with h1 | h1 <;> omega
      · simp at h

def linZip (others : List VL) (j i a : Nat) : VL → List Out
  | [] => []
  | x :: xs =>
    if others.all (fun o => decide (j < o.length)) then
      ⟨.ok (tuple (x :: others.map fun o => o.getD j null)), i + 1, a⟩ :: linZip others (j + 1) (i + 1) a xs
    else []

theorem mZip_eq (others : List VL) : mZip others = mZipAt [] others := by
  simp [mZip, mZipAt]

theorem linZip_eq (others : List VL) (j i a : Nat) (xs : VL) :
    linZip others j i a xs = linZipAt [] others j i a xs := by
  induction xs generalizing j i with
  | nil => rfl
  | cons x xs ih => simp [linZip, linZipAt, ih]

/-- `zip`: row k costs k pulls (one element of the receiver per row) -/
theorem cost_tight_zip (others : List VL) (xs : VL) : outsOf (mZip others) xs = linZip others 0 0 0 xs := by
  simp [mZip_eq, cost_tight_zipAt, linZip_eq]

theorem linZip_pulls (others : List VL) (j i a : Nat) (xs : VL) (k : Nat) (o : Out)
    (h : (linZip others j i a xs)[k]? = some o) : o.pulls = i + k + 1 ∧ o.apps = a :=
  have := linZipAt_pulls [] others j i a xs k o (linZip_eq .. ▸ h)
  ⟨this.1, this.2.1⟩

def linAcc (g : Value → Value → Value) (acc : Value) (i a : Nat) : VL → List Out
  | [] => []
  | x :: xs => ⟨.ok (g acc x), i + 1, a + 1⟩ :: linAcc g (g acc x) (i + 1) (a + 1) xs

theorem accumulate_run (f : Lam2) (g : Value → Value → Value) (seed : Option Value) (xs : VL)
    (h : ∀ u v, f.eval u v = .ok (g u v)) (acc : Value) (i a : Nat) :
    run (mAccumulate f seed) (some acc) i a xs = linAcc g acc i a xs := by
  induction xs generalizing acc i a with
  | nil => rfl
  | cons x xs ih => simp [h, linAcc, ih]

/-- `accumulate` with a seed: the seed costs nothing, value k costs k pulls and k applications -/
theorem cost_tight_accumulate_seed (f : Lam2) (g : Value → Value → Value) (s : Value) (xs : VL)
    (h : ∀ u v, f.eval u v = .ok (g u v)) :
    outsOf (mAccumulate f (some s)) xs = ⟨.ok s, 0, 0⟩ :: linAcc g s 0 0 xs := by
  simp [outsOf_eq, accumulate_run f g (some s) xs h]

/-- `accumulate` without seed: the first element is handed on (1 pull, no application), then
    value k costs k pulls and k-1 applications -/
theorem cost_tight_accumulate (f : Lam2) (g : Value → Value → Value) (x : Value) (xs : VL)
    (h : ∀ u v, f.eval u v = .ok (g u v)) :
    outsOf (mAccumulate f none) (x :: xs) = ⟨.ok x, 1, 0⟩ :: linAcc g x 1 0 xs := by
  simp [outsOf_idle (mAccumulate f none) none rfl, accumulate_run f g none xs h]

theorem linAcc_items (g : Value → Value → Value) (acc : Value) (i a : Nat) (xs : VL) :
    (linAcc g acc i a xs).map (·.item) = (scanFrom g acc xs).map .ok := by
  induction xs generalizing acc i a with
  | nil => simp [linAcc, scanFrom]
  | cons x xs ih => simp [linAcc, scanFrom, ih]

theorem linAcc_cost (g : Value → Value → Value) (acc : Value) (i a : Nat) (xs : VL) (k : Nat) (o : Out)
    (h : (linAcc g acc i a xs)[k]? = some o) : o.pulls = i + k + 1 ∧ o.apps = a + k + 1 := by
  fun_induction linAcc g acc i a xs generalizing k with
  | case1 => simp at h
  | case2 acc i a x xs ih =>
    cases k with
    | zero => simp at h; subst h; simp
    | succ k => have := ih k (by simpa using h); omega

def linSlice (n : Nat) (buf : VL) (i a : Nat) : VL → List Out
  | [] => []
  | x :: xs =>
    if (buf ++ [x]).length ≥ n then ⟨.ok (tuple (buf ++ [x])), i + 1, a⟩ :: linSlice n [] (i + 1) a xs
    else linSlice n (buf ++ [x]) (i + 1) a xs

theorem slice_run (n : Nat) (xs : VL) (buf : VL) (i a : Nat) :
    run (mSlice n) buf i a xs = linSlice n buf i a xs := by
  induction xs generalizing buf i with
  | nil => rfl
  | cons x xs ih =>
    by_cases hfull : n ≤ buf.length + 1 <;> simp [linSlice, hfull, ih]

theorem cost_tight_slice (n : Nat) (hn : 0 < n) (xs : VL) : outsOf (mSlice n) xs = linSlice n [] 0 0 xs := by
  rw [outsOf_idle (mSlice n) [] (by simp [show ¬ (n : Int) < 0 by omega]; omega)]
  exact slice_run n xs [] 0 0

/-- `slice(n)`: chunk k is complete, and produced, exactly when (k+1)·n elements have been pulled -/
theorem linSlice_pulls (n : Nat) (hn : 0 < n) (buf : VL) (hb : buf.length < n) (i a : Nat) (xs : VL) (k : Nat) (o : Out)
    (h : (linSlice n buf i a xs)[k]? = some o) : o.pulls + buf.length = i + (k + 1) * n ∧ o.apps = a := by
  fun_induction linSlice n buf i a xs generalizing k with
  | case1 => simp at h
  | case2 buf i x xs hfull ih =>
    simp at hfull
    cases k with
    | zero => simp at h; subst h; simp; omega
    | succ k =>
      have := ih (by simpa using hn) k (by simpa using h)
      rw [Nat.succ_mul (k + 1)]
      simp at this; omega
  | case3 buf i x xs hfull ih =>
    have := ih (by simp at hfull ⊢; omega) k h
    simp at this; omega

def linMany (g : Value → VL) (i a : Nat) : VL → List Out
  | [] => []
  | x :: xs => (g x).map (fun v => ⟨.ok v, i + 1, a + 1⟩) ++ linMany g (i + 1) (a + 1) xs

/-- `selectMany`: everything an element expands to is stamped with that element's pull and ONE
    application -/
theorem cost_tight_selectMany (f : Lam) (g : Value → VL) (xs : VL)
    (h : ∀ x ∈ xs, ∃ v, f.eval x = .ok v ∧ g x = if isIterable v then elems v else [v]) :
    outsOf (mSelectMany f) xs = linMany g 0 0 xs := by
  rw [outsOf_idle (mSelectMany f) () rfl]
  suffices ∀ i a, run (mSelectMany f) () i a xs = linMany g i a xs from this 0 0
  induction xs with
  | nil => exact fun _ _ => rfl
  | cons x xs ih =>
    rw [List.forall_mem_cons] at h
    obtain ⟨⟨v, hv, hg⟩, h⟩ := h
    simp [react1, hv, ← hg, linMany, ih h]

theorem linMany_pulls (g : Value → VL) (i a : Nat) (xs : VL) :
    ∀ o ∈ linMany g i a xs, ∃ j, j < xs.length ∧ o.pulls = i + j + 1 ∧ o.apps = a + j + 1 := by
  fun_induction linMany g i a xs with
  | case1 => simp
  | case2 i a x xs ih =>
    intro o ho
    rcases List.mem_append.mp ho with ho | ho
    · obtain ⟨v, _, rfl⟩ := List.mem_map.mp ho
      exact ⟨0, by simp, rfl, rfl⟩
    · obtain ⟨j, hj, hp, ha⟩ := ih o ho
      exact ⟨j + 1, by simp; omega, by omega, by omega⟩

/-- `join`, outer side: the rows made with outer element j are stamped with pull j+1; the inner
    collection is scanned once per outer element (at most 2 applications per inner element) -/
def linJoin (other : VL) (pred sel : Lam2) (i a : Nat) : VL → List Out
  | [] => []
  | x :: xs =>
    stampOuts (joinCosts pred sel x 0 other).1 (i + 1) a ++
      (if (joinCosts pred sel x 0 other).2.2 then []
       else linJoin other pred sel (i + 1) (a + (joinCosts pred sel x 0 other).2.1) xs)

theorem join_run (other : VL) (pred sel : Lam2) (xs : VL) (i a : Nat) :
    run (mJoin other pred sel) () i a xs = linJoin other pred sel i a xs := by
  induction xs generalizing i a with
  | nil => rfl
  | cons x xs ih => simp only [run_cons, linJoin, ih]

theorem cost_tight_join (other : VL) (pred sel : Lam2) (xs : VL) :
    outsOf (mJoin other pred sel) xs = linJoin other pred sel 0 0 xs := by
  rw [outsOf_idle (mJoin other pred sel) () rfl]
  exact join_run other pred sel xs 0 0

theorem joinCosts_apps (pred sel : Lam2) (x : Value) (a : Nat) (other : VL) :
    (joinCosts pred sel x a other).2.1 ≤ a + 2 * other.length ∧
    ∀ p ∈ (joinCosts pred sel x a other).1, p.2 ≤ a + 2 * other.length := by
  fun_induction joinCosts pred sel x a other with
  | case1 => simp
  | case2 | case3 => simp; omega
  | case4 a y ys _ _ _ _ _ r ih =>
    simp only [r, List.length_cons, List.mem_cons, forall_eq_or_imp]
    exact ⟨by omega, by omega, fun p hp => by have := ih.2 p hp; omega⟩
  | case5 a y ys _ _ _ ih =>
    simp only [List.length_cons]
    exact ⟨by omega, fun p hp => by have := ih.2 p hp; omega⟩

theorem linJoin_pulls (other : VL) (pred sel : Lam2) (i a : Nat) (xs : VL) :
    ∀ o ∈ linJoin other pred sel i a xs, ∃ j, j < xs.length ∧ o.pulls = i + j + 1 ∧ o.apps ≤ a + 2 * other.length * (j + 1) := by
  rw [← join_run]
  exact run_cost (mJoin other pred sel) _ (fun _ x => by simpa using joinCosts_apps pred sel x 0 other) xs () i a

/-- If every step that emits nothing lowers the potential `φ` of the state, result `k` is there by
    the time `k + 1 + φ s` elements are pulled. -/
theorem pulls_le_of_potential (m : Machine) (φ : m.σ → Nat)
    (h : ∀ s x, φ (m.step s x).st + 1 ≤ φ s + (m.step s x).outs.length) (xs : VL) (s : m.σ) (i a k : Nat) (o : Out)
    (ho : (run m s i a xs)[k]? = some o) : o.pulls ≤ i + k + 1 + φ s := by
  induction xs generalizing s i a k with
  | nil => simp at ho
  | cons x xs ih =>
    rw [run_cons] at ho
    have hlen : (stampOuts (m.step s x).outs (i + 1) a).length = (m.step s x).outs.length := by simp [stampOuts]
    by_cases hk : k < (m.step s x).outs.length
    · rw [List.getElem?_append_left (by omega)] at ho
      have := (stampOuts_stamps _ _ _ o (List.mem_of_getElem? ho)).1
      omega
    · rw [List.getElem?_append_right (by omega)] at ho
      split at ho
      · simp at ho
      · have := ih _ _ _ _ ho
        have := h s x
        omega

/-- `insert` / `insertMany` on an iterator: at most one element is pulled beyond the number of
    results produced (the element in front of which the values go) -/
theorem cost_tight_insert (pos : Int) (hpos : 0 ≤ pos) (vals : VL) (front : Bool) (xs : VL) (k : Nat) (o : Out)
    (h : (outsOf (mInsert pos vals front) xs)[k]? = some o) : o.pulls ≤ k + 1 := by
  rw [outsOf_idle (mInsert pos vals front) 0 (by simp [show ¬ pos < 0 by omega])] at h
  have := pulls_le_of_potential (mInsert pos vals front) (fun _ => 0)
    (fun s x => by dsimp only; split <;> simp [oks]) xs _ _ _ _ _ h
  omega

/-- A machine that counts its input in `idx` and swallows only elements whose number lies in `[pos, pos+count)`.
    The potential is the number of indices of the range still to come. -/
theorem pulls_le_of_range (m : Machine) (idx : m.σ → Nat) (pos count : Int) (hc : 0 ≤ count)
    (hstep : ∀ s x, idx (m.step s x).st = idx s + 1 ∧ (inRange pos count (idx s) = false → (m.step s x).outs ≠ []))
    (s₀ : m.σ) (hs : m.start = idle s₀) (xs : VL) (k : Nat) (o : Out) (h : (outsOf m xs)[k]? = some o) :
    o.pulls ≤ k + 1 + count.toNat := by
  rw [outsOf_idle m s₀ hs] at h
  have := pulls_le_of_potential m (fun s => Int.toNat (pos + count - max pos (idx s : Int))) (fun s x => by
    obtain ⟨hi, hout⟩ := hstep s x
    simp only [hi]
    cases hr : inRange pos count (idx s)
    · have := List.length_pos_iff.mpr (hout hr)
      omega
    · simp only [inRange, hc, ↓reduceIte, Bool.and_eq_true, decide_eq_true_eq] at hr
      omega) xs _ _ _ _ _ h
  omega

/-- `replace` / `replaceMany` (non-negative count): the elements of the range are pulled and
    dropped, so result k costs at most k + 1 pulls plus the size of the range -/
theorem cost_tight_replace (pos count : Int) (hc : 0 ≤ count) (vals : VL) (xs : VL) (k : Nat) (o : Out)
    (h : (outsOf (mReplace pos count vals) xs)[k]? = some o) : o.pulls ≤ k + 1 + count.toNat :=
  pulls_le_of_range (mReplace pos count vals) (·.1) pos count hc
    (fun s x => by cases hr : inRange pos count s.1 <;> cases hd : s.2 <;> simp [hr, hd, oks]) (0, false) rfl xs k o h

/-- `delete` (non-negative count): result k costs at most k + count + 1 pulls -/
theorem cost_delete_le (pos count : Int) (hc : 0 ≤ count) (xs : VL) (k : Nat) (o : Out)
    (h : (outsOf (mDelete pos count) xs)[k]? = some o) : o.pulls ≤ k + 1 + count.toNat :=
  pulls_le_of_range (mDelete pos count) id pos count hc
    (fun s x => by cases hr : inRange pos count s <;> simp [hr, oks]) 0 rfl xs k o h

/-! ### operators seen from a SECONDARY lazy collection argument

`join`'s second collection (memorised), the further collections of `zip` / `zipLongest` / `concat` /
`+`, the values of `insertMany` / `replaceMany`, the default of `defaultIfEmpty`, the result of a
`selectMany` selector.  The machines run over THAT collection, so the generic `causal` applies as
it stands: what the operator has produced by the time n elements of its secondary collection are
pulled depends on those n elements only. -/

theorem causal_joinInner (outer : VL) (pred sel : Lam2) (xs ys : VL) :
    (outsOf (mJoinInner outer pred sel) (xs ++ ys)).filter (fun o => decide (o.pulls ≤ xs.length)) =
      outsOf (mJoinInner outer pred sel) xs := causal _ xs ys
theorem causal_zipAt (before after : List VL) (xs ys : VL) :
    (outsOf (mZipAt before after) (xs ++ ys)).filter (fun o => decide (o.pulls ≤ xs.length)) = outsOf (mZipAt before after) xs :=
  causal _ xs ys
theorem causal_zipLongestAt (before after : List VL) (fill : Value) (xs ys : VL) :
    (outsOf (mZipLongestAt before after fill) (xs ++ ys)).filter (fun o => decide (o.pulls ≤ xs.length)) =
      outsOf (mZipLongestAt before after fill) xs := causal _ xs ys
theorem causal_splice (head : VL) (tail : Option VL) (xs ys : VL) :
    (outsOf (mSplice head tail) (xs ++ ys)).filter (fun o => decide (o.pulls ≤ xs.length)) = outsOf (mSplice head tail) xs :=
  causal _ xs ys
theorem causal_selectManyInner (b : Bool) (xs ys : VL) :
    (outsOf (mSelectManyInner b) (xs ++ ys)).filter (fun o => decide (o.pulls ≤ xs.length)) = outsOf (mSelectManyInner b) xs :=
  causal _ xs ys

/-- `causal_pipeline` for a pipeline of the shape `feed ++ m :: post`: stages feeding a secondary
    argument, the operator, what follows it -/
theorem causal_secondary (feed post : List Machine) (m : Machine) (xs ys : VL) :
    (pipeOuts (feed ++ m :: post) (xs ++ ys)).filter (fun o => decide (o.pulls ≤ xs.length)) = pipeOuts (feed ++ m :: post) xs :=
  causal_pipeline _ xs ys

/-- the rows made with the first outer element `x`: inner element j gives its rows at `i+j+1`
    pulls, one predicate application (and one selector application when it holds) each -/
def linJoinInner (pred sel : Lam2) (x : Value) (i a : Nat) : VL → List Out
  | [] => []
  | y :: ys =>
    stampOuts (joinCosts pred sel x 0 [y]).1 (i + 1) a ++
      (if (joinCosts pred sel x 0 [y]).2.2 then []
       else linJoinInner pred sel x (i + 1) (a + (joinCosts pred sel x 0 [y]).2.1) ys)

theorem joinInner_run (x : Value) (rest : VL) (pred sel : Lam2) (ys : VL) (memo : VL) (i a : Nat) :
    run (mJoinInner (x :: rest) pred sel) memo i a ys = linJoinInner pred sel x i a ys := by
  induction ys generalizing memo i a with
  | nil => rfl
  | cons y ys ih => simp only [run_cons, linJoinInner, ih, List.headD_cons]

/-- `join`, inner side, some outer element: the inner collection is pulled on demand while the rows
    of the FIRST outer element are made - whatever the other outer elements are -/
theorem cost_tight_joinInner (x : Value) (rest : VL) (pred sel : Lam2) (ys : VL) :
    outsOf (mJoinInner (x :: rest) pred sel) ys = linJoinInner pred sel x 0 0 ys := by
  rw [outsOf_idle (mJoinInner (x :: rest) pred sel) [] rfl]
  exact joinInner_run x rest pred sel ys [] 0 0

/-- a row made from inner element j costs j+1 pulls of the inner collection and at most 2(j+1)
    applications -/
theorem linJoinInner_cost (pred sel : Lam2) (x : Value) (i a : Nat) (ys : VL) :
    ∀ o ∈ linJoinInner pred sel x i a ys, ∃ j, j < ys.length ∧ o.pulls = i + j + 1 ∧ o.apps ≤ a + 2 * (j + 1) := by
  rw [← joinInner_run x [] pred sel ys []]
  exact run_cost (mJoinInner [x] pred sel) 2 (fun _ y => by simpa using joinCosts_apps pred sel x 0 [y]) ys [] i a

/-- `join` with no outer element never touches its second collection -/
theorem joinInner_empty_outer (pred sel : Lam2) (I : Strm) :
    runOn (mJoinInner [] pred sel) I = ⟨[], some (0, 0)⟩ := by
  rw [runOn_of_start_stop _ rfl]
  rfl

/-- the second collection is gone through ONCE, however many outer elements there are: on a
    collection of n elements no row costs more than the n pulls plus the one that finds the end -/
theorem joinInner_single_pass (outer : VL) (pred sel : Lam2) (ys : VL) :
    ∀ o ∈ (runOn (mJoinInner outer pred sel) (srcClosed ys)).outs, o.pulls ≤ ys.length + 1 := by
  intro o ho
  rcases compose_cost _ _ o ho with h | ⟨i, hi, hp, _⟩ | ⟨p, ua, hf, hp, _⟩
  · omega
  · have := (stampSrc_pulls 0 ys i hi).2
    omega
  · simp only [srcClosed, Option.some.injEq, Prod.mk.injEq] at hf
    omega

/-! #### a lazy collection spliced between constant runs: concat, +, insertMany, replaceMany, defaultIfEmpty -/

/-- the constant run in front costs nothing; then element k of the lazy collection costs k pulls
    (the run behind it is only reached at exhaustion) -/
theorem cost_tight_splice (head tail : VL) (ys : VL) :
    outsOf (mSplice head (some tail)) ys = head.map (fun v => ⟨.ok v, 0, 0⟩) ++ lin id 0 0 0 ys := by
  simp [outsOf_eq, lin_run (mSplice head (some tail)) () id 0 ys (fun _ _ => rfl)]

/-- `replaceMany` whose range meets no element, `defaultIfEmpty` on a non-empty receiver: the lazy
    argument is never asked for anything -/
theorem splice_untouched (head : VL) (I : Strm) :
    runOn (mSplice head none) I = ⟨head.map (fun v => ⟨.ok v, 0, 0⟩), some (0, 0)⟩ := by
  rw [runOn_of_start_stop _ rfl]
  simp [stampOuts, oks]

theorem spliceDefault_nonempty (x : Value) (xs : VL) : spliceDefault (x :: xs) = (x :: xs, none) := rfl
theorem spliceDefault_empty : spliceDefault [] = ([], some []) := rfl

/-- a range that meets no element of the receiver leaves the values untouched (count = 0, or a position
    at or behind the end) -/
theorem spliceReplaceMany_none (pos count : Int) (xs : VL) (i : Nat)
    (h : ∀ k, k < xs.length → inRange pos count (i + k) = false) :
    spliceReplaceMany pos count i xs = (xs, none) := by
  induction xs generalizing i with
  | nil => rfl
  | cons x xs ih =>
    have h0 := h 0 (by simp)
    simp only [Nat.add_zero] at h0
    simp only [spliceReplaceMany, h0, Bool.false_eq_true, ↓reduceIte]
    rw [ih (i + 1) (fun k hk => by have := h (k + 1) (by simpa using hk); rwa [Nat.add_assoc, Nat.add_comm 1 k])]

theorem replaceFrom_done (pos count : Int) (vals : VL) (j : Nat) (zs : VL) :
    replaceFrom pos count vals j true zs = deleteFrom pos count j zs := by
  induction zs generalizing j with
  | nil => rfl
  | cons z zs ih =>
    simp only [replaceFrom, deleteFrom, ↓reduceIte, List.nil_append]
    split <;> simp [ih]

/-- the pieces of `replaceMany` put together again are what the reference function of C13 gives -/
theorem spliceReplaceMany_spec (pos count : Int) (vals : VL) (xs : VL) (i : Nat) :
    replaceFrom pos count vals i false xs =
      (spliceReplaceMany pos count i xs).1 ++
        (match (spliceReplaceMany pos count i xs).2 with | none => [] | some t => vals ++ t) := by
  induction xs generalizing i with
  | nil => rfl
  | cons x xs ih =>
    cases hr : inRange pos count i <;> simp [replaceFrom, spliceReplaceMany, hr, ih, replaceFrom_done]

/-- `insertMany`: the pieces put together again -/
theorem spliceInsertMany_parts (xs : VL) (pos : Int) :
    (spliceInsertMany xs pos).1 ++ ((spliceInsertMany xs pos).2.getD []) = xs := by
  simp [spliceInsertMany]

theorem cost_tight_selectManyInner (ys : VL) : outsOf (mSelectManyInner true) ys = lin id 0 0 1 ys := by
  simp [outsOf_eq, stampOuts, lin_run (mSelectManyInner true) () id 0 ys (fun _ _ => rfl)]

theorem selectManyInner_empty (I : Strm) : runOn (mSelectManyInner false) I = ⟨[], some (0, 0)⟩ := by
  rw [runOn_of_start_stop _ rfl]
  rfl

/-- non-vacuity: `join` seen from its second collection - two outer elements, three inner ones behind a `select`,
    first row wanted: ONE inner element is pulled, and none with an empty outer side -/
example : ((pipeOuts [mSelect .arg, mJoinInner [.int 1, .int 2] (.const (.bool true)) .plus, mTake 1]
    [.int 10, .int 20, .int 30]).map fun o => (o.pulls, o.apps)) = [(1, 3)] := by decide +kernel
example : (Stream.runPipe [mSelect .arg, mJoinInner [] (.const (.bool true)) .plus] (srcClosed [.int 10, .int 20])).fin = some (0, 0) := by
  decide +kernel

/-- `[1,2,3,...].where($ > 1).select($ + 10)`: the first result needs 2 pulls / 3 applications, the
    second 3 pulls / 5 applications -/
example : (pipeOuts [mWhere (.gt .arg 1), mSelect (.add .arg 10)] [.int 1, .int 2, .int 3]).map
    (fun o => (o.pulls, o.apps)) = [(2, 3), (3, 5)] := by decide +kernel

/-- `take(2)` after `skip(1)`: never more than 3 pulls, whatever follows -/
example : (pipeOuts [mSkip 1, mTake 2] [.int 1, .int 2, .int 3, .int 4, .int 5]).map (·.pulls) = [2, 3] := by decide +kernel

/-- an endless source `0,1,2,...`: `where($ mod 3 = 0).take(2)` is total with fuel 4 -/
example : (firstK [mWhere (.eq (.mod .arg 3) (.int 0)), mTake 2] (prefixOf (fun i => .int i) 4) 2).map
    (List.map (·.pulls)) = some [1, 4] := by decide +kernel

end Yaql.Props.C14
