import Yaql.Model.OpTable
/-!
C02, table layer: where `insert_operator` puts a record, for every operator list.

The group of a record is the number of separators `()` before it (`_build_operator_table`
increments `precedence` at every separator), so the list is read through `splitGroups`.
-/
namespace Yaql.Props.C02Table
open Yaql.OpTable

/-- the operator list cut at its separators: `n` separators give `n + 1` groups, tightest first -/
def splitGroups : OpList → List (List Rec)
  | [] => [[]]
  | .sep :: rs => [] :: splitGroups rs
  | .op s t a :: rs =>
      match splitGroups rs with
      | g :: gs => (.op s t a :: g) :: gs
      | [] => [[.op s t a]]

def countSeps : OpList → Nat
  | [] => 0
  | .sep :: rs => countSeps rs + 1
  | .op .. :: rs => countSeps rs

/-- index (from 0) of the group that holds the record at position `i` -/
def groupIndex (ops : OpList) (i : Nat) : Nat := countSeps (ops.take i)

/-- no group is empty (no leading, trailing or doubled separator; the list is not empty) -/
def Tidy (ops : OpList) : Prop := ∀ g ∈ splitGroups ops, g ≠ []

theorem splitGroups_ne_nil : ∀ ops : OpList, splitGroups ops ≠ []
  | [] => by simp [splitGroups]
  | .sep :: rs => by simp [splitGroups]
  | .op s t a :: rs => by
    simp only [splitGroups]
    split <;> simp

theorem splitGroups_op (s : Str) (t : OpType) (a : Option Str) (rs : OpList) :
    ∃ g gs, splitGroups rs = g :: gs ∧ splitGroups (.op s t a :: rs) = (.op s t a :: g) :: gs := by
  cases h : splitGroups rs with
  | nil => exact absurd h (splitGroups_ne_nil rs)
  | cons g gs => exact ⟨g, gs, rfl, by simp [splitGroups, h]⟩

theorem length_splitGroups : ∀ ops : OpList, (splitGroups ops).length = countSeps ops + 1
  | [] => by simp [splitGroups, countSeps]
  | .sep :: rs => by simp [splitGroups, countSeps, length_splitGroups rs]
  | .op s t a :: rs => by
    obtain ⟨g, gs, h1, h2⟩ := splitGroups_op s t a rs
    rw [h2, countSeps, ← length_splitGroups rs, h1]
    rfl

/-- inserting an operator record at the end of a group (in front of a separator or of the end of the
list) appends it to that group and changes nothing else -/
theorem splitGroups_insert_end (new : Rec) (hn : new.isOp = true) :
    ∀ (a b : OpList), (b = [] ∨ ∃ b', b = .sep :: b') →
      splitGroups (a ++ new :: b) = (splitGroups (a ++ b)).modify (countSeps a) (· ++ [new])
  | [], b, hb => by
    cases new with
    | sep => cases hn
    | op s t al => rcases hb with rfl | ⟨b', rfl⟩ <;> rfl
  | .sep :: a, b, hb => by
    simp [splitGroups, countSeps, splitGroups_insert_end new hn a b hb]
  | .op s t al :: a, b, hb => by
    obtain ⟨g, gs, h1, _⟩ := splitGroups_op s t al (a ++ b)
    simp only [List.cons_append, splitGroups, countSeps, splitGroups_insert_end new hn a b hb, h1]
    -- `modify` at 0 acts on the group whose head the record `op s t al` becomes, at `k + 1` behind it
    cases countSeps a <;> rfl

theorem splitGroups_sep : ∀ (a b : OpList), splitGroups (a ++ .sep :: b) = splitGroups a ++ splitGroups b
  | [], b => rfl
  | .sep :: a, b => by simp only [List.cons_append, splitGroups, splitGroups_sep a b]
  | .op s t al :: a, b => by
    obtain ⟨g, gs, h1, _⟩ := splitGroups_op s t al a
    simp only [List.cons_append, splitGroups, splitGroups_sep a b, h1]

theorem insertIdx_append_length {α} (x : α) (l₂ : List α) : ∀ l₁ : List α, (l₁ ++ l₂).insertIdx l₁.length x = l₁ ++ x :: l₂
  | [] => rfl
  | y :: l₁ => by simp [List.insertIdx_succ_cons, insertIdx_append_length x l₂ l₁]

theorem splitGroups_insert_group (new : Rec) (hn : new.isOp = true) (a b : OpList) :
    splitGroups (a ++ .sep :: new :: .sep :: b) = (splitGroups (a ++ .sep :: b)).insertIdx (countSeps a + 1) [new] := by
  rw [splitGroups_sep, splitGroups_sep, ← length_splitGroups, insertIdx_append_length]
  cases new with
  | sep => cases hn
  | op s t al => rfl

theorem countSeps_append : ∀ (a b : OpList), countSeps (a ++ b) = countSeps a + countSeps b
  | [], b => by simp [countSeps]
  | .sep :: a, b => by simp [countSeps, countSeps_append a b]; omega
  | .op .. :: a, b => by simp [countSeps, countSeps_append a b]

theorem countSeps_allOps : ∀ (l : OpList), (∀ r ∈ l, r.isOp = true) → countSeps l = 0
  | [], _ => rfl
  | .sep :: l, h => by have := h .sep (List.mem_cons_self ..); simp [Rec.isOp] at this
  | .op .. :: l, h => by
    simp [countSeps]; exact countSeps_allOps l (fun r hr => h r (List.mem_cons_of_mem _ hr))

theorem countSeps_allSeps : ∀ (l : OpList), (∀ r ∈ l, r.isSep = true) → countSeps l = l.length
  | [], _ => rfl
  | .sep :: l, h => by
    simp [countSeps]; exact countSeps_allSeps l (fun r hr => h r (List.mem_cons_of_mem _ hr))
  | .op s t a :: l, h => by have := h (.op s t a) (List.mem_cons_self ..); simp [Rec.isSep, Rec.isOp] at this

theorem advance_spec (p : Rec → Bool) (ops : OpList) (i : Nat) (hi : i ≤ ops.length) :
    ops.take (advance p ops i) = ops.take i ++ (ops.drop i).takeWhile p ∧
    ops.drop (advance p ops i) = (ops.drop i).dropWhile p ∧
    advance p ops i ≤ ops.length := by
  have hsplit : ops = (ops.take i ++ (ops.drop i).takeWhile p) ++ (ops.drop i).dropWhile p := by
    rw [List.append_assoc, List.takeWhile_append_dropWhile, List.take_append_drop]
  have hadv : advance p ops i = (ops.take i ++ (ops.drop i).takeWhile p).length := by
    simp [advance, List.length_take, hi]
  rw [hadv]
  generalize ops.take i ++ (ops.drop i).takeWhile p = a at hsplit ⊢
  generalize (ops.drop i).dropWhile p = b at hsplit
  subst hsplit
  simp

theorem dropWhile_isOp_head (l : OpList) : l.dropWhile Rec.isOp = [] ∨ ∃ b', l.dropWhile Rec.isOp = .sep :: b' := by
  induction l with
  | nil => simp
  | cons x xs ih =>
    cases x with
    | sep => right; exact ⟨xs, by simp [List.dropWhile, Rec.isOp]⟩
    | op s t a => simpa [List.dropWhile, Rec.isOp] using ih

theorem findExisting_eq (e : Str) (b : Bool) (ops : OpList) (i : Nat) :
    findExisting e b ops i = (ops.findIdx? (matchesExisting e b)).map (fun j => i + j) := by
  induction ops generalizing i with
  | nil => rfl
  | cons r rs ih =>
    rw [findExisting, List.findIdx?_cons, ih]
    by_cases h : matchesExisting e b r = true
    · simp [h]
    · simp only [h, if_false, Bool.false_eq_true, Option.map_map]
      congr 1
      funext j
      simp only [Function.comp]
      omega

theorem findExisting_lt (e : Str) (b : Bool) (ops : OpList) (j : Nat) (h : findExisting e b ops 0 = some j) :
    j < ops.length := by
  rw [findExisting_eq] at h
  obtain ⟨k, hk, rfl⟩ := Option.map_eq_some_iff.mp h
  have := (List.findIdx?_eq_some_iff_getElem.mp hk).1
  omega

/-- `advance Rec.isOp ops i` is the position `insert_operator` finds for record `i`: the end of its group -/
theorem group_end (ops : OpList) (i : Nat) (hi : i ≤ ops.length) :
    ∃ A B, ops = A ++ B ∧ advance Rec.isOp ops i = A.length ∧ countSeps A = groupIndex ops i ∧
      (B = [] ∨ ∃ B', B = .sep :: B') := by
  obtain ⟨h1, h2, h3⟩ := advance_spec Rec.isOp ops i hi
  refine ⟨_, _, (List.take_append_drop (advance Rec.isOp ops i) ops).symm,
    by rw [List.length_take, Nat.min_eq_left h3], ?_, by rw [h2]; exact dropWhile_isOp_head _⟩
  rw [h1, countSeps_append, countSeps_allOps _ (fun r hr => List.all_eq_true.mp List.all_takeWhile r hr)]
  rfl

theorem insertAt_append (a b : OpList) (x : Rec) : insertAt (a ++ b) a.length x = a ++ x :: b := by
  simp [insertAt]

/-- **`insert_operator` without `create_group`, existing operator given**: the new record becomes the
last record of the existing operator's group; every group keeps its records and its place. -/
theorem insert_same_group (ops : OpList) (ex : Str) (bin : Bool) (sym : Str) (ty : OpType) (al : Option Str)
    (i : Nat) (r : OpList) (hf : findExisting ex bin ops 0 = some i)
    (h : insertOperator ops (some ex) bin sym ty false al = .ok r) :
    splitGroups r = (splitGroups ops).modify (groupIndex ops i) (· ++ [.op sym ty al]) := by
  obtain ⟨A, B, rfl, hA, hc, hB⟩ := group_end ops i (Nat.le_of_lt (findExisting_lt ex bin _ i hf))
  simp only [insertOperator, hf, Bool.false_eq_true, ↓reduceIte, hA, insertAt_append] at h
  cases h
  rw [← hc]
  exact splitGroups_insert_end _ rfl A B hB

theorem op_first_of_no_empty_group : ∀ {b : OpList}, [] ∉ splitGroups b → ∃ s t al b', b = .op s t al :: b'
  | [], h => absurd (List.mem_singleton_self _) h
  | .sep :: _, h => absurd (List.mem_cons_self ..) h
  | .op s t al :: b', _ => ⟨s, t, al, b', rfl⟩

/-- **`insert_operator` with `create_group`, existing operator given, tidy list**: the new record
becomes a group of its own, immediately looser than the existing operator's group and tighter than
the next one; every other group keeps its records and its place. -/
theorem insert_new_group (ops : OpList) (ht : Tidy ops) (ex : Str) (bin : Bool) (sym : Str) (ty : OpType)
    (al : Option Str) (i : Nat) (r : OpList) (hf : findExisting ex bin ops 0 = some i)
    (h : insertOperator ops (some ex) bin sym ty true al = .ok r) :
    splitGroups r = (splitGroups ops).insertIdx (groupIndex ops i + 1) [.op sym ty al] := by
  obtain ⟨A, B, rfl, hA, hc, hB⟩ := group_end ops i (Nat.le_of_lt (findExisting_lt ex bin _ i hf))
  simp only [insertOperator, hf, ↓reduceIte, hA] at h
  rw [← hc]
  rcases hB with rfl | ⟨B', rfl⟩
  · -- the existing operator's group is the last one: `(), new` is appended
    have e := insertAt_append (A ++ [.sep]) [] (.op sym ty al)
    simp only [List.append_nil, List.length_append, List.length_singleton, List.append_assoc,
      List.cons_append, List.nil_append] at e h ⊢
    rw [if_pos (by simp), e] at h
    cases h
    rw [splitGroups_sep, ← length_splitGroups, List.insertIdx_length_self]
    rfl
  · -- the group ends at a separator; the list being tidy, that is single and an operator record follows
    obtain ⟨s, t, a', B'', rfl⟩ := op_first_of_no_empty_group (b := B') fun hm =>
      ht [] (by rw [splitGroups_sep]; exact List.mem_append_right _ hm) rfl
    have hsep : advance Rec.isSep (A ++ .sep :: .op s t a' :: B'') A.length = (A ++ [Rec.sep]).length := by
      simp [advance, Rec.isSep, Rec.isOp]
    rw [if_neg (by simp), hsep] at h
    have e : A ++ .sep :: .op s t a' :: B'' = (A ++ [.sep]) ++ .op s t a' :: B'' := by simp
    rw [e, insertAt_append, insertAt_append] at h
    cases h
    simp only [List.append_assoc, List.cons_append, List.nil_append]
    exact splitGroups_insert_group _ rfl A _

/-- **`insert_operator` with `existing_operator=None`**: without `create_group` the new record is the
first record of the tightest group; with `create_group` (tidy list) it is a new tightest group. -/
theorem insert_front (ops : OpList) (bin : Bool) (sym : Str) (ty : OpType) (al : Option Str) :
    insertOperator ops none bin sym ty false al = .ok (.op sym ty al :: ops) ∧
    (Tidy ops → ∃ r, insertOperator ops none bin sym ty true al = .ok r ∧
      splitGroups r = [.op sym ty al] :: splitGroups ops) := by
  refine ⟨by simp [insertOperator, insertAt], fun ht => ?_⟩
  obtain ⟨s, t, a, xs, rfl⟩ := op_first_of_no_empty_group fun hm => ht [] hm rfl
  exact ⟨.op sym ty al :: .sep :: .op s t a :: xs, by simp [insertOperator, insertAt, advance, Rec.isSep, Rec.isOp],
    by simp [splitGroups]⟩

end Yaql.Props.C02Table
