import Yaql.Model.OpTable
/-!
C02, table layer: `ply_order_iso` - the precedence tuple that the model of
`_generate_operator_funcs` computes orders the token names exactly as their dictionary keys
`(group, 'l' | 'r')` are ordered: a smaller group is a higher ply level; inside one group the `'r'`
row is one level above the `'l'` row; the row's associativity is the key's side.  Hence ply's
decision `reduceOver rule token` is a function of the two keys alone (`C02Iso.reduce_by_key`).
-/
namespace Yaql.Props.C02Order
open Yaql.OpTable

/-- `a` is emitted before `b`, i.e. binds tighter: smaller group, or same group and `'r'` before `'l'` -/
def tighterKey (a b : PKey) : Prop := a.1 < b.1 ∨ (a.1 = b.1 ∧ a.2 = false ∧ b.2 = true)

theorem tighterKey_irrefl (a : PKey) : ¬ tighterKey a a := by
  rintro (h | ⟨_, h1, h2⟩)
  · omega
  · rw [h1] at h2; cases h2

theorem tighterKey_asymm {a b : PKey} : tighterKey a b → ¬ tighterKey b a := by
  rintro (h | ⟨h0, h1, h2⟩) (h' | ⟨h0', h1', h2'⟩)
  · omega
  · omega
  · omega
  · rw [h1] at h2'; cases h2'

theorem tighterKey_total (a b : PKey) : tighterKey a b ∨ a = b ∨ tighterKey b a := by
  obtain ⟨g1, s1⟩ := a
  obtain ⟨g2, s2⟩ := b
  rcases Nat.lt_trichotomy g1 g2 with h | h | h
  · exact .inl (.inl h)
  · subst h
    cases s1 <;> cases s2
    · exact .inr (.inl rfl)
    · exact .inl (.inr ⟨rfl, rfl, rfl⟩)
    · exact .inr (.inr (.inr ⟨rfl, rfl, rfl⟩))
    · exact .inr (.inl rfl)
  · exact .inr (.inr (.inl h))

theorem mem_rowsAt (d : PDict) (i : Nat) (x : PKey × PRow) :
    x ∈ rowsAt d i ↔ ∃ side ns, ns ≠ [] ∧ d.get? (i, side) = some ns ∧ x = ((i, side), (side, ns)) := by
  unfold rowsAt
  simp only [List.mem_append]
  constructor
  · rintro (h | h)
    · split at h
      · rename_i n ns hg
        simp at h; exact ⟨false, n :: ns, by simp, hg, h⟩
      · simp at h
    · split at h
      · rename_i n ns hg
        simp at h; exact ⟨true, n :: ns, by simp, hg, h⟩
      · simp at h
  · rintro ⟨side, ns, hne, hg, rfl⟩
    cases ns with
    | nil => exact absurd rfl hne
    | cons n ns =>
      cases side
      · left; simp [hg]
      · right; simp [hg]

theorem rowsAt_sorted (d : PDict) (i : Nat) : List.Pairwise (fun a b => tighterKey a.1 b.1) (rowsAt d i) := by
  unfold rowsAt
  rw [List.pairwise_append]
  refine ⟨?_, ?_, ?_⟩
  · split <;> simp
  · split <;> simp
  · intro a ha b hb
    split at ha <;> simp at ha
    split at hb <;> simp at hb
    subst ha hb
    exact .inr ⟨rfl, rfl, rfl⟩

/-- **the loop emits the rows tightest first** -/
theorem keyedRows_sorted (d : PDict) : List.Pairwise (fun a b => tighterKey a.1 b.1) (keyedRows d) := by
  unfold keyedRows
  rw [List.pairwise_flatMap]
  refine ⟨fun i _ => rowsAt_sorted d (i + 1), ?_⟩
  refine List.Pairwise.imp ?_ List.pairwise_lt_range
  intro i j hij x hx y hy
  obtain ⟨_, _, _, _, rfl⟩ := (mem_rowsAt d (i + 1) x).mp hx
  obtain ⟨_, _, _, _, rfl⟩ := (mem_rowsAt d (j + 1) y).mp hy
  exact .inl (by simp; omega)

theorem mem_keyedRows (d : PDict) (x : PKey × PRow) :
    x ∈ keyedRows d ↔ ∃ k ns, ns ≠ [] ∧ 1 ≤ k.1 ∧ k.1 ≤ d.length ∧ d.get? k = some ns ∧ x = (k, (k.2, ns)) := by
  unfold keyedRows
  simp only [List.mem_flatMap, List.mem_range]
  constructor
  · rintro ⟨i, hi, hx⟩
    obtain ⟨side, ns, hne, hg, rfl⟩ := (mem_rowsAt d (i + 1) x).mp hx
    exact ⟨(i + 1, side), ns, hne, by simp, by simp; omega, hg, rfl⟩
  · rintro ⟨⟨g, side⟩, ns, hne, h1, h2, hg, rfl⟩
    simp only at h1 h2
    refine ⟨g - 1, by omega, ?_⟩
    have : g - 1 + 1 = g := by omega
    rw [this]
    exact (mem_rowsAt d g _).mpr ⟨side, ns, hne, hg, rfl⟩

theorem lookupFrom_skip (n : Str) : ∀ (B rest : List PRow) (i : Nat), (∀ r ∈ B, n ∉ r.2) →
    lookupPrecFrom n (B ++ rest) i = lookupPrecFrom n rest (i + B.length)
  | [], rest, i, _ => by simp
  | (l, names) :: B, rest, i, h => by
    have h0 : n ∉ names := h (l, names) (List.mem_cons_self ..)
    have ih := lookupFrom_skip n B rest (i + 1) (fun r hr => h r (List.mem_cons_of_mem _ hr))
    simp only [List.cons_append, lookupPrecFrom, List.contains_iff_mem, h0, ↓reduceIte, ih, List.length_cons]
    congr 1; omega

theorem lookupFrom_hit (n : Str) (l : Bool) (names : List Str) (rest : List PRow) (i : Nat) (h : n ∈ names) :
    lookupPrecFrom n ((l, names) :: rest) i = ⟨i, l⟩ := by
  simp [lookupPrecFrom, h]

/-- a name occurs under one key only -/
def NamesDisjoint (d : PDict) : Prop :=
  ∀ k1 ns1 k2 ns2 n, d.get? k1 = some ns1 → d.get? k2 = some ns2 → n ∈ ns1 → n ∈ ns2 → k1 = k2

theorem mem_of_pget : ∀ (d : PDict) (k : PKey) (ns : List Str), d.get? k = some ns → (k, ns) ∈ d
  | [], k, ns, h => by simp [PDict.get?] at h
  | (k', v) :: rest, k, ns, h => by
    by_cases hk : k' = k
    · simp [PDict.get?, hk] at h; subst h; simp [hk]
    · simp [PDict.get?, hk] at h; exact List.mem_cons_of_mem _ (mem_of_pget rest k ns h)

/-- executable check of `NamesDisjoint` (run by `decide` on the tables dumped from the live code) -/
def namesDisjointB (d : PDict) : Bool :=
  d.all fun e1 => d.all fun e2 => e1.1 == e2.1 || e1.2.all fun n => !e2.2.contains n

theorem namesDisjoint_of_check (d : PDict) (h : namesDisjointB d = true) : NamesDisjoint d := by
  intro k1 ns1 k2 ns2 n h1 h2 hn1 hn2
  have m1 := mem_of_pget d k1 ns1 h1
  have m2 := mem_of_pget d k2 ns2 h2
  simp only [namesDisjointB, List.all_eq_true] at h
  have := h _ m1 _ m2
  simp only [Bool.or_eq_true, beq_iff_eq, List.all_eq_true, Bool.not_eq_true', List.contains_eq_mem,
    decide_eq_false_iff_not] at this
  rcases this with h | h
  · exact h
  · exact absurd hn2 (h n hn1)

/-- the ply level of a name, read off the position of its row among the emitted rows -/
theorem lookup_at (d : PDict) (hdis : NamesDisjoint d) (i : Nat) (hi : i < (keyedRows d).length)
    (k : PKey) (ns : List Str) (hg : d.get? k = some ns) (hk : (keyedRows d)[i] = (k, (k.2, ns))) (n : Str)
    (hn : n ∈ ns) : lookupPrec (precedenceOf d) n = ⟨(keyedRows d).length - i, k.2⟩ := by
  have hmem := mem_keyedRows d
  have hsorted := keyedRows_sorted d
  unfold lookupPrec precedenceOf
  generalize keyedRows d = F at *
  have hsplit : F = F.take i ++ (k, (k.2, ns)) :: F.drop (i + 1) := by
    rw [← hk]; simp
  -- the rows emitted later have strictly looser keys, so by `hdis` none of them lists `n`
  have hB : ∀ r ∈ ((F.drop (i + 1)).map (·.2)).reverse, n ∉ r.2 := by
    intro r hr hnr
    obtain ⟨y, hy, rfl⟩ := List.mem_map.mp (List.mem_reverse.mp hr)
    obtain ⟨k', ns', _, _, _, hg', rfl⟩ := (hmem y).mp (List.mem_of_mem_drop hy)
    obtain rfl : k = k' := hdis k ns k' ns' n hg hg' hn hnr
    rw [hsplit] at hsorted
    exact tighterKey_irrefl k ((List.pairwise_cons.mp (List.pairwise_append.mp hsorted).2.1).1 _ hy)
  have hrev : (((true, [nComma]) : PRow) :: F.map (·.2)).reverse =
      ((F.drop (i + 1)).map (·.2)).reverse ++ ((k.2, ns) :: (((F.take i).map (·.2)).reverse ++ [(true, [nComma])])) := by
    conv => lhs; rw [hsplit]
    simp
  rw [hrev, lookupFrom_skip n _ _ 1 hB, lookupFrom_hit n _ _ _ _ hn]
  congr 1
  simp; omega

theorem index_of_sorted {α κ} {R : κ → κ → Prop} (irrefl : ∀ a, ¬ R a a) (asymm : ∀ {a b}, R a b → ¬ R b a)
    (f : α → κ) {l : List α} (hs : l.Pairwise fun a b => R (f a) (f b)) {i j : Nat} (hi : i < l.length)
    (hj : j < l.length) : (R (f l[i]) (f l[j]) ↔ i < j) ∧ (f l[i] = f l[j] ↔ i = j) := by
  have lt : ∀ {a b} (ha : a < l.length) (hb : b < l.length), a < b → R (f l[a]) (f l[b]) :=
    fun ha hb hab => List.pairwise_iff_getElem.mp hs _ _ ha hb hab
  rcases Nat.lt_trichotomy i j with h | rfl | h
  · have := lt hi hj h
    exact ⟨⟨fun _ => h, fun _ => this⟩, fun e => absurd (e ▸ this) (irrefl _), fun e => absurd e (Nat.ne_of_lt h)⟩
  · exact ⟨⟨fun r => absurd r (irrefl _), fun h => absurd h (Nat.lt_irrefl _)⟩, fun _ => rfl, fun _ => rfl⟩
  · have := lt hj hi h
    exact ⟨⟨fun r => absurd r (asymm this), fun h' => absurd h' (Nat.lt_asymm h)⟩,
      fun e => absurd (e ▸ this) (irrefl _), fun e => absurd e.symm (Nat.ne_of_lt h)⟩

/-- **C02.ply_order_iso.**  For two names listed under keys of the precedence dictionary (every
key within the range of the loop): the associativity ply gets for a name is the side of its key,
and one name's level is above the other's exactly when its key is emitted earlier - smaller group
number, or same group and `'r'` before `'l'`; equal keys, equal levels. -/
theorem ply_order_iso (d : PDict) (hdis : NamesDisjoint d) (k1 k2 : PKey) (ns1 ns2 : List Str) (n1 n2 : Str)
    (h1 : d.get? k1 = some ns1) (h2 : d.get? k2 = some ns2) (hn1 : n1 ∈ ns1) (hn2 : n2 ∈ ns2)
    (hb1 : 1 ≤ k1.1 ∧ k1.1 ≤ d.length) (hb2 : 1 ≤ k2.1 ∧ k2.1 ≤ d.length) :
    (lookupPrec (precedenceOf d) n1).left = k1.2 ∧ (lookupPrec (precedenceOf d) n2).left = k2.2 ∧
    (tighterKey k1 k2 ↔ (lookupPrec (precedenceOf d) n2).level < (lookupPrec (precedenceOf d) n1).level) ∧
    (k1 = k2 ↔ (lookupPrec (precedenceOf d) n1).level = (lookupPrec (precedenceOf d) n2).level) := by
  have hne1 : ns1 ≠ [] := by intro h; rw [h] at hn1; simp at hn1
  have hne2 : ns2 ≠ [] := by intro h; rw [h] at hn2; simp at hn2
  have m1 : (k1, (k1.2, ns1)) ∈ keyedRows d := (mem_keyedRows d _).mpr ⟨k1, ns1, hne1, hb1.1, hb1.2, h1, rfl⟩
  have m2 : (k2, (k2.2, ns2)) ∈ keyedRows d := (mem_keyedRows d _).mpr ⟨k2, ns2, hne2, hb2.1, hb2.2, h2, rfl⟩
  obtain ⟨i1, hi1, e1⟩ := List.getElem_of_mem m1
  obtain ⟨i2, hi2, e2⟩ := List.getElem_of_mem m2
  rw [lookup_at d hdis i1 hi1 k1 ns1 h1 e1 n1 hn1, lookup_at d hdis i2 hi2 k2 ns2 h2 e2 n2 hn2]
  have pos := index_of_sorted tighterKey_irrefl tighterKey_asymm (·.1) (keyedRows_sorted d) hi1 hi2
  rw [e1, e2] at pos
  refine ⟨rfl, rfl, ?_, ?_⟩
  · rw [pos.1]; simp only; omega
  · rw [pos.2]; simp only; omega

end Yaql.Props.C02Order
