import Yaql.Props.C06
/-!
C06, non-transitive specialization.

"More specific than" on parameter lists (`moreSpecific` = `_is_specialization_of`) compares position by
position; a position whose two types are unrelated classes (multiple inheritance) or where one type is
a tuple of classes is NEUTRAL.  The relation is asymmetric but NOT transitive: `A > B` and `B > C` do
not give `A > C`.  `C06.perm_invariant` does not care (the repaired selection compares ALL pairs, and
each stage is a function of the SET of matches); this file makes that explicit:

* `moreSpecific_asymm`;
* `nontransitive_triple_ambiguous`: three matches with `A > B`, `B > C` and not `A > C` have no winner -
  `Ambiguous` for every enumeration order, for every class graph;
* `Ex.specialization_not_transitive`, `Ex.nontransitive_every_order` (by `decide`, both through unrelated
  classes and through tuple types), `Ex.resolve_nontransitive_every_order` (through the whole
  code-shaped `resolve`, all six orders);
* the contrasting design `selectPruned` (a candidate that is less specific than one matched EARLIER in
  the enumeration is dropped before binding) answers `A` or `Ambiguous` depending on the order
  (`Ex.pruned_order_dependent`), although it agrees with `choose` whenever the relation is transitive on
  the matches (`Ex.pruned_agrees_on_transitive`: the one-below-two family in all orders).
-/
namespace Yaql.Props.C06NonTrans
open Yaql.Types Yaql.Resolve Yaql.Props.C05 Yaql.Props.C06

theorem zip_swap' {α β : Type} : ∀ (l1 : List α) (l2 : List β), l2.zip l1 = (l1.zip l2).map Prod.swap
  | [], l2 => by cases l2 <;> simp
  | _ :: _, [] => by simp
  | a :: l1, b :: l2 => by simp [zip_swap' l1 l2]

theorem typePairs_swap (m1 m2 : Mapping) : m2.typePairs m1 = (m1.typePairs m2).map Prod.swap := by
  simp only [Mapping.typePairs, List.map_append, List.map_map, zip_swap' m1.pos m2.pos, zip_swap' m1.kwd m2.kwd]
  rfl

/-- "more specific than" is asymmetric, for every class graph -/
theorem moreSpecific_asymm (L : Lattice) (m1 m2 : Mapping) (h : moreSpecific L m1 m2 = true) :
    moreSpecific L m2 m1 = false := by
  simp only [moreSpecific, Bool.and_eq_true, List.all_eq_true, List.any_eq_true] at h
  obtain ⟨_, p, hp, hs⟩ := h
  unfold moreSpecific
  rw [typePairs_swap m1 m2, Bool.and_eq_false_iff]
  left
  rw [List.all_eq_false]
  exact ⟨p.swap, List.mem_map.mpr ⟨p, hp, rfl⟩, by simpa using hs⟩

/-- **a non-transitive triple has no winner, in any order**: `A > B`, `B > C`, not `A > C` -
    nobody is more specific than both others, so the call is ambiguous however the layer
    enumerates the three (`choose` is what `C05.resolve_eq_spec` shows the code to compute) -/
theorem nontransitive_triple_ambiguous (L : Lattice) (a b c : Match)
    (hab : moreSpecific L a.cand.mapping b.cand.mapping = true)
    (hbc : moreSpecific L b.cand.mapping c.cand.mapping = true)
    (hac : moreSpecific L a.cand.mapping c.cand.mapping = false)
    (iab : a.cand.fd.id ≠ b.cand.fd.id) (ibc : b.cand.fd.id ≠ c.cand.fd.id) (iac : a.cand.fd.id ≠ c.cand.fd.id) :
    ∀ ms, ms.Perm [a, b, c] → choose L ms = .error .ambiguous := by
  intro ms h
  rw [choose_perm L h]
  have hba := moreSpecific_asymm L _ _ hab
  have hcb := moreSpecific_asymm L _ _ hbc
  have e1 : (c.cand.fd.id == a.cand.fd.id) = false := by simpa using Ne.symm iac
  have e2 : (a.cand.fd.id == b.cand.fd.id) = false := by simpa using iab
  have e3 : (b.cand.fd.id == c.cand.fd.id) = false := by simpa using ibc
  -- each of the three fails against one other: `a` against `c` (`hac`), `b` against `a` (`hba`), `c` against
  -- `b` (`hcb`); so `best` is empty
  simp [choose, best, List.filter, hac, hba, hcb, e1, e2, e3]

/-! ## witnesses -/

/-- the single pass with pruning: before a candidate is bound, it is dropped when a match found
    EARLIER in the enumeration is more specific than it; the winner is then chosen among the kept
    matches as `choose` does -/
def pruneLoop (L : Lattice) : List Match → List Match → List Match
  | kept, [] => kept
  | kept, m :: r =>
      if kept.any (fun k => moreSpecific L k.cand.mapping m.cand.mapping) then pruneLoop L kept r
      else pruneLoop L (kept ++ [m]) r

def selectPruned (L : Lattice) (ms : List Match) : Except Err (Nat × Bound) := choose L (pruneLoop L [] ms)

namespace Ex
open Yaql.Props.C05.Ex Yaql.Props.C06.Ex

/-- classes: 0 object, 1 Shape, 2 Square (< Shape), 3 Red, 4 RedSquare (< Square, Red), 5 int,
    6 bool (< int), 7 marker, 8 tuple, 9 list, 10 Sequence (> tuple, list), 11 str -/
def subPairsMI : List (Nat × Nat) :=
  (List.range 12).map (fun i => (i, i)) ++ (List.range 12).map (fun i => (i, 0)) ++
  [(2,1),(4,2),(4,1),(4,3),(6,5),(8,10),(9,10)]
def latMI : Lattice := { sub := fun a b => subPairsMI.contains (a, b), marker := .obj 7 [] 0 }

/-- `A(flag: bool, item: Shape)`, `B(flag: int, item: Red)`, `C(flag: object, item: Square)` -/
def nA := mk (fn 0 [pos 'a' 0 (cls 6), pos 'b' 1 (cls 1)])
def nB := mk (fn 1 [pos 'a' 0 (cls 5), pos 'b' 1 (cls 3)])
def nC := mk (fn 2 [pos 'a' 0 (cls 0), pos 'b' 1 (cls 2)])

/-- the same through tuple types, which are never ordered:
    `A(bool, (tuple, list))`, `B(int, tuple)`, `C((int, str), Sequence)` -/
def tA := mk (fn 0 [pos 'a' 0 (cls 6), pos 'b' 1 (.py (.many [8, 9]) false [])])
def tB := mk (fn 1 [pos 'a' 0 (cls 5), pos 'b' 1 (cls 8)])
def tC := mk (fn 2 [pos 'a' 0 (.py (.many [5, 11]) false []), pos 'b' 1 (cls 10)])

/-- "more specific than" is not transitive (unrelated classes `Shape` / `Red` / `Square` under one
    `RedSquare`; tuple-typed parameters) -/
theorem specialization_not_transitive :
    (moreSpecific latMI nA.cand.mapping nB.cand.mapping = true ∧
     moreSpecific latMI nB.cand.mapping nC.cand.mapping = true ∧
     moreSpecific latMI nA.cand.mapping nC.cand.mapping = false ∧
     moreSpecific latMI nC.cand.mapping nA.cand.mapping = false) ∧
    (moreSpecific latMI tA.cand.mapping tB.cand.mapping = true ∧
     moreSpecific latMI tB.cand.mapping tC.cand.mapping = true ∧
     moreSpecific latMI tA.cand.mapping tC.cand.mapping = false ∧
     moreSpecific latMI tC.cand.mapping tA.cand.mapping = false) := by decide +kernel

/-- both triples: `Ambiguous` in every enumeration order (instances of the theorem, hypotheses by
    `decide`) -/
theorem nontransitive_every_order :
    (∀ ms, ms.Perm [nA, nB, nC] → choose latMI ms = .error .ambiguous) ∧
    (∀ ms, ms.Perm [tA, tB, tC] → choose latMI ms = .error .ambiguous) :=
  ⟨nontransitive_triple_ambiguous latMI nA nB nC (by decide +kernel) (by decide +kernel) (by decide +kernel) (by decide +kernel) (by decide +kernel) (by decide +kernel),
   nontransitive_triple_ambiguous latMI tA tB tC (by decide +kernel) (by decide +kernel) (by decide +kernel) (by decide +kernel) (by decide +kernel) (by decide +kernel)⟩

/-- the six orders, spelled out -/
example : [[nA, nB, nC], [nA, nC, nB], [nB, nA, nC], [nB, nC, nA], [nC, nA, nB], [nC, nB, nA]].all
    (fun ms => choose latMI ms == .error .ambiguous) = true := by decide +kernel

/-- **the pruning selection depends on the enumeration order** on exactly these families: `B`
    before `C` drops `C` (dominated by `B`), and then `A` beats everything that is left -/
theorem pruned_order_dependent :
    selectPruned latMI [nB, nA, nC] = .ok (0, nA.bound) ∧
    selectPruned latMI [nB, nC, nA] = .ok (0, nA.bound) ∧
    selectPruned latMI [nA, nB, nC] = .error .ambiguous ∧
    selectPruned latMI [nC, nB, nA] = .error .ambiguous ∧
    selectPruned latMI [tB, tA, tC] = .ok (0, tA.bound) ∧
    selectPruned latMI [tA, tB, tC] = .error .ambiguous := by decide +kernel

/-- where the relation is transitive on the matches the pruning selection is right in every order
    (the one-below-two family `A(D,D)`, `B(L,Base)`, `C(Base,R)`): such families cannot tell the two apart -/
theorem pruned_agrees_on_transitive :
    [[mA, mB, mC], [mA, mC, mB], [mB, mA, mC], [mB, mC, mA], [mC, mA, mB], [mC, mB, mA]].all
      (fun ms => selectPruned C05.Ex.lat ms == choose C05.Ex.lat ms) = true := by decide +kernel

/-- through the whole code-shaped model: `f(True, RedSquare())` against the three overloads in one
    layer, in all six enumeration orders -/
def fA := fn 0 [pos 'a' 0 (cls 6), pos 'b' 1 (cls 1)]
def fB := fn 1 [pos 'a' 0 (cls 5), pos 'b' 1 (cls 3)]
def fC := fn 2 [pos 'a' 0 (cls 0), pos 'b' 1 (cls 2)]
def callTR : Call :=
  { receiver := none, args := [.expr 2 1 true (.obj 6 [] 1), .expr 2 2 true (.obj 4 [] 2)], kwargs := [] }

theorem resolve_nontransitive_every_order :
    [[fA, fB, fC], [fA, fC, fB], [fB, fA, fC], [fB, fC, fA], [fC, fA, fB], [fC, fB, fA]].all
      (fun fns => (resolve latMI [{ fns := fns, exclusive := false }] callTR).res == .error .ambiguous
                  && (resolve latMI [{ fns := fns, exclusive := false }] callTR).log == [1, 2]) = true := by
  decide +kernel

end Ex

end Yaql.Props.C06NonTrans
