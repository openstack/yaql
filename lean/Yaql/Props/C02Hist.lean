import Yaql.Model.EngineHist
/-!
C02, engine provenance crossed with factory history: **the operator table that decides the tree is the
one the factory had when `create()` made the engine** - for the engine itself and for every engine
derived from it by `copy(options)` / `engine(text, options=..)`, however the factory is edited later
and whenever the copy is made.
-/
namespace Yaql.Props.C02Hist
open Yaql.OpTable Yaql.EngineHist
open Yaql.Syntax (Token Cfg Ast PErr)

variable {Opt : Type}

theorem step_engines (merge : Opt → Opt → Opt) (w : World Opt) (op : HostOp Opt) :
    (step merge w op).engines = w.engines ∨
    ∃ e, (step merge w op).engines = w.engines ++ [e] ∧
      ((e.root = w.engines.length ∧ e.snap = w.ops ∧ e.delegates = w.delegates) ∨
       ∃ (i : Nat) (e0 : Engine Opt), w.engines[i]? = some e0 ∧ e.root = e0.root ∧ e.snap = e0.snap ∧ e.delegates = e0.delegates) := by
  cases op with
  | insert a => simp only [step]; split <;> exact .inl rfl
  | create o =>
      simp only [step]
      split
      · exact .inr ⟨_, rfl, .inl ⟨rfl, rfl, rfl⟩⟩
      · exact .inl rfl
  | copy i o =>
      simp only [step]
      split
      · rename_i e0 hi
        exact .inr ⟨_, rfl, .inr ⟨i, e0, hi, rfl, rfl, rfl⟩⟩
      · exact .inl rfl

theorem exec_inv (merge : Opt → Opt → Opt) (P : World Opt → Prop) (hstep : ∀ w op, P w → P (step merge w op)) :
    ∀ (h : List (HostOp Opt)) (w : World Opt), P w → P (exec merge w h)
  | [], _, hw => hw
  | op :: rest, w, hw => exec_inv merge P hstep rest (step merge w op) (hstep w op hw)

/-- **an existing engine is never touched**: whatever the host does afterwards - inserts, further
    `create()`s, copies - engine `i` is the same engine (same snapshot, same options) -/
theorem engine_stable (merge : Opt → Opt → Opt) (w : World Opt) (h : List (HostOp Opt)) (i : Nat)
    (e : Engine Opt) (he : w.engines[i]? = some e) : (exec merge w h).engines[i]? = some e := by
  refine exec_inv merge (fun w' => w'.engines[i]? = some e) (fun w' op h' => ?_) h w he
  rcases step_engines merge w' op with h1 | ⟨_, h1, _⟩
  · rw [h1]; exact h'
  · rw [h1, List.getElem?_append_left (List.getElem?_eq_some_iff.mp h').1]; exact h'

theorem getElem?_snoc {α : Type} (l : List α) (x : α) (j : Nat) (e : α)
    (h : (l ++ [x])[j]? = some e) : l[j]? = some e ∨ (j = l.length ∧ e = x) := by
  rcases Nat.lt_trichotomy j l.length with hj | rfl | hj
  · exact .inl (by rwa [List.getElem?_append_left hj] at h)
  · exact .inr ⟨rfl, by simpa using h.symm⟩
  · rw [List.getElem?_eq_none (by simp; omega)] at h; cases h

/-- invariant: engines whose `root` is `k` hold the operator list `S` and the delegate flag `D` -/
def RootInv (k : Nat) (S : OpList) (D : Bool) (w : World Opt) : Prop :=
  k < w.engines.length ∧ ∀ (j : Nat) (e : Engine Opt), w.engines[j]? = some e → e.root = k → e.snap = S ∧ e.delegates = D

theorem rootInv_step (merge : Opt → Opt → Opt) (k : Nat) (S : OpList) (D : Bool) (w : World Opt)
    (op : HostOp Opt) (h : RootInv k S D w) : RootInv k S D (step merge w op) := by
  obtain ⟨hk, hall⟩ := h
  unfold RootInv
  rcases step_engines merge w op with he | ⟨e, he, hnew⟩
  · rw [he]; exact ⟨hk, hall⟩
  · rw [he]
    refine ⟨by simp; omega, fun j e' hj hr => ?_⟩
    rcases getElem?_snoc _ _ j e' hj with h1 | ⟨_, rfl⟩
    · exact hall j e' h1 hr
    · rcases hnew with ⟨h1, _, _⟩ | ⟨i, e0, hi, h1, h2, h3⟩
      · omega
      · rw [h2, h3]; exact hall i e0 hi (h1 ▸ hr)

/-- roots point at engines that exist (holds for the empty world and is kept by every host operation) -/
def RootsBelow (w : World Opt) : Prop := ∀ (j : Nat) (e : Engine Opt), w.engines[j]? = some e → e.root < w.engines.length

theorem rootsBelow_step (merge : Opt → Opt → Opt) (w : World Opt) (op : HostOp Opt)
    (h : RootsBelow w) : RootsBelow (step merge w op) := by
  unfold RootsBelow at h ⊢
  rcases step_engines merge w op with he | ⟨e, he, hnew⟩
  · rw [he]; exact h
  · rw [he]
    intro j e' hj
    rw [List.length_append, List.length_singleton]
    rcases getElem?_snoc _ _ j e' hj with h1 | ⟨_, rfl⟩
    · exact Nat.lt_succ_of_lt (h j e' h1)
    · rcases hnew with ⟨h1, _, _⟩ | ⟨i, e0, hi, h1, _, _⟩
      · omega
      · have := h i e0 hi; omega

theorem rootsBelow_exec (merge : Opt → Opt → Opt) :
    ∀ (h : List (HostOp Opt)) (w : World Opt), RootsBelow w → RootsBelow (exec merge w h) :=
  exec_inv merge _ (rootsBelow_step merge)

/-- **snapshot at `create()`, kept by every copy.**  Let `create(o)` succeed in a world `w`.  Whatever the
    host does afterwards (`h`: any inserts into the same factory, further engines, copies made at any
    time, copies of copies), every engine that descends from the one created now holds the operator
    list and the delegate flag the factory had at that `create()`. -/
theorem snapshot_kept (merge : Opt → Opt → Opt) (w : World Opt) (o : Opt) (h : List (HostOp Opt))
    (hw : RootsBelow w) (t : Table) (hb : buildOperatorTable w.ops = .ok t)
    (j : Nat) (e : Engine Opt)
    (hj : (exec merge (step merge w (.create o)) h).engines[j]? = some e)
    (hr : e.root = w.engines.length) :
    e.snap = w.ops ∧ e.delegates = w.delegates := by
  have h0 : RootInv w.engines.length w.ops w.delegates (step merge w (.create o)) := by
    simp only [step, hb]
    refine ⟨by simp, ?_⟩
    intro j' e' hj' hr'
    rcases getElem?_snoc _ _ j' e' hj' with h1 | ⟨_, h2⟩
    · have := hw j' e' h1; omega
    · subst h2; exact ⟨rfl, rfl⟩
  exact (exec_inv merge _ (rootInv_step merge _ _ _) h _ h0).2 j e hj hr

/-- **later inserts do not change the parse of an existing engine or of its copies**: every descendant of
    the engine created in `w` parses every token list by the table of `w.ops` - the result does not
    mention `h` at all. -/
theorem later_inserts_irrelevant (merge : Opt → Opt → Opt) (w : World Opt) (o : Opt)
    (h : List (HostOp Opt)) (hw : RootsBelow w) (t : Table) (hb : buildOperatorTable w.ops = .ok t)
    (j : Nat) (e : Engine Opt)
    (hj : (exec merge (step merge w (.create o)) h).engines[j]? = some e)
    (hr : e.root = w.engines.length) (toks : List Token) :
    e.parse toks = some (Yaql.Syntax.parse (Cfg.ofTable t w.delegates) toks) := by
  obtain ⟨hs, hd⟩ := snapshot_kept merge w o h hw t hb j e hj hr
  simp [Engine.parse, Engine.cfg, hs, hd, hb]

/-- a copy parses every token list like the engine it was copied from -/
theorem copy_parses_like_origin (merge : Opt → Opt → Opt) (w : World Opt) (i : Nat) (o : Opt)
    (e : Engine Opt) (he : w.engines[i]? = some e) :
    ∃ c, (step merge w (.copy i o)).engines[w.engines.length]? = some c ∧
      c.root = e.root ∧ ∀ toks, c.parse toks = e.parse toks := by
  refine ⟨{ e with options := merge e.options o }, ?_, rfl, fun _ => rfl⟩
  simp [step, he]

/-! ### non-vacuity: a real history, and the variant that regenerates at copy time -/

def minusMinus : InsertArgs :=
  ⟨some ['-'], true, ['-', '-'], .binaryLeft, false, none⟩

/-- `create()`, then `insert_operator('-', True, '--', BINARY_LEFT_ASSOCIATIVE, False)`, then a second
    `create()`, then a copy of the FIRST engine -/
def demo : List (HostOp Unit) := [.create (), .insert minusMinus, .create (), .copy 0 ()]

def w0 : World Unit := { ops := factoryOperators (some ['=', '>']), delegates := false }

/-- the copy (engine 2) holds the list of the first `create()`, not the edited one engine 1 holds -/
theorem demo_snapshots :
    ((exec (fun _ _ => ()) w0 demo).engines.map fun e => (e.root, decide (e.snap = w0.ops))) =
      [(0, true), (1, false), (0, true)] := by decide +kernel

/-- an implementation that regenerates the grammar when copying is told apart by the same history -/
theorem regenerating_copy_differs :
    ((demo.foldl (stepRegen (fun _ _ => ())) w0).engines.map fun e => (e.root, decide (e.snap = w0.ops))) =
      [(0, true), (1, false), (0, false)] := by decide +kernel

/-- hypotheses of `snapshot_kept` hold for the empty world of the standard factory -/
example : RootsBelow w0 := by
  unfold RootsBelow; intro j e hj; simp [w0] at hj
example : (match buildOperatorTable w0.ops with | .ok _ => true | .error _ => false) = true := by
  decide +kernel

end Yaql.Props.C02Hist
