import Yaql.Model.SeqRun
import Yaql.Lemmas.ValueEq
/-!
C13 - collection and query functions agree with their reference model.

Theorems about the list-level reference definitions of `Yaql.Seq` (Model/Seq.lean), for
lists of every length, and the `*_pure` lemmas that tie the error-aware layer the driver
runs (Model/SeqRun.lean) to those definitions on inputs where no lambda fails.
-/
namespace Yaql.Props.C13
open Yaql Yaql.Value Yaql.Seq

/-! ### filtering, projection, slicing -/

theorem where_where (p q : Value → Bool) (xs : VL) :
    where_ q (where_ p xs) = where_ (fun x => p x && q x) xs := by
  simp [where_, List.filter_filter, Bool.and_comm]

theorem select_select (f g : Value → Value) (xs : VL) :
    select g (select f xs) = select (g ∘ f) xs := by
  simp [select]

theorem where_select_commute (p : Value → Bool) (f : Value → Value) (xs : VL) :
    where_ p (select f xs) = select f (where_ (p ∘ f) xs) := by
  simp [where_, select, List.filter_map]

theorem take_skip_append (n : Nat) (xs : VL) : take n xs ++ skip n xs = xs := by
  simp [take, skip]

theorem len_take (n : Nat) (xs : VL) : len (take n xs) = min n (len xs) := by
  simp [len, take]

theorem len_skip (n : Nat) (xs : VL) : len (skip n xs) = len xs - n := by
  simp [len, skip]

theorem take_take (m n : Nat) (xs : VL) : take m (take n xs) = take (min m n) xs := by
  simp [take, List.take_take]

theorem skip_skip (m n : Nat) (xs : VL) : skip m (skip n xs) = skip (n + m) xs := by
  simp [skip, Nat.add_comm]

theorem takeWhile_skipWhile_append (p : Value → Bool) (xs : VL) :
    takeWhile p xs ++ skipWhile p xs = xs := by
  simp [takeWhile, skipWhile]

theorem reverse_reverse (xs : VL) : reverse (reverse xs) = xs := by simp [reverse]

theorem any_all_demorgan (p : Value → Bool) (xs : VL) :
    any_ p xs = !all_ (fun x => !p x) xs := by
  simp [any_, all_, List.all_eq_not_any_not]

theorem first_eq_take1 (xs : VL) : first xs = (take 1 xs).head? := by
  cases xs <;> simp [first, take]

theorem last_eq_first_reverse (xs : VL) : last xs = first (reverse xs) := by
  simp [last, first, reverse]

theorem single_iff (xs : VL) (x : Value) : single xs = some x ↔ xs = [x] := by
  match xs with
  | [] => simp [single]
  | [y] => simp [single]
  | _ :: _ :: _ => simp [single]

theorem append_len (xs args : VL) : len (append xs args) = len xs + len args := by
  simp [len, append]

theorem concat_len_two (xs ys : VL) : concat [xs, ys] = xs ++ ys := by simp [concat]

/-! ### reduce / accumulate -/

theorem sum_append (f : Value → Value → Value) (s : Value) (xs ys : VL) :
    aggregate f (some s) (xs ++ ys) = aggregate f (aggregate f (some s) xs) ys := by
  simp [aggregate, List.foldl_append]

theorem scanFrom_getLast (f : Value → Value → Value) (acc : Value) (xs : VL) :
    (acc :: scanFrom f acc xs).getLast? = some (xs.foldl f acc) := by
  fun_induction scanFrom f acc xs with
  | case1 => rfl
  | case2 acc x xs ih => rwa [List.getLast?_cons_cons]

theorem scanFrom_length (f : Value → Value → Value) (acc : Value) (xs : VL) :
    (scanFrom f acc xs).length = xs.length := by
  fun_induction scanFrom f acc xs with
  | case1 => rfl
  | case2 acc x xs ih => simp [ih]

/-- the last intermediate value of `accumulate` is the result of `aggregate` -/
theorem accumulate_last_eq_aggregate (f : Value → Value → Value) (seed : Option Value) (xs : VL) :
    (accumulate f seed xs).bind List.getLast? = aggregate f seed xs := by
  match seed, xs with
  | some s, xs => simp [accumulate, aggregate, scanFrom_getLast]
  | none, [] => simp [accumulate, aggregate]
  | none, x :: xs => simp [accumulate, aggregate, scanFrom_getLast]

theorem accumulate_length (f : Value → Value → Value) (s : Value) (xs : VL) :
    (accumulate f (some s) xs).map List.length = some (xs.length + 1) := by
  simp [accumulate, scanFrom_length]

example : accumulate (fun a b => match a, b with | .int x, .int y => .int (x + y) | _, _ => .null) none
    [.int 1, .int 2, .int 3] = some [.int 1, .int 3, .int 6] := by decide


/-! ### distinct -/

theorem sMem_cons (k : Value) (seen : VL) (y : Value) : sMem (k :: seen) y = (pyEq k y || sMem seen y) := by
  simp [sMem]

theorem sMem_append (a b : VL) (y : Value) : sMem (a ++ b) y = (sMem a y || sMem b y) := by
  simp [sMem]

theorem distinctAux_sublist (key : Value → Value) (seen xs : VL) : (distinctAux key seen xs).Sublist xs := by
  fun_induction distinctAux key seen xs with
  | case1 => exact .slnil
  | case2 seen x xs h ih => exact ih.cons x
  | case3 seen x xs h ih => exact ih.cons_cons x

theorem distinctAux_pairwise (key : Value → Value) (seen xs : VL) :
    (∀ y ∈ distinctAux key seen xs, sMem seen (key y) = false) ∧
    (distinctAux key seen xs).Pairwise (fun a b => pyEq (key a) (key b) = false) := by
  fun_induction distinctAux key seen xs with
  | case1 => simp
  | case2 seen x xs h ih => exact ih
  | case3 seen x xs h ih =>
    simp only [sMem_cons, Bool.or_eq_false_iff] at ih
    exact ⟨List.forall_mem_cons.mpr ⟨by simpa using h, fun y hy => (ih.1 y hy).2⟩,
      List.pairwise_cons.mpr ⟨fun y hy => (ih.1 y hy).1, ih.2⟩⟩

/-- `distinct` keeps a sublist (encounter order, nothing invented) whose keys are pairwise
    different under Python's `==` -/
theorem distinct_nodup_sublist (key : Value → Value) (xs : VL) :
    (distinctBy key xs).Sublist xs ∧
    (distinctBy key xs).Pairwise (fun a b => pyEq (key a) (key b) = false) :=
  ⟨distinctAux_sublist key [] xs, (distinctAux_pairwise key [] xs).2⟩

theorem distinctAux_fixed (key : Value → Value) (seen ys : VL)
    (hp : ys.Pairwise (fun a b => pyEq (key a) (key b) = false))
    (hs : ∀ y ∈ ys, sMem seen (key y) = false) : distinctAux key seen ys = ys := by
  induction ys generalizing seen with
  | nil => rfl
  | cons y ys ih =>
    rw [List.pairwise_cons] at hp
    rw [List.forall_mem_cons] at hs
    rw [distinctAux, if_neg (by simp [hs.1]), ih _ hp.2]
    intro z hz
    rw [sMem_cons, hp.1 z hz, hs.2 z hz]; rfl

theorem distinct_idempotent (key : Value → Value) (xs : VL) :
    distinctBy key (distinctBy key xs) = distinctBy key xs :=
  distinctAux_fixed key [] _ (distinctAux_pairwise key [] xs).2 (fun _ _ => rfl)

theorem distinctAux_complete (key : Value → Value) (seen xs : VL) :
    ∀ x ∈ xs, sMem (seen ++ (distinctAux key seen xs).map key) (key x) = true := by
  fun_induction distinctAux key seen xs with
  | case1 => simp
  | case2 seen a xs h ih => exact List.forall_mem_cons.mpr ⟨by simp [sMem_append, h], ih⟩
  | case3 seen a xs h ih =>
    refine List.forall_mem_cons.mpr ⟨by simp [sMem_append, sMem_cons, pyEq_refl], fun x hx => ?_⟩
    simpa [sMem_append, sMem_cons, Bool.or_assoc, Bool.or_left_comm] using ih x hx

theorem distinct_complete (key : Value → Value) (xs : VL) :
    ∀ x ∈ xs, ∃ y ∈ distinctBy key xs, pyEq (key y) (key x) = true := by
  simpa [sMem, distinctBy] using distinctAux_complete key [] xs

/-! ### zip -/

theorem zip_length (xss : List VL) : (zip xss).length = minLen xss := by simp [zip]
theorem zipLongest_length (d : Value) (xss : List VL) : (zipLongest d xss).length = maxLen xss := by
  simp [zipLongest]

theorem zip_get (xss : List VL) (i : Nat) (h : i < minLen xss) :
    (zip xss)[i]'(by simpa [zip] using h) = tuple (xss.map fun xs => xs.getD i null) := by
  simp [zip]

theorem minLen_le (xss : List VL) : ∀ xs ∈ xss, minLen xss ≤ xs.length := by
  fun_induction minLen xss with
  | case1 => simp
  | case2 xs => simp
  | case3 xs r hr ih =>
    exact List.forall_mem_cons.mpr ⟨Nat.min_le_left .., fun ys h => Nat.le_trans (Nat.min_le_right ..) (ih ys h)⟩

/-- no row of a `zip` reads past the end of any input -/
theorem zip_rows_in_range (xss : List VL) (i : Nat) (h : i < (zip xss).length) :
    ∀ xs ∈ xss, i < xs.length := by
  intro xs hxs
  rw [zip_length] at h
  exact Nat.lt_of_lt_of_le h (minLen_le xss xs hxs)

/-! ### slice / splitAt / splitWhere / sliceWhere -/

theorem sliceFuel_flatten (n : Nat) (hn : 0 < n) (fuel : Nat) (xs : VL) (h : xs.length ≤ fuel) :
    (sliceFuel n fuel xs).flatten = xs := by
  fun_induction sliceFuel n fuel xs with
  | case1 xs => exact (List.eq_nil_of_length_eq_zero (Nat.le_zero.mp h)).symm
  | case2 fuel xs hc =>
    obtain rfl : xs = [] := by simpa [Nat.ne_of_gt hn] using hc
    rfl
  | case3 fuel xs hc ih =>
    have : xs ≠ [] := by simpa [Nat.ne_of_gt hn] using hc
    have := List.length_pos_iff.mpr this
    rw [List.flatten_cons, ih (by rw [List.length_drop]; omega), List.take_append_drop]

/-- the chunks of `slice(n)` put together are the collection -/
theorem slice_concat (n : Nat) (hn : 0 < n) (xs : VL) : (slice n xs).flatten = xs :=
  sliceFuel_flatten n hn xs.length xs (Nat.le_refl _)

theorem sliceFuel_sizes (n : Nat) (fuel : Nat) (xs : VL) :
    ∀ c ∈ sliceFuel n fuel xs, 0 < c.length ∧ c.length ≤ n := by
  fun_induction sliceFuel n fuel xs with
  | case1 => simp
  | case2 => simp
  | case3 fuel xs hc ih =>
    have hc : ¬ n = 0 ∧ xs ≠ [] := by simpa using hc
    have := List.length_pos_iff.mpr hc.2
    exact List.forall_mem_cons.mpr ⟨by rw [List.length_take]; omega, ih⟩

/-- every chunk is non-empty and has at most `n` elements -/
theorem slice_sizes (n : Nat) (xs : VL) : ∀ c ∈ slice n xs, 0 < c.length ∧ c.length ≤ n :=
  sliceFuel_sizes n xs.length xs

theorem splitAt_append (i : Int) (xs : VL) : (splitAt i xs).1 ++ (splitAt i xs).2 = xs := by
  simp [splitAt]

theorem clampIdx_le (len : Nat) (i : Int) : clampIdx len i ≤ len := by
  unfold clampIdx; split <;> omega

theorem splitAt_fst_length (i : Int) (xs : VL) : (splitAt i xs).1.length = clampIdx xs.length i := by
  simp [splitAt, Nat.min_eq_left (clampIdx_le _ _)]

theorem splitWhereAux_no_delims (p : Value → Bool) (cur xs : VL) (hc : ∀ x ∈ cur, p x = false) :
    ∀ piece ∈ splitWhereAux p cur xs, ∀ x ∈ piece, p x = false := by
  fun_induction splitWhereAux p cur xs with
  | case1 => simp
  | case2 => simpa using hc
  | case3 cur a xs ha ih => exact List.forall_mem_cons.mpr ⟨hc, ih (by simp)⟩
  | case4 cur a xs ha ih => exact ih (List.forall_mem_append.mpr ⟨hc, by simpa using ha⟩)

/-- no piece of `splitWhere` contains a delimiter -/
theorem splitWhere_no_delims (p : Value → Bool) (xs : VL) :
    ∀ piece ∈ splitWhere p xs, ∀ x ∈ piece, p x = false :=
  splitWhereAux_no_delims p [] xs (by simp)

theorem splitWhereAux_flatten (p : Value → Bool) (cur xs : VL) :
    (splitWhereAux p cur xs).flatten = cur ++ xs.filter (fun x => !p x) := by
  fun_induction splitWhereAux p cur xs with
  | case1 cur h => simpa using h
  | case2 => simp
  | case3 cur a xs ha ih => simp [ih, ha]
  | case4 cur a xs ha ih => simp [ih, ha]

/-- the pieces put together are the non-delimiters, in order -/
theorem splitWhere_flatten (p : Value → Bool) (xs : VL) :
    (splitWhere p xs).flatten = xs.filter (fun x => !p x) := by
  simp [splitWhere, splitWhereAux_flatten]

theorem sliceWhereAux_flatten (f : Value → Value) (cur : VL) (prev : Value) (xs : VL) :
    (sliceWhereAux f cur prev xs).flatten = cur ++ xs := by
  fun_induction sliceWhereAux f cur prev xs with
  | case1 => simp
  | case2 cur prev a xs ha ih => simp [ih]
  | case3 cur prev a xs ha ih => simp [ih]

/-- the runs of `sliceWhere` put together are the collection -/
theorem sliceWhere_concat (f : Value → Value) (xs : VL) : (sliceWhere f xs).flatten = xs := by
  cases xs with
  | nil => simp [sliceWhere]
  | cons x xs => simp [sliceWhere, sliceWhereAux_flatten]

theorem sliceWhereAux_uniform (f : Value → Value) (cur : VL) (prev : Value) (xs : VL)
    (hne : cur ≠ []) (hc : ∀ x ∈ cur, pyEq (f x) prev = true) :
    ∀ piece ∈ sliceWhereAux f cur prev xs,
      piece ≠ [] ∧ ∃ v, ∀ x ∈ piece, pyEq (f x) v = true := by
  fun_induction sliceWhereAux f cur prev xs with
  | case1 cur prev => simpa using ⟨hne, prev, hc⟩
  | case2 cur prev a xs ha ih => exact ih (by simp) (List.forall_mem_append.mpr ⟨hc, by simpa using ha⟩)
  | case3 cur prev a xs ha ih =>
    exact List.forall_mem_cons.mpr ⟨⟨hne, prev, hc⟩, ih (by simp) (by simp [pyEq_refl])⟩

/-- every run is non-empty and the predicate gives `==` values on all its elements -/
theorem sliceWhere_uniform (f : Value → Value) (xs : VL) :
    ∀ piece ∈ sliceWhere f xs, piece ≠ [] ∧ ∃ v, ∀ x ∈ piece, pyEq (f x) v = true := by
  cases xs with
  | nil => simp [sliceWhere]
  | cons x xs => exact sliceWhereAux_uniform f [x] (f x) xs (by simp) (by simp [pyEq_refl])


/-! ### searching -/

theorem indexWhereFrom_eq (p : Value → Bool) (i : Nat) (xs : VL) :
    indexWhereFrom p i xs = if xs.findIdx p < xs.length then ((i + xs.findIdx p : Nat) : Int) else -1 := by
  induction xs generalizing i with
  | nil => rfl
  | cons x xs ih =>
    rw [indexWhereFrom, List.findIdx_cons]
    cases hx : p x
    · simp only [Bool.false_eq_true, if_false, cond_false, ih, List.length_cons, Nat.add_lt_add_iff_right]
      rw [Nat.add_right_comm, Nat.add_assoc]
    · simp

theorem indexWhere_first (p : Value → Bool) (xs : VL) :
    (indexWhere p xs = -1 ∧ ∀ x ∈ xs, p x = false) ∨
    (∃ j, j < xs.length ∧ indexWhere p xs = (j : Int) ∧ p (xs.getD j null) = true ∧
      ∀ k, k < j → p (xs.getD k null) = false) := by
  rw [indexWhere, indexWhereFrom_eq]
  by_cases h : xs.findIdx p < xs.length
  · refine .inr ⟨xs.findIdx p, h, by simp [h], ?_, fun k hk => ?_⟩
    · rw [← List.getElem_eq_getD (h := h)]
      exact List.findIdx_getElem
    · rw [← List.getElem_eq_getD (h := Nat.lt_trans hk h)]
      simpa using List.not_of_lt_findIdx hk
  · refine .inl ⟨if_neg h, fun x hx => ?_⟩
    simpa using List.findIdx_eq_length.mp (Nat.le_antisymm List.findIdx_le_length (Nat.le_of_not_lt h)) x hx

/-- `indexOf` gives the position of the FIRST element `==` to the item, or -1 when there is none -/
theorem indexOf_first (v : Value) (xs : VL) :
    (indexOf v xs = -1 ∧ ∀ x ∈ xs, pyEq x v = false) ∨
    (∃ j, j < xs.length ∧ indexOf v xs = (j : Int) ∧ pyEq (xs.getD j null) v = true ∧
      ∀ k, k < j → pyEq (xs.getD k null) v = false) :=
  indexWhere_first (fun x => pyEq x v) xs

theorem lastIndexWhereFrom_spec (p : Value → Bool) (i : Nat) (best : Int) (xs : VL) :
    (lastIndexWhereFrom p i best xs = best ∧ ∀ x ∈ xs, p x = false) ∨
    (∃ j, j < xs.length ∧ lastIndexWhereFrom p i best xs = ((i + j : Nat) : Int) ∧ p (xs.getD j null) = true ∧
      ∀ k, j < k → k < xs.length → p (xs.getD k null) = false) := by
  induction xs generalizing i best with
  | nil => left; simp [lastIndexWhereFrom]
  | cons x xs ih =>
    simp only [lastIndexWhereFrom]
    rcases ih (i + 1) (if p x = true then (i : Int) else best) with ⟨h1, h2⟩ | ⟨j, hj, h1, h2, h3⟩
    · by_cases hx : p x = true
      · right
        refine ⟨0, by simp, by rw [h1]; simp [hx], by simpa using hx, ?_⟩
        intro k hk hk'
        cases k with
        | zero => omega
        | succ k =>
          have : xs.getD k null ∈ xs := by
            simp at hk'
            rw [List.getD_eq_getElem?_getD, List.getElem?_eq_getElem hk']; exact List.getElem_mem _
          simpa using h2 _ this
      · left
        refine ⟨by rw [h1]; simp [hx], ?_⟩
        intro y hy; rcases List.mem_cons.mp hy with rfl | hy
        · simpa using hx
        · exact h2 y hy
    · right
      refine ⟨j + 1, by simp; omega, by rw [h1]; congr 1; omega, by simpa using h2, ?_⟩
      intro k hk hk'
      cases k with
      | zero => omega
      | succ k => simpa using h3 k (by omega) (by simpa using hk')

/-- `lastIndexOf` gives the position of the LAST element `==` to the item, or -1 -/
theorem lastIndexOf_last (v : Value) (xs : VL) :
    (lastIndexOf v xs = -1 ∧ ∀ x ∈ xs, pyEq x v = false) ∨
    (∃ j, j < xs.length ∧ lastIndexOf v xs = (j : Int) ∧ pyEq (xs.getD j null) v = true ∧
      ∀ k, j < k → k < xs.length → pyEq (xs.getD k null) v = false) := by
  have := lastIndexWhereFrom_spec (fun x => pyEq x v) 0 (-1) xs
  simp only [Nat.zero_add] at this
  exact this

/-! ### insert / delete / replace -/

theorem deleteFrom_past (pos : Nat) (i : Nat) (h : pos < i) (xs : VL) : deleteFrom pos 1 i xs = xs := by
  induction xs generalizing i with
  | nil => simp [deleteFrom]
  | cons x xs ih =>
    have : inRange pos 1 i = false := by simp [inRange]; omega
    simp only [deleteFrom, this, Bool.false_eq_true, ↓reduceIte]
    rw [ih (i + 1) (by omega)]

theorem deleteFrom_at (c i : Nat) (as : VL) (v : Value) (bs : VL) (h : i + as.length = c) :
    deleteFrom c 1 i (as ++ v :: bs) = as ++ bs := by
  induction as generalizing i with
  | nil =>
    simp at h; subst h
    have : inRange i 1 i = true := by simp [inRange]; omega
    simp only [List.nil_append, deleteFrom, this, ↓reduceIte]
    exact deleteFrom_past i (i + 1) (Nat.lt_succ_self i) bs
  | cons a as ih =>
    have : inRange c 1 i = false := by simp [inRange]; simp at h; omega
    simp only [List.cons_append, deleteFrom, this, Bool.false_eq_true, ↓reduceIte]
    rw [ih (i + 1) (by simp at h; omega)]

/-- deleting what `insert` (on a list) inserted gives the list back - for EVERY position,
    negative and out-of-range ones included (they are clamped as `list.insert` does) -/
theorem insert_delete_inverse (pos : Int) (v : Value) (xs : VL) :
    delete (clampIdx xs.length pos) 1 (listInsert pos v xs) = xs := by
  simp only [delete, listInsert]
  rw [deleteFrom_at (clampIdx xs.length pos) 0]
  · simp
  · simp [Nat.min_eq_left (clampIdx_le _ _)]

theorem listInsert_length (pos : Int) (v : Value) (xs : VL) : (listInsert pos v xs).length = xs.length + 1 := by
  simp [listInsert]; have := clampIdx_le xs.length pos; omega

/-- the same for the generator version on one-shot iterators (non-negative positions) -/
theorem iterInsert_delete_inverse (pos : Nat) (v : Value) (xs : VL) :
    delete ((min pos xs.length : Nat) : Int) 1 (iterInsert pos v xs) = xs := by
  simp only [delete, iterInsert, insertMany]
  have : ¬ ((pos : Int) < 0) := by omega
  simp only [this, ↓reduceIte, Int.toNat_natCast, List.append_assoc, List.cons_append, List.nil_append]
  have h := deleteFrom_at (min pos xs.length) 0 (xs.take pos) v (xs.drop pos) (by simp)
  rw [List.take_append_drop] at h
  exact h

theorem iterInsert_negative (pos : Int) (h : pos < 0) (v : Value) (xs : VL) : iterInsert pos v xs = xs := by
  simp [iterInsert, h]

/-- number of indices `≥ i` of `xs` that the range `(pos, count)` addresses -/
def hitsFrom (pos count : Int) (i : Nat) : VL → Nat
  | [] => 0
  | _ :: xs => (if inRange pos count i then 1 else 0) + hitsFrom pos count (i + 1) xs

theorem replaceFrom_length (pos count : Int) (vals : VL) (i : Nat) (done : Bool) (xs : VL) :
    (replaceFrom pos count vals i done xs).length + hitsFrom pos count i xs
      = xs.length + (if done || hitsFrom pos count i xs == 0 then 0 else vals.length) := by
  induction xs generalizing i done with
  | nil => simp [replaceFrom, hitsFrom]
  | cons x xs ih =>
    simp only [replaceFrom, hitsFrom]
    by_cases hr : inRange pos count i = true
    · simp only [hr, ↓reduceIte, List.length_append, List.length_cons]
      have := ih (i + 1) true
      simp only [Bool.true_or, ↓reduceIte, Nat.add_zero] at this
      cases done <;> simp <;> omega
    · simp only [hr, Bool.false_eq_true, ↓reduceIte, List.length_cons, Nat.zero_add]
      have := ih (i + 1) done
      omega

/-- `replace`: the addressed elements (those that exist) are replaced by ONE value -/
theorem replace_length (pos count : Int) (v : Value) (xs : VL) :
    (replace pos count v xs).length + hitsFrom pos count 0 xs
      = xs.length + (if hitsFrom pos count 0 xs = 0 then 0 else 1) := by
  have := replaceFrom_length pos count [v] 0 false xs
  simp only [replace, replaceMany]
  rw [this]
  simp

theorem delete_length (pos count : Int) (xs : VL) :
    (delete pos count xs).length + hitsFrom pos count 0 xs = xs.length := by
  have : ∀ i, (deleteFrom pos count i xs).length + hitsFrom pos count i xs = xs.length := by
    induction xs with
    | nil => simp [deleteFrom, hitsFrom]
    | cons x xs ih =>
      intro i
      simp only [deleteFrom, hitsFrom]
      have := ih (i + 1)
      split <;> simp <;> omega
  exact this 0

example : replace 2 2 (.int 100) [.int 0, .int 1, .int 3, .int 4, .int 2] = [.int 0, .int 1, .int 100, .int 2] := by decide
example : delete 1 (-1) [.int 1, .int 2, .int 3] = [.int 1] := by decide


/-! ### ordering -/

section sorting
variable {α : Type}

/-- **Uniqueness of the stable sort.**  For a total preorder `le`, ANY list `ys` of the
    position-tagged elements of `xs` that is a permutation, is sorted, and keeps tied elements in
    their original order is `mergeSort xs le`.  This is what licenses comparing the model
    (`List.mergeSort`) with CPython's `sorted`, whose documented contract is exactly those three
    properties. -/
theorem stable_sort_unique (le : α → α → Bool)
    (trans : ∀ a b c, le a b → le b c → le a c) (total : ∀ a b, le a b || le b a)
    (xs : List α) (ys : List (α × Nat))
    (hperm : ys.Perm xs.zipIdx)
    (hsorted : ys.Pairwise (fun p q => le p.1 q.1 = true))
    (hstable : ys.Pairwise (fun p q => le q.1 p.1 = true → p.2 < q.2)) :
    ys.map (·.1) = xs.mergeSort le := by
  rw [← List.mergeSort_zipIdx (le := le)]
  congr 1
  have hperm' := hperm.trans (List.mergeSort_perm xs.zipIdx (List.zipIdxLE le)).symm
  refine List.Perm.eq_of_pairwise (le := fun p q => List.zipIdxLE le p q = true) ?_ ?_
    (List.pairwise_mergeSort (List.zipIdxLE_trans trans) (List.zipIdxLE_total total) _) hperm'
  · -- two tagged elements that tie both ways carry the same position, hence are the same element of `xs`
    intro p q hp hq hpq hqp
    have hq := hperm'.mem_iff.mpr hq
    have hp' := List.mem_zipIdx_iff_getElem?.mp (hperm.mem_iff.mp hp)
    have hq' := List.mem_zipIdx_iff_getElem?.mp (hperm.mem_iff.mp hq)
    have h2 : p.2 = q.2 := by
      cases h1 : le p.1 q.1 <;> cases h3 : le q.1 p.1 <;> simp [List.zipIdxLE, h1, h3] at hpq hqp
      omega
    rw [h2] at hp'
    have h1 : p.1 = q.1 := by rw [hp'] at hq'; exact Option.some.inj hq'
    exact Prod.ext h1 h2
  · have := hsorted.and hstable
    refine this.imp ?_
    intro p q h
    simp only [List.zipIdxLE, h.1, ↓reduceIte]
    split
    · rename_i hqp; simpa using Nat.le_of_lt (h.2 hqp)
    · rfl

/-- sortedness from hypotheses about the elements of the list only -/
theorem pairwise_mergeSort_local (le : α → α → Bool) (xs : List α)
    (trans : ∀ a ∈ xs, ∀ b ∈ xs, ∀ c ∈ xs, le a b → le b c → le a c)
    (total : ∀ a ∈ xs, ∀ b ∈ xs, le a b || le b a) :
    (xs.mergeSort le).Pairwise (fun a b => le a b = true) := by
  let le' : {x // x ∈ xs} → {x // x ∈ xs} → Bool := fun a b => le a.1 b.1
  have h := List.pairwise_mergeSort (le := le')
    (fun a b c => trans a.1 a.2 b.1 b.2 c.1 c.2) (fun a b => total a.1 a.2 b.1 b.2) xs.attach
  have hm : (xs.attach.mergeSort le').map Subtype.val = xs.mergeSort le := by
    rw [List.map_mergeSort (s := le) (by intros; rfl)]
    simp
  rw [← hm]
  exact List.pairwise_map.mpr h

end sorting

/-- the result of orderBy / thenBy is a permutation of the collection (no hypotheses at all) -/
theorem orderBy_perm (lt gt : Value → Value → Bool) (fs : List Field) (xs : VL) :
    (orderFields lt gt fs xs).Perm xs :=
  List.mergeSort_perm _ _

theorem orderBy_length (lt gt : Value → Value → Bool) (fs : List Field) (xs : VL) :
    (orderFields lt gt fs xs).length = xs.length := by simp [orderFields]

/-- sorted: no later element is strictly smaller than an earlier one - provided the comparator
    built from the keys is a total preorder ON THE ELEMENTS OF THE COLLECTION -/
theorem orderBy_sorted (lt gt : Value → Value → Bool) (fs : List Field) (xs : VL)
    (trans : ∀ a ∈ xs, ∀ b ∈ xs, ∀ c ∈ xs, sortLe lt gt fs a b → sortLe lt gt fs b c → sortLe lt gt fs a c)
    (total : ∀ a ∈ xs, ∀ b ∈ xs, sortLe lt gt fs a b || sortLe lt gt fs b a) :
    (orderFields lt gt fs xs).Pairwise (fun a b => ¬ cmpFields lt gt fs b a < 0) := by
  have := pairwise_mergeSort_local (sortLe lt gt fs) xs trans total
  refine this.imp ?_
  intro a b h
  simpa [sortLe] using h

/-- stability, hypothesis-free form: breaking ties by the original position changes nothing -/
theorem orderBy_stable (lt gt : Value → Value → Bool) (fs : List Field) (xs : VL) :
    ((xs.zipIdx).mergeSort (List.zipIdxLE (sortLe lt gt fs))).map (·.1) = orderFields lt gt fs xs :=
  List.mergeSort_zipIdx

/-- stability, pair form: `a` before `b` and `b` not smaller than `a` => `a` stays before `b` -/
theorem orderBy_stable_pair (lt gt : Value → Value → Bool) (fs : List Field) (xs : VL)
    (trans : ∀ a b c, sortLe lt gt fs a b → sortLe lt gt fs b c → sortLe lt gt fs a c)
    (total : ∀ a b, sortLe lt gt fs a b || sortLe lt gt fs b a)
    (a b : Value) (hab : ¬ cmpFields lt gt fs b a < 0) (h : [a, b].Sublist xs) :
    [a, b].Sublist (orderFields lt gt fs xs) :=
  List.pair_sublist_mergeSort trans total (by simpa [sortLe] using hab) h

theorem cmpFields_append (lt gt : Value → Value → Bool) (fs gs : List Field) (a b : Value) :
    cmpFields lt gt (fs ++ gs) a b =
      if cmpFields lt gt fs a b = 0 then cmpFields lt gt gs a b else cmpFields lt gt fs a b := by
  induction fs with
  | nil => rfl
  | cons f fs ih =>
    obtain ⟨k, asc⟩ := f
    rw [List.cons_append, cmpFields, cmpFields]
    -- a field that decides gives `±1`, never `0`
    by_cases h1 : lt (k a) (k b) = true
    · rw [if_pos h1, if_pos h1]; cases asc <;> rfl
    · rw [if_neg h1, if_neg h1]
      by_cases h2 : gt (k a) (k b) = true
      · rw [if_pos h2, if_pos h2]; cases asc <;> rfl
      · rw [if_neg h2, if_neg h2]; exact ih

/-- `orderBy(k1).thenBy(k2)` sorts by the lexicographic comparator: first `k1`, ties by `k2` -/
theorem thenBy_lex (lt gt : Value → Value → Bool) (fs : List Field) (k : Value → Value) (asc : Bool) (xs : VL) :
    orderFields lt gt (fs ++ [(k, asc)]) xs =
      xs.mergeSort (fun a b => !((if cmpFields lt gt fs b a = 0 then cmpFields lt gt [(k, asc)] b a
                                   else cmpFields lt gt fs b a) < 0)) := by
  simp only [orderFields]
  congr 1
  funext a b
  simp [sortLe, cmpFields_append]

/-- a descending field compares as the ascending one with the sign flipped -/
theorem descending_reverse_of_keys (lt gt : Value → Value → Bool) (k : Value → Value) (a b : Value) :
    cmpFields lt gt [(k, false)] a b = - cmpFields lt gt [(k, true)] a b := by
  by_cases h1 : lt (k a) (k b) = true <;> by_cases h2 : gt (k a) (k b) = true <;> simp [cmpFields, h1, h2]

/-! Non-vacuity: integer keys under yaql's `<` / `>` give a total preorder, so the hypotheses of
`orderBy_sorted` / `stable_sort_unique` are met by every collection whose keys are integers. -/

theorem cmpFields_int (k : Value → Value) (asc : Bool) (a b : Value) (x y : Int)
    (ha : k a = .int x) (hb : k b = .int y) :
    cmpFields ltT gtT [(k, asc)] a b =
      if x < y then (if asc then -1 else 1) else if x > y then (if asc then 1 else -1) else 0 := by
  simp [cmpFields, ha, hb, ltT, gtT, ltV, gtV]

theorem sortLe_int (k : Value → Value) (asc : Bool) (a b : Value) (x y : Int)
    (ha : k a = .int x) (hb : k b = .int y) :
    sortLe ltT gtT [(k, asc)] a b = if asc then decide (x ≤ y) else decide (y ≤ x) := by
  rw [sortLe, cmpFields_int k asc b a y x hb ha]
  rcases Int.lt_trichotomy x y with h | h | h
  · have h' : ¬ y < x := by omega
    cases asc <;> simp [h, h'] <;> omega
  · subst h; cases asc <;> simp
  · cases asc <;> simp [h] <;> omega

theorem sortLe_int_total_trans (k : Value → Value) (asc : Bool) (xs : VL)
    (hk : ∀ x ∈ xs, ∃ i, k x = .int i) :
    (∀ a ∈ xs, ∀ b ∈ xs, ∀ c ∈ xs, sortLe ltT gtT [(k, asc)] a b → sortLe ltT gtT [(k, asc)] b c →
        sortLe ltT gtT [(k, asc)] a c) ∧
    (∀ a ∈ xs, ∀ b ∈ xs, sortLe ltT gtT [(k, asc)] a b || sortLe ltT gtT [(k, asc)] b a) := by
  constructor
  · intro a ha b hb c hc
    obtain ⟨x, hx⟩ := hk a ha
    obtain ⟨y, hy⟩ := hk b hb
    obtain ⟨z, hz⟩ := hk c hc
    rw [sortLe_int k asc a b x y hx hy, sortLe_int k asc b c y z hy hz, sortLe_int k asc a c x z hx hz]
    cases asc <;> simp <;> omega
  · intro a ha b hb
    obtain ⟨x, hx⟩ := hk a ha
    obtain ⟨y, hy⟩ := hk b hb
    rw [sortLe_int k asc a b x y hx hy, sortLe_int k asc b a y x hy hx]
    cases asc <;> simp <;> omega

/-- integer keys: `orderBy` / `orderByDescending` really sort -/
theorem orderBy_sorted_int (k : Value → Value) (asc : Bool) (xs : VL) (hk : ∀ x ∈ xs, ∃ i, k x = .int i) :
    (orderFields ltT gtT [(k, asc)] xs).Pairwise (fun a b => ¬ cmpFields ltT gtT [(k, asc)] b a < 0) :=
  orderBy_sorted ltT gtT _ xs (sortLe_int_total_trans k asc xs hk).1 (sortLe_int_total_trans k asc xs hk).2

/-! `List.mergeSort` is defined by well-founded recursion, which neither `decide` nor `rfl` evaluates: the two test
vectors unfold its equations (`mergeSort`, `MergeSort.Internal.splitInTwo`, `merge`) with `simp`. -/

example : orderFields ltT gtT [(id, true)] [.int 3, .int 1, .int 2] = [.int 1, .int 2, .int 3] := by
  simp [orderFields, sortLe, cmpFields, ltT, gtT, ltV, gtV, List.mergeSort, List.MergeSort.Internal.splitInTwo]
def exFst : Value → Value | .tuple [a, _] => a | _ => .null
def exSnd : Value → Value | .tuple [_, b] => b | _ => .null
/-- `[[1,7],[2,5],[3,7]].orderBy($[1]).thenByDescending($[0])` -/
example : orderFields ltT gtT [(exSnd, true), (exFst, false)]
    [.tuple [.int 1, .int 7], .tuple [.int 2, .int 5], .tuple [.int 3, .int 7]]
    = [.tuple [.int 2, .int 5], .tuple [.int 3, .int 7], .tuple [.int 1, .int 7]] := by
  simp [orderFields, sortLe, cmpFields, ltT, gtT, ltV, gtV, exFst, exSnd, List.mergeSort,
    List.MergeSort.Internal.splitInTwo, List.merge_right]


/-! ### grouping -/

abbrev Groups := List (Value × VL)

def gKeys (g : Groups) : VL := g.map (·.1)
def gValues (g : Groups) : VL := (g.map (·.2)).flatten
/-- the values filed under (a key `==` to) `k` -/
def gLookup (k : Value) : Groups → VL
  | [] => []
  | (k', vs) :: r => if pyEq k' k then vs else gLookup k r

theorem gKeys_addToGroup (k v : Value) (g : Groups) : gKeys (addToGroup k v g) = sInsert (gKeys g) k := by
  fun_induction addToGroup k v g with
  | case1 => rfl
  | case2 k₀ vs r h0 => simp [gKeys, sInsert, sMem_cons, h0]
  | case3 k₀ vs r h0 ih =>
    simp only [gKeys] at ih ⊢
    simp only [List.map_cons, ih, sInsert, sMem_cons, h0, Bool.false_or]
    split <;> rfl

theorem gLookup_addToGroup (k' v k : Value) (g : Groups) :
    gLookup k (addToGroup k' v g) = if pyEq k' k then gLookup k g ++ [v] else gLookup k g := by
  fun_induction addToGroup k' v g with
  | case1 => simp [gLookup]
  | case2 k₀ vs r h0 => simp only [gLookup, pyEq_congr_left h0 k]; split <;> rfl
  | case3 k₀ vs r h0 ih =>
    by_cases h1 : pyEq k₀ k = true
    · simp [gLookup, h1, pyEq_false_of h1 h0]
    · simp [gLookup, h1, ih]

theorem gValues_addToGroup (k v : Value) (g : Groups) :
    (gValues (addToGroup k v g)).Perm (gValues g ++ [v]) := by
  fun_induction addToGroup k v g with
  | case1 => simp [gValues]
  | case2 k₀ vs r h0 =>
    simp only [gValues, List.map_cons, List.flatten_cons, List.append_assoc]
    exact List.Perm.append_left vs List.perm_append_comm
  | case3 k₀ vs r h0 ih =>
    simp only [gValues, List.map_cons, List.flatten_cons, List.append_assoc] at ih ⊢
    exact List.Perm.append_left vs ih

theorem foldl_groups_lookup (key val : Value → Value) (k : Value) (xs : VL) (g : Groups) :
    gLookup k (xs.foldl (fun g x => addToGroup (key x) (val x) g) g)
      = gLookup k g ++ (xs.filter (fun x => pyEq (key x) k)).map val := by
  induction xs generalizing g with
  | nil => simp
  | cons x xs ih =>
    simp only [List.foldl_cons]
    rw [ih, gLookup_addToGroup]
    by_cases h : pyEq (key x) k = true <;> simp [h]

theorem foldl_groups_keys (key val : Value → Value) (xs : VL) (g : Groups) (seen : VL)
    (hs : ∀ k, sMem seen k = sMem (gKeys g) k) :
    gKeys (xs.foldl (fun g x => addToGroup (key x) (val x) g) g)
      = gKeys g ++ (distinctAux key seen xs).map key := by
  induction xs generalizing g seen with
  | nil => simp [distinctAux]
  | cons x xs ih =>
    simp only [List.foldl_cons, distinctAux, hs]
    by_cases h : sMem (gKeys g) (key x) = true
    · have hk : gKeys (addToGroup (key x) (val x) g) = gKeys g := by rw [gKeys_addToGroup, sInsert, if_pos h]
      rw [if_pos h, ih _ seen (by rw [hk]; exact hs), hk]
    · have hk : gKeys (addToGroup (key x) (val x) g) = gKeys g ++ [key x] := by
        rw [gKeys_addToGroup, sInsert, if_neg h]
      rw [if_neg h, ih _ (key x :: seen), hk]
      · simp
      · intro k; rw [hk, sMem_cons, sMem_append, hs, Bool.or_comm]; simp [sMem]

theorem foldl_groups_values (key val : Value → Value) (xs : VL) (g : Groups) :
    (gValues (xs.foldl (fun g x => addToGroup (key x) (val x) g) g)).Perm (gValues g ++ xs.map val) := by
  induction xs generalizing g with
  | nil => simp
  | cons x xs ih =>
    simp only [List.foldl_cons, List.map_cons]
    refine (ih _).trans ?_
    refine ((gValues_addToGroup _ _ g).append_right _).trans ?_
    simp

/-- **groupBy partitions its input.**
    1. the group keys are those of `distinct(key)`: pairwise different, in first-occurrence order;
    2. the values filed under a key are exactly the (selected) elements with an `==` key, in
       encounter order;
    3. all groups together are a permutation of the (selected) input: nothing lost, nothing doubled. -/
theorem groupBy_partition (key val : Value → Value) (xs : VL) :
    gKeys (groupsOf key val xs) = (distinctBy key xs).map key ∧
    (∀ k, gLookup k (groupsOf key val xs) = (xs.filter (fun x => pyEq (key x) k)).map val) ∧
    (gValues (groupsOf key val xs)).Perm (xs.map val) := by
  refine ⟨?_, ?_, ?_⟩
  · have := foldl_groups_keys key val xs [] [] (by intro k; rfl)
    simpa [groupsOf, distinctBy, gKeys] using this
  · intro k
    have := foldl_groups_lookup key val k xs []
    simpa [groupsOf, gLookup] using this
  · have := foldl_groups_values key val xs []
    simpa [groupsOf, gValues] using this

/-- the keys of the groups are pairwise different under `==` -/
theorem groupBy_keys_distinct (key val : Value → Value) (xs : VL) :
    (gKeys (groupsOf key val xs)).Pairwise (fun a b => pyEq a b = false) := by
  rw [(groupBy_partition key val xs).1]
  exact List.pairwise_map.mpr (distinctAux_pairwise key [] xs).2

/-- for a group that is in the result, the list stored with it is the lookup of its key -/
theorem gLookup_of_mem (g : Groups) (hd : (gKeys g).Pairwise (fun a b => pyEq a b = false))
    (k : Value) (vs : VL) (h : (k, vs) ∈ g) : gLookup k g = vs := by
  induction g with
  | nil => simp at h
  | cons p r ih =>
    obtain ⟨k', vs'⟩ := p
    simp only [gKeys, List.map_cons, List.pairwise_cons] at hd
    rcases List.mem_cons.mp h with h | h
    · cases h; simp [gLookup, pyEq_refl]
    · have hk : pyEq k' k = false := hd.1 k (List.mem_map.mpr ⟨(k, vs), h, rfl⟩)
      simp only [gLookup, hk, Bool.false_eq_true, ↓reduceIte]
      exact ih hd.2 h

/-- every group of `groupBy` holds exactly the elements with its key, in encounter order -/
theorem groupBy_group_content (key val : Value → Value) (xs : VL) (k : Value) (vs : VL)
    (h : (k, vs) ∈ groupsOf key val xs) :
    vs = (xs.filter (fun x => pyEq (key x) k)).map val := by
  rw [← (groupBy_partition key val xs).2.1 k]
  exact (gLookup_of_mem _ (groupBy_keys_distinct key val xs) k vs h).symm


/-! ### set algebra (sets are duplicate-free lists; equality of sets is extensional) -/

/-- same elements under `==` -/
def SetEqv (a b : VL) : Prop := ∀ x, sMem a x = sMem b x
/-- no two elements are `==` -/
def SetInv (s : VL) : Prop := s.Pairwise (fun a b => pyEq a b = false)

theorem sMem_congr {x y : Value} (h : pyEq x y = true) (s : VL) : sMem s x = sMem s y := by
  simp only [sMem]
  congr 1; funext z
  exact pyEq_congr_right h z

theorem sMem_sInsert (s : VL) (y x : Value) : sMem (sInsert s y) x = (sMem s x || pyEq y x) := by
  rw [sInsert]
  split
  · rename_i h
    cases hx : pyEq y x
    · simp
    · rw [← sMem_congr hx, h]; rfl
  · simp [sMem]

theorem sMem_foldl_sInsert (b a : VL) (x : Value) : sMem (b.foldl sInsert a) x = (sMem a x || sMem b x) := by
  induction b generalizing a with
  | nil => simp [sMem]
  | cons y b ih => simp only [List.foldl_cons, ih, sMem_sInsert, sMem_cons, Bool.or_assoc]

theorem mem_union (a b : VL) (x : Value) : sMem (union a b) x = (sMem a x || sMem b x) :=
  sMem_foldl_sInsert b a x

theorem sMem_filter (a : VL) (q : Value → Bool) (hq : ∀ y z, pyEq y z = true → q y = q z) (x : Value) :
    sMem (a.filter q) x = (sMem a x && q x) := by
  rw [sMem, List.any_filter, sMem, Bool.eq_iff_iff]
  simp only [List.any_eq_true, Bool.and_eq_true]
  exact ⟨fun ⟨y, hy, hqy, hyx⟩ => ⟨⟨y, hy, hyx⟩, hq y x hyx ▸ hqy⟩,
    fun ⟨⟨y, hy, hyx⟩, hqx⟩ => ⟨y, hy, (hq y x hyx).symm ▸ hqx, hyx⟩⟩

theorem mem_sInter (a b : VL) (x : Value) : sMem (sInter a b) x = (sMem a x && sMem b x) :=
  sMem_filter a (sMem b) (fun _ _ h => sMem_congr h b) x

theorem mem_intersect (a b : VL) (x : Value) : sMem (intersect a b) x = (sMem a x && sMem b x) := by
  simp only [intersect]
  split
  · exact mem_sInter a b x
  · rw [mem_sInter, Bool.and_comm]

theorem mem_difference (a b : VL) (x : Value) : sMem (difference a b) x = (sMem a x && !sMem b x) :=
  sMem_filter a (fun y => !sMem b y) (fun _ _ h => by simp [sMem_congr h b]) x

theorem mem_symmetricDifference (a b : VL) (x : Value) :
    sMem (symmetricDifference a b) x = ((sMem a x && !sMem b x) || (sMem b x && !sMem a x)) := by
  rw [symmetricDifference, sSymDiff, sMem_append, ← difference, ← difference, mem_difference, mem_difference]

theorem union_comm (a b : VL) : SetEqv (union a b) (union b a) := by
  intro x; rw [mem_union, mem_union, Bool.or_comm]
theorem union_assoc (a b c : VL) : SetEqv (union (union a b) c) (union a (union b c)) := by
  intro x; simp only [mem_union, Bool.or_assoc]
theorem intersect_comm (a b : VL) : SetEqv (intersect a b) (intersect b a) := by
  intro x; rw [mem_intersect, mem_intersect, Bool.and_comm]
theorem intersect_assoc (a b c : VL) : SetEqv (intersect (intersect a b) c) (intersect a (intersect b c)) := by
  intro x; simp only [mem_intersect, Bool.and_assoc]
theorem union_absorb (a b : VL) : SetEqv (union a (intersect a b)) a := by
  intro x; rw [mem_union, mem_intersect]; cases sMem a x <;> simp
theorem intersect_absorb (a b : VL) : SetEqv (intersect a (union a b)) a := by
  intro x; rw [mem_intersect, mem_union]; cases sMem a x <;> simp
theorem union_idem (a : VL) : SetEqv (union a a) a := by
  intro x; rw [mem_union]; simp
/-- `a - b` is the relative complement -/
theorem difference_is_complement (a b : VL) (x : Value) :
    sMem (difference a b) x = true ↔ sMem a x = true ∧ sMem b x = false := by
  rw [mem_difference]; simp
theorem symmetricDifference_comm (a b : VL) : SetEqv (symmetricDifference a b) (symmetricDifference b a) := by
  intro x; rw [mem_symmetricDifference, mem_symmetricDifference, Bool.or_comm]
theorem symmetricDifference_eq (a b : VL) :
    SetEqv (symmetricDifference a b) (difference (union a b) (intersect a b)) := by
  intro x
  rw [mem_symmetricDifference, mem_difference, mem_union, mem_intersect]
  cases sMem a x <;> cases sMem b x <;> rfl
theorem intersect_distrib_union (a b c : VL) :
    SetEqv (intersect a (union b c)) (union (intersect a b) (intersect a c)) := by
  intro x
  simp only [mem_intersect, mem_union]
  cases sMem a x <;> simp

theorem SetInv_sInsert (s : VL) (y : Value) (h : SetInv s) : SetInv (sInsert s y) := by
  simp only [sInsert]
  split
  · exact h
  · rename_i hm
    unfold SetInv
    rw [List.pairwise_append]
    refine ⟨h, by simp, ?_⟩
    intro a ha b hb
    simp at hb; subst hb
    simp only [sMem, List.any_eq_true, not_exists, not_and, Bool.not_eq_true] at hm
    exact hm a ha

theorem SetInv_foldl (b a : VL) (h : SetInv a) : SetInv (b.foldl sInsert a) := by
  induction b generalizing a with
  | nil => exact h
  | cons y b ih => exact ih _ (SetInv_sInsert a y h)

/-- the set operations keep sets duplicate-free -/
theorem SetInv_ops (a b : VL) (ha : SetInv a) (hb : SetInv b) :
    SetInv (union a b) ∧ SetInv (intersect a b) ∧ SetInv (difference a b) ∧ SetInv (toSet a) := by
  refine ⟨SetInv_foldl b a ha, ?_, List.Pairwise.filter _ ha, SetInv_foldl a [] List.Pairwise.nil⟩
  simp only [intersect]
  split
  · exact List.Pairwise.filter _ ha
  · exact List.Pairwise.filter _ hb

theorem toSet_mem (xs : VL) (x : Value) : sMem (toSet xs) x = xs.any (fun y => pyEq y x) := by
  simp only [toSet, sOfList, sMem_foldl_sInsert]; simp [sMem]

example : union [.int 1, .int 2] [.bool true, .int 3] = [.int 1, .int 2, .int 3] := by decide

/-! ### dict laws -/

/-- keys pairwise different under `==` -/
def DictInv (d : KV) : Prop := (d.map (·.1)).Pairwise (fun a b => pyEq a b = false)

/-- `set` then `get` -/
theorem get_set (d : KV) (k v k' : Value) :
    dGet (dSet d k v) k' = if pyEq k k' then some v else dGet d k' := by
  fun_induction dSet d k v with
  | case1 => simp [dGet]
  | case2 k₀ v₀ r h0 => simp only [dGet, pyEq_congr_left h0 k']; split <;> rfl
  | case3 k₀ v₀ r h0 ih =>
    by_cases h1 : pyEq k₀ k' = true
    · simp [dGet, h1, pyEq_false_of h1 h0]
    · simp [dGet, h1, ih]

theorem keys_dSet (d : KV) (k v : Value) : (dSet d k v).map (·.1) = sInsert (d.map (·.1)) k := by
  fun_induction dSet d k v with
  | case1 => rfl
  | case2 k₀ v₀ r h0 => simp [sInsert, sMem_cons, h0]
  | case3 k₀ v₀ r h0 ih =>
    simp only [List.map_cons, ih, sInsert, sMem_cons, h0, Bool.false_or]
    split <;> rfl

theorem DictInv_dSet (d : KV) (k v : Value) (h : DictInv d) : DictInv (dSet d k v) := by
  unfold DictInv
  rw [keys_dSet]
  exact SetInv_sInsert _ k h

theorem isSome_dGet (d : KV) (k : Value) : (dGet d k).isSome = sMem (d.map (·.1)) k := by
  induction d with
  | nil => rfl
  | cons p r ih =>
    simp only [dGet, List.map_cons, sMem_cons]
    split <;> simp [*]

theorem get_update (d e : KV) (he : DictInv e) (k : Value) :
    dGet (dUpdate d e) k = (dGet e k).or (dGet d k) := by
  rw [dUpdate]
  induction e generalizing d with
  | nil => rfl
  | cons p r ih =>
    obtain ⟨k₀, v₀⟩ := p
    rw [DictInv, List.map_cons, List.pairwise_cons] at he
    rw [List.foldl_cons, ih _ he.2, get_set, dGet]
    by_cases h0 : pyEq k₀ k = true
    · -- no key of `r` is `==` to `k₀`, hence none to `k`
      have : dGet r k = none := by
        rw [← Option.not_isSome_iff_eq_none, isSome_dGet, ← sMem_congr h0, sMem, List.any_eq_true]
        rintro ⟨a, ha, hk⟩
        rw [pyEq_symm, he.1 a ha] at hk
        cases hk
      simp [this, h0]
    · simp [h0]

/-- `+` on dicts is right-biased -/
theorem combineDicts_right_biased (a b : KV) (hb : DictInv b) (k : Value) :
    dGet (combineDicts a b) k = (dGet b k).or (dGet a k) :=
  get_update a b hb k

theorem DictInv_dUpdate (d e : KV) (h : DictInv d) : DictInv (dUpdate d e) := by
  simp only [dUpdate]
  induction e generalizing d with
  | nil => exact h
  | cons p r ih => exact ih _ (DictInv_dSet d p.1 p.2 h)

/-- `+` on dicts is associative (as maps) -/
theorem combineDicts_assoc (a b c : KV) (hb : DictInv b) (hc : DictInv c) (k : Value) :
    dGet (combineDicts (combineDicts a b) c) k = dGet (combineDicts a (combineDicts b c)) k := by
  simp only [combineDicts, get_update _ _ hc, get_update _ _ hb, get_update _ _ (DictInv_dUpdate b c hb)]
  cases dGet c k <;> cases dGet b k <;> rfl

/-- `delete` then `get` / `containsKey` -/
theorem get_delete (d : KV) (k k' : Value) :
    dGet (dDel d k) k' = if pyEq k k' then none else dGet d k' := by
  induction d with
  | nil => simp [dDel, dGet]
  | cons p r ih =>
    obtain ⟨k₀, v₀⟩ := p
    simp only [dDel, List.filter_cons] at ih ⊢
    by_cases h0 : pyEq k₀ k = true
    · simp only [h0, Bool.not_true, Bool.false_eq_true, ↓reduceIte, ih, dGet, pyEq_congr_left h0 k']
      split <;> rfl
    · by_cases h1 : pyEq k₀ k' = true
      · simp [dGet, h0, h1, pyEq_false_of h1 h0]
      · simp [dGet, h0, h1, ih]

theorem delete_then_containsKey (d : KV) (k : Value) : containsKey (dictDelete d [k]) k = false := by
  simp [containsKey, dHas, dictDelete, get_delete, pyEq_refl]

theorem set_then_get (d : KV) (k v : Value) : dictGet (dictSet d k v) k .null = v := by
  simp [dictGet, dictSet, get_set, pyEq_refl]

/-- `mergeWith` of dicts with disjoint key sets is their union (whatever the mergers) -/
theorem mergeWith_disjoint (lm im : Value → Value → Value) (fuel lvl : Nat) (d1 d2 : KV)
    (h1 : ∀ p ∈ d1, dGet d2 p.1 = none) (h2 : ∀ q ∈ d2, dGet d1 q.1 = none) :
    mergeDicts lm im (fuel + 1) lvl d1 d2 = some (d1 ++ d2) := by
  simp only [mergeDicts]
  have hf : ∀ (l acc : KV), (∀ p ∈ l, dGet d2 p.1 = none) →
      l.foldl (mergeStep lm im (mergeDicts lm im fuel (if lvl = 0 then 0 else lvl - 1)) lvl d2) (some acc)
        = some (acc ++ l) := by
    intro l
    induction l with
    | nil => intro acc _; simp
    | cons p l ih =>
      intro acc hl
      simp only [List.foldl_cons, mergeStep, hl p (List.mem_cons_self ..)]
      rw [ih _ (fun q hq => hl q (List.mem_cons_of_mem _ hq))]
      simp
  rw [hf d1 [] h1]
  simp only [List.nil_append, Option.map_some, Option.some.injEq, List.append_cancel_left_eq]
  rw [List.filter_eq_self]
  intro q hq
  simp [dHas, h2 q hq]

/-! ### memorize -/

theorem take_succ_getD (xs : VL) (i : Nat) (h : i < xs.length) : xs.take i ++ [xs.getD i .null] = xs.take (i + 1) := by
  rw [List.take_add_one, List.getD_eq_getElem?_getD, List.getElem?_eq_getElem h]
  rfl

def memAt (xs : VL) (n : Nat) : Mem := ⟨xs.drop n, xs.take n⟩

theorem Mem.next_memAt (xs : VL) (n i : Nat) (hn : n ≤ xs.length) (hi : i ≤ n) :
    (memAt xs n).next i
      = if i < xs.length then some (xs.getD i .null, memAt xs (max n (i + 1))) else none := by
  simp only [Mem.next, memAt, List.length_take, Nat.min_eq_left hn]
  by_cases h : i < n
  · rw [if_pos h, if_pos (by omega), Nat.max_eq_left (by omega), List.getD_eq_getElem?_getD,
      List.getD_eq_getElem?_getD, List.getElem?_take_of_lt h]
  · have hin : i = n := by omega
    subst hin
    rw [if_neg h, Nat.max_eq_right (by omega)]
    by_cases hl : i < xs.length
    · rw [if_pos hl, List.drop_eq_getElem_cons hl, List.take_add_one, List.getD_eq_getElem?_getD,
        List.getElem?_eq_getElem hl]
      rfl
    · rw [if_neg hl, List.drop_eq_nil_of_le (by omega)]

theorem Mem.drain_memAt (xs : VL) (fuel n i : Nat) (hn : n ≤ xs.length) (hi : i ≤ n) (hf : xs.length < fuel + i) :
    Mem.drain fuel (memAt xs n) i = (xs.drop i, memAt xs xs.length) := by
  induction fuel generalizing n i with
  | zero => rw [Mem.drain, List.drop_eq_nil_of_le (by omega), show n = xs.length by omega]
  | succ fuel ih =>
    rw [Mem.drain, Mem.next_memAt xs n i hn hi]
    by_cases hl : i < xs.length
    · simp only [if_pos hl]
      rw [ih _ (i + 1) (by omega) (by omega) (by omega), List.getD_eq_getElem?_getD,
        List.getElem?_eq_getElem hl, List.drop_eq_getElem_cons hl]
      rfl
    · simp only [if_neg hl]
      rw [List.drop_eq_nil_of_le (by omega), show n = xs.length by omega]

/-- **memorize**: iterating the memorized one-shot source to the end, twice, gives the same
    elements both times (the source itself is pulled only once per element) -/
theorem memorize_same_elements (xs : VL) :
    let m0 : Mem := ⟨xs, []⟩
    let r1 := Mem.drain (xs.length + 1) m0 0
    let r2 := Mem.drain (xs.length + 1) r1.2 0
    r1.1 = xs ∧ r2.1 = xs ∧ r1.2.src = [] := by
  intro m0 r1 r2
  have h1 : r1 = (xs, memAt xs xs.length) :=
    Mem.drain_memAt xs _ 0 0 (Nat.zero_le _) (Nat.le_refl _) (by omega)
  have h2 : r2 = (xs, memAt xs xs.length) := by
    show Mem.drain _ r1.2 0 = _
    rw [h1]
    exact Mem.drain_memAt xs _ _ 0 (Nat.le_refl _) (Nat.zero_le _) (by omega)
  rw [h1, h2]
  exact ⟨rfl, rfl, List.drop_length⟩

/-! #### several live iterators over one memorized source

Two cursors (`false` / `true`) over one shared buffer, advanced in an arbitrary order (the
schedule).  Whatever the interleaving, each cursor receives the source sequence, in order,
as far as it has been advanced - the memorized iterator behaves like the list of its elements
for every consumer (zip of the collection with itself, self-join, nested lambdas...). -/

structure Two where
  m : Mem
  i : Nat := 0          -- position of cursor `false`
  j : Nat := 0          -- position of cursor `true`
  a : VL := []          -- what cursor `false` has received
  b : VL := []          -- what cursor `true` has received

def Two.step (t : Two) (who : Bool) : Two :=
  if who then
    match t.m.next t.j with
    | none => t
    | some (x, m') => { t with m := m', j := t.j + 1, b := t.b ++ [x] }
  else
    match t.m.next t.i with
    | none => t
    | some (x, m') => { t with m := m', i := t.i + 1, a := t.a ++ [x] }

def Two.run (sched : List Bool) (t : Two) : Two := sched.foldl Two.step t

def TwoInv (xs : VL) (t : Two) (n : Nat) : Prop :=
  t.m = memAt xs n ∧ n ≤ xs.length ∧ t.i ≤ n ∧ t.j ≤ n ∧ t.a = xs.take t.i ∧ t.b = xs.take t.j

theorem Two.step_inv (xs : VL) (t : Two) (who : Bool) (n : Nat) (h : TwoInv xs t n) :
    ∃ n', TwoInv xs (t.step who) n' ∧
      (t.step who).i = min (t.i + if who then 0 else 1) xs.length ∧
      (t.step who).j = min (t.j + if who then 1 else 0) xs.length := by
  obtain ⟨hm, hn, hi, hj, ha, hb⟩ := h
  have hil := Nat.le_trans hi hn
  have hjl := Nat.le_trans hj hn
  cases who with
  | true =>
    simp only [Two.step, ↓reduceIte, hm, Mem.next_memAt xs n t.j hn hj]
    by_cases hl : t.j < xs.length
    · simp only [if_pos hl]
      exact ⟨max n (t.j + 1), ⟨rfl, Nat.max_le.mpr ⟨hn, hl⟩, Nat.le_trans hi (Nat.le_max_left ..), Nat.le_max_right ..,
        ha, by rw [hb]; exact take_succ_getD xs t.j hl⟩, (Nat.min_eq_left hil).symm, (Nat.min_eq_left hl).symm⟩
    · simp only [if_neg hl]
      exact ⟨n, ⟨hm, hn, hi, hj, ha, hb⟩, (Nat.min_eq_left hil).symm, by omega⟩
  | false =>
    simp only [Two.step, Bool.false_eq_true, ↓reduceIte, hm, Mem.next_memAt xs n t.i hn hi]
    by_cases hl : t.i < xs.length
    · simp only [if_pos hl]
      exact ⟨max n (t.i + 1), ⟨rfl, Nat.max_le.mpr ⟨hn, hl⟩, Nat.le_max_right .., Nat.le_trans hj (Nat.le_max_left ..),
        by rw [ha]; exact take_succ_getD xs t.i hl, hb⟩, (Nat.min_eq_left hl).symm, (Nat.min_eq_left hjl).symm⟩
    · simp only [if_neg hl]
      exact ⟨n, ⟨hm, hn, hi, hj, ha, hb⟩, by omega, (Nat.min_eq_left hjl).symm⟩

/-- a cursor that has reached the end stays there -/
theorem min_add_min (x k l : Nat) : min (min x l + k) l = min (x + k) l := by omega

theorem Two.run_inv (xs : VL) (sched : List Bool) (t : Two) (n : Nat) (h : TwoInv xs t n) :
    ∃ n', TwoInv xs (Two.run sched t) n' ∧
      (Two.run sched t).i = min (t.i + sched.count false) xs.length ∧
      (Two.run sched t).j = min (t.j + sched.count true) xs.length := by
  induction sched generalizing t n with
  | nil =>
    exact ⟨n, h, (Nat.min_eq_left (Nat.le_trans h.2.2.1 h.2.1)).symm, (Nat.min_eq_left (Nat.le_trans h.2.2.2.1 h.2.1)).symm⟩
  | cons w sched ih =>
    obtain ⟨n₁, hinv, hi, hj⟩ := Two.step_inv xs t w n h
    obtain ⟨n₂, hinv', hi', hj'⟩ := ih (t.step w) n₁ hinv
    rw [Two.run, List.foldl_cons, ← Two.run, hi', hj', hi, hj, min_add_min, min_add_min, List.count_cons, List.count_cons]
    refine ⟨n₂, hinv', ?_, ?_⟩
    · congr 1; cases w <;> simp <;> omega
    · congr 1; cases w <;> simp <;> omega

/-- **memorize, interleaved consumers.**  For EVERY schedule of two iterators over one memorized
    one-shot source, each iterator has received exactly the first (number of times it was advanced)
    elements of the source - nothing skipped, nothing doubled, whatever the other one did in
    between.  (An iterator advanced `≥ |xs|` times has received the whole source.) -/
theorem memorize_interleaved (xs : VL) (sched : List Bool) :
    let t := Two.run sched { m := ⟨xs, []⟩ }
    t.a = xs.take (sched.count false) ∧ t.b = xs.take (sched.count true) := by
  obtain ⟨_, ⟨_, _, _, _, ha, hb⟩, hi, hj⟩ :=
    Two.run_inv xs sched { m := ⟨xs, []⟩ } 0 ⟨rfl, Nat.zero_le _, Nat.le_refl _, Nat.le_refl _, rfl, rfl⟩
  rw [Nat.zero_add] at hi hj
  exact ⟨by rw [ha, hi, ← List.take_eq_take_min], by rw [hb, hj, ← List.take_eq_take_min]⟩

theorem memorize_interleaved_full (xs : VL) (sched : List Bool)
    (h0 : xs.length ≤ sched.count false) (h1 : xs.length ≤ sched.count true) :
    (Two.run sched { m := ⟨xs, []⟩ }).a = xs ∧ (Two.run sched { m := ⟨xs, []⟩ }).b = xs := by
  have := memorize_interleaved xs sched
  exact ⟨by rw [this.1, List.take_of_length_le h0], by rw [this.2, List.take_of_length_le h1]⟩

/-! ### unpack -/

/-- `unpack()` (no names) binds `$1 .. $n` to ALL elements in order - also when the source is a
    one-shot iterator whose first element the length probe has already taken -/
theorem unpack_binds_positional (xs : VL) :
    unpack [] xs = some ((xs.zipIdx 1).map fun p => (Nat.toDigits 10 p.2, p.1)) := by
  simp only [unpack, unpackBinds, List.isEmpty_nil, ↓reduceIte, List.take_append_drop]

/-- `unpack(names)` binds name i to element i when the sizes agree, and is an error otherwise -/
theorem unpack_binds_named (names : List (List Char)) (hn : names ≠ []) (xs : VL) :
    unpack names xs = if xs.length = names.length then some (names.zip xs) else none := by
  have hne : names.isEmpty = false := by simpa using hn
  simp only [unpack, unpackBinds, hne, Bool.false_eq_true, ↓reduceIte, List.length_take]
  by_cases h : xs.length = names.length
  · have h' : (names.length != min (names.length + 1) xs.length) = false := by simp; omega
    rw [if_neg (by simp [h']), if_pos h, List.take_of_length_le (by omega)]
  · have h' : (names.length != min (names.length + 1) xs.length) = true := by simp; omega
    rw [if_pos h', if_neg h]

/-- **unpack binds every name to its element** - positional (`$1..$n`, all elements, also from a
    one-shot iterator whose head the length probe already took) and named (sizes must agree) -/
theorem unpack_binds (names : List (List Char)) (xs : VL) :
    unpack names xs =
      if names = [] then some ((xs.zipIdx 1).map fun p => (Nat.toDigits 10 p.2, p.1))
      else if xs.length = names.length then some (names.zip xs) else none := by
  by_cases h : names = []
  · subst h; simp [unpack_binds_positional]
  · simp [h, unpack_binds_named names h xs]

theorem unpack_first (x : Value) (xs : VL) :
    (unpack [] (x :: xs)).bind (fun b => (b.find? fun p => p.1 == ['1']).map (·.2)) = some x := by
  simp [unpack_binds_positional, Nat.toDigits, Nat.toDigitsCore, Nat.digitChar]


/-! ### the layer the driver runs agrees with the pure definitions (`*_pure`)

`LSeq` operators walk the elements and stop at the first failing lambda application; where no
application fails they compute exactly the list-level function the theorems above are about. -/

theorem mapM_append (f : Value → R Value) (g : Value → Value) (pre rest : VL) (e : Option Err)
    (h : ∀ y ∈ pre, f y = .ok (g y)) :
    LSeq.mapM f (pre ++ rest) e = ⟨select g pre ++ (LSeq.mapM f rest e).items, (LSeq.mapM f rest e).err⟩ := by
  induction pre with
  | nil => simp [select]
  | cons y ys ih =>
    rw [List.forall_mem_cons] at h
    simp [LSeq.mapM, h.1, ih h.2, select]

theorem mapM_pure (f : Value → R Value) (g : Value → Value) (xs : VL) (e : Option Err)
    (h : ∀ x ∈ xs, f x = .ok (g x)) : LSeq.mapM f xs e = ⟨select g xs, e⟩ := by
  simpa [LSeq.mapM] using mapM_append f g xs [] e h

theorem filterM_append (p : Value → R Bool) (q : Value → Bool) (pre rest : VL) (e : Option Err)
    (h : ∀ y ∈ pre, p y = .ok (q y)) :
    LSeq.filterM p (pre ++ rest) e
      = ⟨where_ q pre ++ (LSeq.filterM p rest e).items, (LSeq.filterM p rest e).err⟩ := by
  induction pre with
  | nil => simp [where_]
  | cons y ys ih =>
    rw [List.forall_mem_cons] at h
    cases hq : q y <;> simp [LSeq.filterM, h.1, ih h.2, where_, hq]

theorem filterM_pure (p : Value → R Bool) (q : Value → Bool) (xs : VL) (e : Option Err)
    (h : ∀ x ∈ xs, p x = .ok (q x)) : LSeq.filterM p xs e = ⟨where_ q xs, e⟩ := by
  simpa [LSeq.filterM] using filterM_append p q xs [] e h

theorem flatMapM_pure (f : Value → R VL) (g : Value → VL) (xs : VL) (e : Option Err)
    (h : ∀ x ∈ xs, f x = .ok (g x)) : LSeq.flatMapM f xs e = ⟨selectMany g xs, e⟩ := by
  induction xs with
  | nil => simp [LSeq.flatMapM, selectMany]
  | cons x xs ih =>
    rw [List.forall_mem_cons] at h
    simp [LSeq.flatMapM, h.1, ih h.2, selectMany]

theorem takeWhileM_pure (p : Value → R Bool) (q : Value → Bool) (xs : VL) (e : Option Err)
    (h : ∀ x ∈ xs, p x = .ok (q x)) :
    LSeq.takeWhileM p xs e = ⟨takeWhile q xs, if xs.all q then e else none⟩ := by
  induction xs with
  | nil => simp [LSeq.takeWhileM, takeWhile]
  | cons x xs ih =>
    rw [List.forall_mem_cons] at h
    cases hq : q x <;> simp [LSeq.takeWhileM, h.1, ih h.2, takeWhile, hq]

theorem dropWhileM_pure (p : Value → R Bool) (q : Value → Bool) (xs : VL) (e : Option Err)
    (h : ∀ x ∈ xs, p x = .ok (q x)) : LSeq.dropWhileM p xs e = ⟨skipWhile q xs, e⟩ := by
  induction xs with
  | nil => simp [LSeq.dropWhileM, skipWhile]
  | cons x xs ih =>
    rw [List.forall_mem_cons] at h
    cases hq : q x <;> simp [LSeq.dropWhileM, h.1, ih h.2, skipWhile, hq]

/-! A hashable value holds no generator (`hasLazy`): `distinct` / `groupBy` / `toSet`, which hash their keys, never
consume one. -/

mutual
theorem noLazy_of_hashable : ∀ v : Value, hashable v = true → hasLazy v = false
  | .null, _ | .bool _, _ | .int _, _ | .flt _, _ | .str _, _ | .host _, _ | .set _, _ => by simp [hasLazy]
  | .list _, h => by simp [hashable] at h
  | .iter _, h => by simp [hashable] at h
  | .tuple l, h => by simp only [hashable] at h; simpa [hasLazy] using noLazyL_of_hashable l h
  | .dict d, h => by simp only [hashable] at h; simpa [hasLazy] using noLazyP_of_hashable d h
theorem noLazyL_of_hashable : ∀ l : List Value, hashableL l = true → hasLazyL l = false
  | [], _ => by simp [hasLazyL]
  | x :: xs, h => by
    simp only [hashableL, Bool.and_eq_true] at h
    simp [hasLazyL, noLazy_of_hashable x h.1, noLazyL_of_hashable xs h.2]
theorem noLazyP_of_hashable : ∀ d : List (Value × Value), hashableP d = true → hasLazyP d = false
  | [], _ => by simp [hasLazyP]
  | (_, v) :: r, h => by
    simp only [hashableP, Bool.and_eq_true] at h
    simp [hasLazyP, noLazy_of_hashable v h.1, noLazyP_of_hashable r h.2]
end

theorem noLazyL_of_all_hashable (xs : VL) (h : ∀ x ∈ xs, hashable x = true) : hasLazyL xs = false := by
  induction xs with
  | nil => simp [hasLazyL]
  | cons x xs ih =>
    rw [List.forall_mem_cons] at h
    simp [hasLazyL, noLazy_of_hashable x h.1, ih h.2]

theorem distinctM_pure (key : Value → R Value) (k : Value → Value) (seen xs : VL) (e : Option Err)
    (h : ∀ x ∈ xs, key x = .ok (k x)) (hh : ∀ x ∈ xs, hashable (k x) = true) :
    distinctM key seen xs e = ⟨distinctAux k seen xs, e⟩ := by
  induction xs generalizing seen with
  | nil => simp [distinctM, distinctAux]
  | cons x xs ih =>
    rw [List.forall_mem_cons] at h hh
    simp only [distinctM, distinctAux, h.1, hh.1, noLazy_of_hashable _ hh.1, Bool.not_true, Bool.false_eq_true,
      ↓reduceIte, ih _ h.2 hh.2]
    split <;> rfl

theorem findM_pure (p : Value → R Bool) (q : Value → Bool) (i : Nat) (xs : VL)
    (h : ∀ x ∈ xs, p x = .ok (q x)) :
    (LSeq.findM p i xs none).map (fun r => match r with | some (j, _) => (j : Int) | none => -1)
      = .ok (indexWhereFrom q i xs) := by
  induction xs generalizing i with
  | nil => rfl
  | cons x xs ih =>
    rw [List.forall_mem_cons] at h
    simp only [LSeq.findM, h.1, indexWhereFrom, bind, Except.bind]
    cases hq : q x
    · exact ih (i + 1) h.2
    · rfl

theorem foldM2_pure (f : Value → Value → R Value) (g : Value → Value → Value) (acc : Value) (xs : VL)
    (h : ∀ a x, f a x = .ok (g a x)) : foldM2 f acc xs = .ok (xs.foldl g acc) := by
  induction xs generalizing acc with
  | nil => simp [foldM2]
  | cons x xs ih => simp [foldM2, h, bind, Except.bind, ih]

theorem scanM2_pure (f : Value → Value → R Value) (g : Value → Value → Value) (acc : Value) (xs : VL)
    (e : Option Err) (h : ∀ a x, f a x = .ok (g a x)) : scanM2 f acc xs e = ⟨scanFrom g acc xs, e⟩ := by
  induction xs generalizing acc with
  | nil => simp [scanM2, scanFrom]
  | cons x xs ih => simp [scanM2, scanFrom, h, ih]

/-- `reduce` without failures is `aggregate` -/
theorem reduceM_pure (f : Value → Value → R Value) (g : Value → Value → Value) (seed : Option Value) (xs : VL)
    (h : ∀ a x, f a x = .ok (g a x)) :
    reduceM f seed ⟨xs, none⟩ = match aggregate g seed xs with | some v => .ok v | none => .error .type := by
  match seed, xs with
  | some s, xs => simp [reduceM, aggregate, foldM2_pure f g _ _ h, bind, Except.bind, pure, Except.pure]
  | none, [] => simp [reduceM, aggregate]
  | none, x :: xs => simp [reduceM, aggregate, foldM2_pure f g _ _ h, bind, Except.bind, pure, Except.pure]

theorem groupsM_pure (key : Lam) (val : Option Lam) (xs : VL) (g : Groups)
    (hk : ∀ x ∈ xs, ∃ k, key.eval x = .ok k ∧ hashable k = true)
    (hv : ∀ x ∈ xs, ∃ v, (optLam val).eval x = .ok v) :
    groupsM key val xs g
      = .ok (xs.foldl (fun g x => addToGroup (key.fn x) ((optLam val).fn x) g) g) := by
  induction xs generalizing g with
  | nil => simp [groupsM]
  | cons x xs ih =>
    rw [List.forall_mem_cons] at hk hv
    obtain ⟨⟨k, hk1, hk2⟩, hk⟩ := hk
    obtain ⟨⟨v, hv1⟩, hv⟩ := hv
    have hv2 : (val.getD .arg).eval x = .ok v := hv1
    simp only [groupsM, hv2, hk1, bind, Except.bind, hk2, noLazy_of_hashable k hk2, Bool.not_true,
      Bool.false_eq_true, ↓reduceIte, List.foldl_cons, Lam.fn, hv1]
    exact ih _ hk hv

/-- when the sort cannot fail the model sorts with the pure `orderFields` (stable merge sort) -/
theorem sortRun_pure (fs : List (Lam × Bool)) (xs : VL) (h : sortErrs fs [xs] = []) :
    sortRun fs xs = .ok (orderFields ltT gtT (fieldsFn fs) xs) := by
  simp [sortRun, h]

/-! ### lambdas are applied element by element: results in order, an exception at its position

The higher-order functions hand every element to their lambda exactly once, in order.  A lambda is a
function of its argument (`Lam.eval` is a Lean function): equal elements get equal results, and a
lambda that returns a lazy sequence returns a fresh, complete one at every application.  When an
application raises, a lazy operator has produced the results for the elements before it and then raises
that exception - it never ends early as if the collection were exhausted. -/

/-- **select is map, element by element, including the position of the error** -/
theorem select_map (f : Value → R Value) (g : Value → Value) (pre post : VL) (x : Value) (er : Err)
    (e : Option Err) (hpre : ∀ y ∈ pre, f y = .ok (g y)) (hx : f x = .error er) :
    LSeq.mapM f (pre ++ x :: post) e = ⟨select g pre, some er⟩ := by
  rw [mapM_append f g pre _ e hpre]
  simp [LSeq.mapM, hx]

/-- `where`: the elements before the failing application are filtered and produced, then the exception -/
theorem where_error_position (p : Value → R Bool) (q : Value → Bool) (pre post : VL) (x : Value) (er : Err)
    (e : Option Err) (hpre : ∀ y ∈ pre, p y = .ok (q y)) (hx : p x = .error er) :
    LSeq.filterM p (pre ++ x :: post) e = ⟨where_ q pre, some er⟩ := by
  rw [filterM_append p q pre _ e hpre]
  simp [LSeq.filterM, hx]

/-- `takeWhile`: an exception in the predicate is raised after the prefix accepted so far -/
theorem takeWhile_error_position (p : Value → R Bool) (pre post : VL) (x : Value) (er : Err)
    (e : Option Err) (hpre : ∀ y ∈ pre, p y = .ok true) (hx : p x = .error er) :
    LSeq.takeWhileM p (pre ++ x :: post) e = ⟨pre, some er⟩ := by
  induction pre with
  | nil => simp [LSeq.takeWhileM, hx]
  | cons y ys ih =>
    rw [List.forall_mem_cons] at hpre
    simp [LSeq.takeWhileM, hpre.1, ih hpre.2]

/-- `skipWhile`: an exception in the predicate while still skipping: nothing was produced yet -/
theorem skipWhile_error_position (p : Value → R Bool) (pre post : VL) (x : Value) (er : Err)
    (e : Option Err) (hpre : ∀ y ∈ pre, p y = .ok true) (hx : p x = .error er) :
    LSeq.dropWhileM p (pre ++ x :: post) e = ⟨[], some er⟩ := by
  induction pre with
  | nil => simp [LSeq.dropWhileM, hx]
  | cons y ys ih =>
    rw [List.forall_mem_cons] at hpre
    simp [LSeq.dropWhileM, hpre.1, ih hpre.2]

/-- **a lazy `select` is never cut short silently**: if consuming it to the end raises nothing, the source raised
    nothing, every application succeeded and there is one result per element -/
theorem select_never_truncates (f : Value → R Value) (xs : VL) (e : Option Err)
    (h : (LSeq.mapM f xs e).err = none) :
    e = none ∧ (∀ x ∈ xs, ∃ v, f x = .ok v) ∧ (LSeq.mapM f xs e).items.length = xs.length := by
  induction xs with
  | nil => simpa [LSeq.mapM] using h
  | cons x xs ih =>
    cases hfx : f x with
    | error er => simp [LSeq.mapM, hfx] at h
    | ok v =>
      simp only [LSeq.mapM, hfx] at h ⊢
      obtain ⟨h1, h2, h3⟩ := ih h
      exact ⟨h1, List.forall_mem_cons.mpr ⟨⟨v, hfx⟩, h2⟩, by simp [h3]⟩

/-- the same for `where`: no exception at the end means every application of the predicate succeeded -/
theorem where_never_truncates (p : Value → R Bool) (xs : VL) (e : Option Err)
    (h : (LSeq.filterM p xs e).err = none) : e = none ∧ ∀ x ∈ xs, ∃ b, p x = .ok b := by
  induction xs with
  | nil => simpa [LSeq.filterM] using h
  | cons x xs ih =>
    cases hpx : p x with
    | error er => simp [LSeq.filterM, hpx] at h
    | ok b =>
      simp only [LSeq.filterM, hpx] at h
      exact ⟨(ih h).1, List.forall_mem_cons.mpr ⟨⟨b, hpx⟩, (ih h).2⟩⟩

/-- **equal elements get equal results** (also when the results are lazy sequences: each application makes
    its own): positions of the input that hold the same element hold the same result -/
theorem select_congr_dup (f : Value → R Value) (xs : VL) (e : Option Err)
    (h : (LSeq.mapM f xs e).err = none) (i j : Nat) (hij : xs[i]? = xs[j]?) :
    (LSeq.mapM f xs e).items[i]? = (LSeq.mapM f xs e).items[j]? := by
  obtain ⟨_, hok, _⟩ := select_never_truncates f xs e h
  let g : Value → Value := fun x => match f x with | .ok v => v | .error _ => null
  have hg : ∀ x ∈ xs, f x = .ok (g x) := by
    intro x hx
    obtain ⟨v, hv⟩ := hok x hx
    simp [g, hv]
  rw [mapM_pure f g xs e hg]
  simp [select, List.getElem?_map, hij]

/-- a lambda that returns a lazy sequence: the result is the complete filtered sequence of THIS element, whatever
    was done with the results of earlier applications (the model has no state a lambda could share between calls) -/
theorem lam_where_eval (p : Lam) (xs : VL) (q : Value → Bool) (hl : hasLazyL xs = false)
    (hp : ∀ y ∈ xs, (do let v ← (← p.evalR y).force; pure (truthy v) : R Bool) = .ok (q y)) :
    (Lam.whereIn .arg p).eval (tuple xs) = .ok (iter (where_ q xs)) := by
  have := filterM_pure (fun y => (do let v ← (← p.evalR y).force; pure (truthy v) : R Bool)) q xs none hp
  have e1 : (Lam.whereIn .arg p).evalR (tuple xs)
      = .ok (.lazy (LSeq.filterM (fun y => (do let v ← (← p.evalR y).force; pure (truthy v) : R Bool)) xs none)) := rfl
  simp only [Lam.eval, Lam.passThrough, hasLazy, hl, e1, this]
  simp [LRes.force, bind, Except.bind]

/-- `$.first()` on an element that is an empty list raises StopIteration, on a non-empty one gives its head -/
theorem lam_first_eval (xs : VL) (hl : hasLazyL xs = false) :
    (Lam.first .arg none).eval (tuple xs) = match xs with | [] => .error .stopIteration | x :: _ => .ok x := by
  cases xs <;>
    simp [Lam.eval, Lam.passThrough, hasLazy, hl, Lam.evalR, LRes.seq, LRes.force, firstOf, bind, Except.bind,
      pure, Except.pure]

/-! when does an exception raised inside a lambda surface?  Lazy operators return without having applied their
lambda at all; the exception comes when a consumer reaches the failing element, after the prefix before it.  Eager
operators (`indexWhere`, `any`, `all`, `toDict`, `groupBy`, `aggregate`...) apply the lambda while they are called. -/

theorem limitLazy_none (opts : Opts) (hl : opts.limit = none) (s : LSeq) : limitLazy opts s = s := by
  simp [limitLazy, hl]

/-- With `iterableDicts` and `noSets` off, an operation without collection arguments on a lazy receiver is
    `runOp1` itself: the domain guards of `runOpCore` pass, and its wrapper changes dict results only. -/
theorem runOp_lazy (opts : Opts) (hd : opts.iterableDicts = false) (hn : opts.noSets = false) (op : Op) (s : LSeq)
    (r : R Obj) (hlin : hasLazyL s.items = false ∨ op.linear = true) (hc : op.collArgs = [])
    (hlim : opts.limit = none ∨ (op.usesPlus || op.lamSeqMethods) = false)
    (h1 : runOp1 opts op (.lazy s) = r) (hr : ∀ d, r ≠ .ok (.val (dict d))) :
    runOp opts op (.lazy s) = r := by
  have h2 : (opts.limit.isSome && (op.usesPlus || op.lamSeqMethods)) = false := by
    rcases hlim with h | h <;> simp [h]
  have h3 : ((Obj.lazy s).carriesLazy && !op.linear) = false := by
    rcases hlin with h | h <;> simp [Obj.carriesLazy, h]
  simp only [runOp, runOpCore, hn, hd, h3, hc, h2, h1]
  cases r with
  | error e => cases e <;> rfl
  | ok r =>
    cases r with
    | val v =>
      cases v with
      | dict d => exact absurd rfl (hr d)
      | _ => rfl
    | _ => rfl

theorem run_select_of (opts : Opts) (hd : opts.iterableDicts = false) (hn : opts.noSets = false) (f : Lam)
    (hlim : opts.limit = none ∨ f.seqMethods = false) (s : LSeq) :
    runOp opts (.select f) (.lazy s) = .ok (.lazy (LSeq.mapM f.eval (limitLazy opts s).items (limitLazy opts s).err)) :=
  runOp_lazy opts hd hn _ s _ (.inr rfl) rfl hlim rfl nofun

theorem run_where_of (opts : Opts) (hd : opts.iterableDicts = false) (hn : opts.noSets = false) (p : Lam)
    (hlim : opts.limit = none ∨ p.seqMethods = false) (s : LSeq) :
    runOp opts (.where_ p) (.lazy s) = .ok (.lazy (LSeq.filterM p.test (limitLazy opts s).items (limitLazy opts s).err)) :=
  runOp_lazy opts hd hn _ s _ (.inr rfl) rfl hlim rfl nofun

theorem run_select_lazy (opts : Opts) (hd : opts.iterableDicts = false) (hn : opts.noSets = false) (f : Lam) (hm : f.seqMethods = false) (s : LSeq) :
    runOp opts (.select f) (.lazy s) = .ok (.lazy (LSeq.mapM f.eval (limitLazy opts s).items (limitLazy opts s).err)) :=
  run_select_of opts hd hn f (.inr hm) s

theorem run_where_lazy (opts : Opts) (hd : opts.iterableDicts = false) (hn : opts.noSets = false) (p : Lam) (hm : p.seqMethods = false) (s : LSeq) :
    runOp opts (.where_ p) (.lazy s) = .ok (.lazy (LSeq.filterM p.test (limitLazy opts s).items (limitLazy opts s).err)) :=
  run_where_of opts hd hn p (.inr hm) s

theorem run_takeWhile_lazy (opts : Opts) (hd : opts.iterableDicts = false) (hn : opts.noSets = false) (p : Lam) (hm : p.seqMethods = false) (s : LSeq) :
    runOp opts (.takeWhile p) (.lazy s) = .ok (.lazy (LSeq.takeWhileM p.test (limitLazy opts s).items (limitLazy opts s).err)) :=
  runOp_lazy opts hd hn _ s _ (.inr rfl) rfl (.inr hm) rfl nofun

theorem run_skipWhile_lazy (opts : Opts) (hd : opts.iterableDicts = false) (hn : opts.noSets = false) (p : Lam) (hm : p.seqMethods = false) (s : LSeq) :
    runOp opts (.skipWhile p) (.lazy s) = .ok (.lazy (LSeq.dropWhileM p.test (limitLazy opts s).items (limitLazy opts s).err)) :=
  runOp_lazy opts hd hn _ s _ (.inr rfl) rfl (.inr hm) rfl nofun

/-- a consumer that stops before the failing element never sees the exception: `select(f).take(k)` is the
    first `k` results when the first failing application is at a position `>= k` -/
theorem take_before_error (f : Value → R Value) (g : Value → Value) (pre post : VL) (x : Value) (er : Err)
    (e : Option Err) (hpre : ∀ y ∈ pre, f y = .ok (g y)) (hx : f x = .error er) (k : Nat) (hk : k ≤ pre.length) :
    (LSeq.mapM f (pre ++ x :: post) e).take k = ⟨(select g pre).take k, none⟩ := by
  rw [select_map f g pre post x er e hpre hx]
  simp [LSeq.take, select, hk]

/-- ...and one that goes further gets the whole prefix, then the exception -/
theorem take_past_error (f : Value → R Value) (g : Value → Value) (pre post : VL) (x : Value) (er : Err)
    (e : Option Err) (hpre : ∀ y ∈ pre, f y = .ok (g y)) (hx : f x = .error er) (k : Nat) (hk : pre.length < k) :
    (LSeq.mapM f (pre ++ x :: post) e).take k = ⟨select g pre, some er⟩ := by
  rw [select_map f g pre post x er e hpre hx]
  have h1 : ¬ k ≤ pre.length := by omega
  simp only [LSeq.take, select, List.length_map, h1, ↓reduceIte]
  rw [List.take_of_length_le (by simp; omega)]

/-- an eager search (`indexWhere`, `any`, `all`, `in`): the exception of the predicate at the first element that
    is reached surfaces while the operator runs -/
theorem findM_error_position (p : Value → R Bool) (i : Nat) (pre post : VL) (x : Value) (er : Err) (e : Option Err)
    (hpre : ∀ y ∈ pre, p y = .ok false) (hx : p x = .error er) :
    LSeq.findM p i (pre ++ x :: post) e = .error er := by
  induction pre generalizing i with
  | nil => simp [LSeq.findM, hx, bind, Except.bind]
  | cons y ys ih =>
    rw [List.forall_mem_cons] at hpre
    simpa [LSeq.findM, hpre.1, bind, Except.bind] using ih (i + 1) hpre.2

theorem run_indexWhere_eager (opts : Opts) (hd : opts.iterableDicts = false) (hn : opts.noSets = false) (hl : opts.limit = none)
    (p : Lam) (pre post : VL) (x : Value) (er : Err)
    (hpre : ∀ y ∈ pre, p.test y = .ok false) (hx : p.test x = .error er) :
    runOp opts (.indexWhere p) (.lazy ⟨pre ++ x :: post, none⟩) = .error er := by
  refine runOp_lazy opts hd hn _ _ _ (.inr rfl) rfl (.inl hl) ?_ nofun
  show (do let hit ← LSeq.findM p.test 0 (limitLazy opts ⟨pre ++ x :: post, none⟩).items
              (limitLazy opts ⟨pre ++ x :: post, none⟩).err
           pure (.val (int (match hit with | some (i, _) => (i : Int) | none => -1))) : R Obj) = _
  rw [limitLazy_none opts hl, findM_error_position p.test 0 pre post x er none hpre hx]
  rfl

/-- non-vacuity of the hypotheses of `select_map` / `take_before_error` / `take_past_error`: `$.first()` over
    `[[1], [], [3]]` succeeds on the prefix `[[1]]` and raises StopIteration on `[]` -/
example : LSeq.mapM (Lam.first .arg none).eval ([tuple [int 1]] ++ tuple [] :: [tuple [int 3]]) none
    = ⟨[int 1], some .stopIteration⟩ :=
  select_map _ (fun _ => int 1) [tuple [int 1]] [tuple [int 3]] (tuple []) .stopIteration none
    (by intro y hy; simp at hy; subst hy; rfl) rfl
example : (LSeq.mapM (Lam.first .arg none).eval ([tuple [int 1]] ++ tuple [] :: [tuple [int 3]]) none).take 1
    = ⟨[int 1], none⟩ :=
  take_before_error _ (fun _ => int 1) [tuple [int 1]] [tuple [int 3]] (tuple []) .stopIteration none
    (by intro y hy; simp at hy; subst hy; rfl) rfl 1 (by simp)
/-- non-vacuity of `run_indexWhere_eager`: `[[1], [], [3]].indexWhere($.first() > 2)` raises while it is called -/
example : runOp {} (.indexWhere (.gt (.first .arg none) 2)) (.lazy ⟨[tuple [int 1]] ++ tuple [] :: [tuple [int 3]], none⟩)
    = .error .stopIteration :=
  run_indexWhere_eager {} rfl rfl rfl _ [tuple [int 1]] [tuple [int 3]] (tuple []) .stopIteration
    (by intro y hy; simp at hy; subst hy; rfl) rfl

/-- `[[1, 2], [1, 2]].select($.where($ > 1))` is `[[2], [2]]`: the second, equal element gets its own result -/
example : runPipe {} [.select (.whereIn .arg (.gt .arg 1))] (tuple [tuple [int 1, int 2], tuple [int 1, int 2]])
    = .ok (list [list [int 2], list [int 2]]) := by rfl

/-- `[[1], [], [3]].select($.first())` raises StopIteration (when the result is consumed)... -/
example : runPipe {} [.select (.first .arg none)] (tuple [tuple [int 1], tuple [], tuple [int 3]])
    = .error .stopIteration := by rfl
/-- ...after the first element has been produced: `.take(1)` gives `[1]` -/
example : runPipe {} [.select (.first .arg none), .take 1] (tuple [tuple [int 1], tuple [], tuple [int 3]])
    = .ok (list [int 1]) := by rfl
/-- `[[1], [true]].select(str($[0]))` is `['1', 'true']`: equal as keys, different as values -/
example : runPipe {} [.select (.strOf (.index .arg 0))] (tuple [tuple [int 1], tuple [bool true]])
    = .ok (list [str ['1'], str ['t', 'r', 'u', 'e']]) := by rfl
/-- `[[1], [1.0]].select($[0] / 2)` is `[0, 0.5]` -/
example : runPipe {} [.select (.half (.index .arg 0))] (tuple [tuple [int 1], tuple [flt 0x3FF0000000000000]])
    = .ok (list [int 0, flt 0x3FE0000000000000]) := by rfl
/-- `1`, `1.0` and `true` are one key: `[1, 1.0, true].distinct()` is `[1]` -/
example : runPipe {} [.distinct none] (tuple [int 1, flt 0x3FF0000000000000, bool true]) = .ok (list [int 1]) := by
  rfl

/-! op-level corollaries: what `runOp` computes on an exception-free lazy receiver -/

theorem run_where (opts : Opts) (hd : opts.iterableDicts = false) (hn : opts.noSets = false) (hl : opts.limit = none) (p : Lam) (xs : VL) (h : ∀ x ∈ xs, ∃ v, p.eval x = .ok v) :
    runOp opts (.where_ p) (.lazy ⟨xs, none⟩) = .ok (.lazy ⟨where_ p.pred xs, none⟩) := by
  rw [run_where_of opts hd hn p (.inl hl), limitLazy_none opts hl, filterM_pure p.test p.pred]
  intro x hx
  obtain ⟨v, hv⟩ := h x hx
  simp [Lam.test, Lam.pred, Lam.fn, hv, bind, Except.bind, pure, Except.pure]

theorem run_select (opts : Opts) (hd : opts.iterableDicts = false) (hn : opts.noSets = false) (hl : opts.limit = none) (f : Lam) (xs : VL) (h : ∀ x ∈ xs, ∃ v, f.eval x = .ok v) :
    runOp opts (.select f) (.lazy ⟨xs, none⟩) = .ok (.lazy ⟨select f.fn xs, none⟩) := by
  rw [run_select_of opts hd hn f (.inl hl), limitLazy_none opts hl, mapM_pure f.eval f.fn]
  intro x hx
  obtain ⟨v, hv⟩ := h x hx
  simp [Lam.fn, hv]

theorem run_take (opts : Opts) (hd : opts.iterableDicts = false) (hn : opts.noSets = false) (hl : opts.limit = none) (n : Nat) (xs : VL) :
    runOp opts (.take n) (.lazy ⟨xs, none⟩) = .ok (.lazy ⟨take n xs, none⟩) := by
  refine runOp_lazy opts hd hn _ _ _ (.inr rfl) rfl (.inl hl) ?_ nofun
  show (if (n : Int) < 0 then .error .value
        else .ok (.lazy ((limitLazy opts ⟨xs, none⟩).take (n : Int).toNat)) : R Obj) = _
  rw [if_neg (by omega), limitLazy_none opts hl]
  simp [LSeq.take, take]

theorem run_skip (opts : Opts) (hd : opts.iterableDicts = false) (hn : opts.noSets = false) (hl : opts.limit = none) (n : Nat) (xs : VL) :
    runOp opts (.skip n) (.lazy ⟨xs, none⟩) = .ok (.lazy ⟨skip n xs, none⟩) := by
  refine runOp_lazy opts hd hn _ _ _ (.inr rfl) rfl (.inl hl) ?_ nofun
  show (if (n : Int) < 0 then .error .value
        else .ok (.lazy ((limitLazy opts ⟨xs, none⟩).drop (n : Int).toNat)) : R Obj) = _
  rw [if_neg (by omega), limitLazy_none opts hl]
  simp [LSeq.drop, skip]

theorem run_reverse (opts : Opts) (hd : opts.iterableDicts = false) (hn : opts.noSets = false) (hl : opts.limit = none) (xs : VL) :
    runOp opts .reverse (.lazy ⟨xs, none⟩) = .ok (.lazy ⟨reverse xs, none⟩) := by
  refine runOp_lazy opts hd hn _ _ _ (.inr rfl) rfl (.inl hl) ?_ nofun
  show (do let ys ← (limitLazy opts ⟨xs, none⟩).toList; lazyOk ys.reverse : R Obj) = _
  rw [limitLazy_none opts hl]
  rfl

theorem run_distinct (opts : Opts) (hd : opts.iterableDicts = false) (hn : opts.noSets = false) (hl : opts.limit = none) (xs : VL) (h : ∀ x ∈ xs, hashable x = true) :
    runOp opts (.distinct none) (.lazy ⟨xs, none⟩) = .ok (.lazy ⟨distinct xs, none⟩) := by
  have : distinctM (optLam none).eval [] xs none = ⟨distinctAux id [] xs, none⟩ :=
    distinctM_pure _ id [] xs none
      (by intro x _; simp [optLam, Lam.eval, Lam.passThrough, Lam.evalR, LRes.force, bind, Except.bind]) (by simpa using h)
  refine runOp_lazy opts hd hn _ _ _ (.inl (noLazyL_of_all_hashable xs h)) rfl (.inl hl) ?_ nofun
  show (.ok (.lazy (distinctM (optLam none).eval [] (limitLazy opts ⟨xs, none⟩).items
    (limitLazy opts ⟨xs, none⟩).err)) : R Obj) = _
  rw [limitLazy_none opts hl, this]
  rfl

/-- iterating the result of `orderBy` yields the pure stable sort -/
theorem run_orderBy_iter (opts : Opts) (hd : opts.iterableDicts = false) (hn : opts.noSets = false) (hl : opts.limit = none)
    (k : Lam) (xs : VL) (h : sortErrs [(k, true)] [xs] = []) :
    (runOp opts (.orderBy k) (.lazy ⟨xs, none⟩) >>= fun o => o.it opts)
      = .ok ⟨orderBy ltT gtT k.fn xs, none⟩ := by
  have hs := sortRun_pure [(k, true)] xs h
  have h1 : runOp opts (.orderBy k) (.lazy ⟨xs, none⟩) = .ok (.ordering (limitLazy opts ⟨xs, none⟩) [(k, true)]) :=
    runOp_lazy opts hd hn _ _ _ (.inr rfl) rfl (.inl hl) rfl nofun
  rw [h1]
  simp [Obj.it, Obj.iterable?, limitLazy_none opts hl, bind, Except.bind, hs, orderBy, fieldsFn]

end Yaql.Props.C13
