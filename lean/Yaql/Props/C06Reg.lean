import Yaql.Props.C05Hist
import Yaql.Lemmas.C05Lists
/-!
C06, registration order: the state of the contexts after a series of `register_function` calls - and
with it every later resolution - does not depend on the order of the calls.

`Context.register_function` adds the definition to the SET `_functions[name]` and, when called with
`exclusive=True`, the name to the SET `_exclusive_funcs`; both are modelled as duplicate-free
insertion-ordered lists (`Yaql.Context.register`).  A layer is exclusive for a name when ANY of the
registrations said so (`exclusive_any`); a later non-exclusive registration does not take the flag back.

* `register_perm_invariant` - registering a list of (context, name, definition, exclusive) requests in any
  order gives the same contexts and, cell by cell, the same variables, the same set of overloads and the
  same set of exclusive names (the lists are permutations of each other).
* `family_register_perm` - hence the family visible from any context (plain, multi, linked) is layer by layer a
  permutation with the same exclusive flags, and
* `resolve_register_perm_invariant` - every call from every context has the same outcome
  (`C06.perm_invariant`).
* `last_registration_wins_order_dependent` - the contrast: had the flag been a per-name value that every
  registration overwrites, the state would depend on the registration order.
-/
namespace Yaql.Props.C06Reg
open Yaql.Context Yaql.ResolveCtx
open Yaql.Props.C17 (layers layersO ownLayer ownLayerL cellLayer)
open Yaql.Props.C05Hist (famOf familyIn)

/-- one `ctxs[i].register_function(fd, exclusive=x)` with `fd.name = fname` -/
structure Reg where
  i : Nat
  fname : CName
  fid : Fid
  x : Bool

def Reg.op (r : Reg) : Op := .register r.i r.fname r.fid r.x

/-- the state after the registrations, made in the order of the list -/
def regAll (st : St) (rs : List Reg) : St := run st (rs.map Reg.op)

/-! ## set insertion -/

theorem sinsert_perm {α : Type} [BEq α] [LawfulBEq α] {l l' : List α} (h : l.Perm l') (x : α) :
    (sinsert x l).Perm (sinsert x l') := by
  unfold sinsert
  rw [h.contains_eq]
  split
  · exact h
  · exact h.append_right _

theorem sinsert_of_mem {α : Type} [BEq α] [LawfulBEq α] {l : List α} {x : α} (h : x ∈ l) : sinsert x l = l := by
  simp [sinsert, h]

theorem sinsert_of_not_mem {α : Type} [BEq α] [LawfulBEq α] {l : List α} {x : α} (h : x ∉ l) :
    sinsert x l = l ++ [x] := by
  simp [sinsert, h]

theorem mem_sinsert {α : Type} [BEq α] [LawfulBEq α] (l : List α) (x y : α) : y ∈ sinsert x l ↔ y ∈ l ∨ y = x := by
  by_cases hx : x ∈ l
  · rw [sinsert_of_mem hx]
    exact ⟨Or.inl, fun h => h.elim id fun e => e ▸ hx⟩
  · rw [sinsert_of_not_mem hx]; simp

theorem sinsert_eq {α : Type} [BEq α] [LawfulBEq α] (l : List α) (x : α) :
    sinsert x l = l ++ if x ∈ l then [] else [x] := by
  by_cases hx : x ∈ l <;> simp [sinsert, hx]

theorem sinsert_sinsert {α : Type} [BEq α] [LawfulBEq α] (l : List α) {x y : α} (h : x ≠ y) :
    sinsert y (sinsert x l) = l ++ ((if x ∈ l then [] else [x]) ++ if y ∈ l then [] else [y]) := by
  have hy : y ∈ sinsert x l ↔ y ∈ l := by rw [mem_sinsert]; exact or_iff_left (Ne.symm h)
  rw [sinsert_eq (sinsert x l)]
  simp only [hy]
  rw [sinsert_eq l, List.append_assoc]

theorem sinsert_comm {α : Type} [BEq α] [LawfulBEq α] (l : List α) (x y : α) :
    (sinsert y (sinsert x l)).Perm (sinsert x (sinsert y l)) := by
  by_cases hxy : x = y
  · subst hxy; exact .refl _
  · rw [sinsert_sinsert l hxy, sinsert_sinsert l (Ne.symm hxy)]
    exact .append_left l List.perm_append_comm

/-! ## cells up to the enumeration order of their sets -/

structure CellEqv (a b : Cell) : Prop where
  data : a.data = b.data
  funcs : a.funcs.Perm b.funcs
  excl : a.excl.Perm b.excl

theorem CellEqv.refl (a : Cell) : CellEqv a a := ⟨rfl, .refl _, .refl _⟩
theorem CellEqv.trans {a b c : Cell} (h1 : CellEqv a b) (h2 : CellEqv b c) : CellEqv a c :=
  ⟨h1.data.trans h2.data, h1.funcs.trans h2.funcs, h1.excl.trans h2.excl⟩

def CellsEqv (cs cs' : Cells) : Prop := cs.length = cs'.length ∧ ∀ c, CellEqv (cs.get c) (cs'.get c)

theorem CellsEqv.refl (cs : Cells) : CellsEqv cs cs := ⟨rfl, fun _ => .refl _⟩
theorem CellsEqv.trans {a b c : Cells} (h1 : CellsEqv a b) (h2 : CellsEqv b c) : CellsEqv a c :=
  ⟨h1.1.trans h2.1, fun k => (h1.2 k).trans (h2.2 k)⟩

theorem modify_congr {cs cs' : Cells} (h : CellsEqv cs cs') (c : Nat) (f : Cell → Cell)
    (hf : ∀ a b, CellEqv a b → CellEqv (f a) (f b)) : CellsEqv (modifyCell cs c f) (modifyCell cs' c f) := by
  refine ⟨by rw [C09.modifyCell_length, C09.modifyCell_length, h.1], fun k => ?_⟩
  rw [C17.get_modify, C17.get_modify, h.1]
  split
  · exact hf _ _ (h.2 k)
  · exact h.2 k

theorem modify_comm (cs : Cells) (c1 c2 : Nat) (f g : Cell → Cell)
    (hfg : ∀ a, CellEqv (g (f a)) (f (g a))) :
    CellsEqv (modifyCell (modifyCell cs c1 f) c2 g) (modifyCell (modifyCell cs c2 g) c1 f) := by
  refine ⟨by simp [C09.modifyCell_length], fun k => ?_⟩
  simp only [C17.get_modify, C09.modifyCell_length]
  -- unless both modifications reach cell `k`, the two sides are the same term
  by_cases h1 : k = c1 ∧ c1 < cs.length
  · by_cases h2 : k = c2 ∧ c2 < cs.length
    · simp only [if_pos h1, if_pos h2]; exact hfg _
    · simp only [if_pos h1, if_neg h2]; exact .refl _
  · simp only [if_neg h1]; exact .refl _

/-- what one registration does to the cell it reaches -/
def regCell (fname : CName) (fid : Fid) (x : Bool) (cell : Cell) : Cell :=
  { cell with funcs := sinsert (fname, fid) cell.funcs,
              excl := if x then sinsert fname cell.excl else cell.excl }

theorem register_eq (cs : Cells) (s : Shape) (fname : CName) (fid : Fid) (x : Bool) :
    register cs s fname fid x =
      match writeCell s with
      | some c => modifyCell cs c (regCell fname fid x)
      | none => cs := rfl

theorem regCell_congr (fname : CName) (fid : Fid) (x : Bool) (a b : Cell) (h : CellEqv a b) :
    CellEqv (regCell fname fid x a) (regCell fname fid x b) := by
  refine ⟨h.data, sinsert_perm h.funcs _, ?_⟩
  cases x
  · exact h.excl
  · exact sinsert_perm h.excl _

theorem regCell_comm (n1 n2 : CName) (f1 f2 : Fid) (x1 x2 : Bool) (a : Cell) :
    CellEqv (regCell n2 f2 x2 (regCell n1 f1 x1 a)) (regCell n1 f1 x1 (regCell n2 f2 x2 a)) := by
  refine ⟨rfl, sinsert_comm a.funcs (n1, f1) (n2, f2), ?_⟩
  cases x1
  · exact .refl _
  · cases x2
    · exact .refl _
    · exact sinsert_comm a.excl n1 n2

/-- one registration on the cell table, the contexts being fixed -/
def regCells (ctxs : List Shape) (cs : Cells) (r : Reg) : Cells :=
  match ctxs[r.i]? with
  | none => cs
  | some s => register cs s r.fname r.fid r.x

theorem regCells_eq (ctxs : List Shape) (cs : Cells) (r : Reg) :
    regCells ctxs cs r =
      match ctxs[r.i]?.bind writeCell with
      | some c => modifyCell cs c (regCell r.fname r.fid r.x)
      | none => cs := by
  unfold regCells
  cases ctxs[r.i]? with
  | none => rfl
  | some s => exact register_eq cs s r.fname r.fid r.x

theorem regCells_congr (ctxs : List Shape) (a b : Cells) (r : Reg) (h : CellsEqv a b) :
    CellsEqv (regCells ctxs a r) (regCells ctxs b r) := by
  rw [regCells_eq, regCells_eq]
  cases ctxs[r.i]?.bind writeCell with
  | none => exact h
  | some c => exact modify_congr h c _ (regCell_congr _ _ _)

theorem regCells_comm (ctxs : List Shape) (a : Cells) (r1 r2 : Reg) :
    CellsEqv (regCells ctxs (regCells ctxs a r1) r2) (regCells ctxs (regCells ctxs a r2) r1) := by
  simp only [regCells_eq]
  cases ctxs[r1.i]?.bind writeCell with
  | none => exact .refl _
  | some c1 =>
      cases ctxs[r2.i]?.bind writeCell with
      | none => exact .refl _
      | some c2 => exact modify_comm a c1 c2 _ _ (regCell_comm _ _ _ _ _ _)

theorem step_register (st : St) (r : Reg) :
    step st r.op = { st with cells := regCells st.ctxs st.cells r } := by
  cases h : st.ctxs[r.i]? <;> simp [step, Reg.op, regCells, St.ctx, h]

theorem regAll_eq (rs : List Reg) : ∀ st : St,
    regAll st rs = { st with cells := rs.foldl (regCells st.ctxs) st.cells } := by
  induction rs with
  | nil => intro st; rfl
  | cons r rs ih =>
      intro st
      have := ih (step st r.op)
      simp only [regAll, run, List.map_cons, List.foldl_cons] at this ⊢
      rw [this, step_register]

/-- contexts up to the enumeration order of the overload sets and exclusive-name sets -/
structure StEqv (a b : St) : Prop where
  ctxs : a.ctxs = b.ctxs
  cells : CellsEqv a.cells b.cells

/-- REGISTRATION ORDER DOES NOT MATTER: the same requests in any order leave the same contexts behind -
    cell by cell the same variables, the same set of overloads, the same set of exclusive names -/
theorem register_perm_invariant (st : St) (rs rs' : List Reg) (h : rs.Perm rs') :
    StEqv (regAll st rs) (regAll st rs') := by
  rw [regAll_eq, regAll_eq]
  exact ⟨rfl, Yaql.Lemmas.C05Lists.foldl_perm_of_comm CellsEqv (regCells st.ctxs) CellsEqv.refl (fun _ _ _ => CellsEqv.trans)
    (fun a b r => regCells_congr st.ctxs a b r) (fun a x y => regCells_comm st.ctxs a x y) h _ _ (.refl _)⟩

/-! ## from cells to visible families -/

theorem cellFuncs_perm {a b : Cell} (h : CellEqv a b) (n : CName) : (cellFuncs a n).Perm (cellFuncs b n) :=
  (h.funcs.filter _).map _

theorem unionF_perm {a a' b b' : List Fid} (ha : a.Perm a') (hb : b.Perm b') :
    (unionF a b).Perm (unionF a' b') := by
  unfold unionF
  exact Yaql.Lemmas.C05Lists.foldl_perm_of_comm List.Perm (fun acc x => sinsert x acc) List.Perm.refl (fun _ _ _ => List.Perm.trans)
    (fun _ _ x h => sinsert_perm h x) (fun l x y => sinsert_comm l x y) hb _ _ ha

/-- two C17 layers that hold the same overload set and flag for the name `n` -/
def LayerEqv (n : CName) (a b : C17.Layer) : Prop := (a.funcs n).Perm (b.funcs n) ∧ a.excl n = b.excl n

mutual
theorem ownLayer_eqv {cs cs' : Cells} (h : CellsEqv cs cs') (n : CName) :
    ∀ s, LayerEqv n (ownLayer cs s) (ownLayer cs' s)
  | .plain c _ => ⟨cellFuncs_perm (h.2 c) n, (h.2 c).excl.contains_eq⟩
  | .multi ms _ => ownLayerL_eqv h n ms
  | .linked t _ => ownLayer_eqv h n t
theorem ownLayerL_eqv {cs cs' : Cells} (h : CellsEqv cs cs') (n : CName) :
    ∀ ms, LayerEqv n (ownLayerL cs ms) (ownLayerL cs' ms)
  | [] => ⟨.refl _, rfl⟩
  | m :: ms => by
      have h1 := ownLayer_eqv h n m
      have h2 := ownLayerL_eqv h n ms
      exact ⟨unionF_perm h1.1 h2.1, by simp only [ownLayerL, C17.Layer.merge, h1.2, h2.2]⟩
end

theorem famOf_cons (defs : Defs) (n : CName) (l : C17.Layer) (ls : List C17.Layer) :
    famOf defs n (l :: ls) = { fns := (l.funcs n).map defs, exclusive := l.excl n } :: famOf defs n ls := rfl

theorem layers_eqv (defs : Defs) {cs cs' : Cells} (h : CellsEqv cs cs') (n : CName) (s : Shape) :
    C06.LayersPerm (famOf defs n (layers cs s)) (famOf defs n (layers cs' s)) := by
  rw [C17.layers_eq, C17.layers_eq]
  refine .cons ((ownLayer_eqv h n s).1.map _) (ownLayer_eqv h n s).2 ?_
  cases hp : s.parent with
  | none => exact .nil
  | some p => exact layers_eqv defs h n p
termination_by s.size
decreasing_by exact C17.size_parent_lt hp

theorem layersO_eqv (defs : Defs) {cs cs' : Cells} (h : CellsEqv cs cs') (n : CName) :
    ∀ o, C06.LayersPerm (famOf defs n (layersO cs o)) (famOf defs n (layersO cs' o))
  | none => .nil
  | some s => layers_eqv defs h n s

theorem familyIn_eqv (defs : Defs) {a b : St} (h : StEqv a b) (i : Nat) (name : CName) :
    C06.LayersPerm (familyIn defs a i name) (familyIn defs b i name) := by
  unfold familyIn St.ctx
  rw [h.ctxs]
  cases b.ctxs[i]? with
  | none => exact .nil
  | some s => exact layers_eqv defs h.cells _ s

/-- the family visible from any context after the registrations: per layer the same overloads up to
    order, the same exclusive flag -/
theorem family_register_perm (defs : Defs) (st : St) (rs rs' : List Reg) (h : rs.Perm rs') (i : Nat) (name : CName) :
    C06.LayersPerm (familyIn defs (regAll st rs) i name) (familyIn defs (regAll st rs') i name) :=
  familyIn_eqv defs (register_perm_invariant st rs rs' h) i name

/-- every call from every context resolves the same way whatever the registration order was -/
theorem resolve_register_perm_invariant (L : Yaql.Types.Lattice) (defs : Defs) (st : St) (rs rs' : List Reg)
    (h : rs.Perm rs') (i : Nat) (name : CName) (c : Yaql.Resolve.Call) :
    resolveIn L defs (regAll st rs') i name c = resolveIn L defs (regAll st rs) i name c := by
  rw [C05Hist.resolveIn_eq, C05Hist.resolveIn_eq]
  exact C06.perm_invariant L c _ _ (family_register_perm defs st rs rs' h i name)

/-! ## exclusive = some registration said so -/

/-- does the request reach cell `c` of a table with `len` cells -/
def Reg.hits (ctxs : List Shape) (len : Nat) (r : Reg) (c : Nat) : Bool :=
  match ctxs[r.i]? with
  | some s => writeCell s == some c && decide (c < len)
  | none => false

theorem contains_sinsert {α : Type} [BEq α] [LawfulBEq α] (n m : α) (l : List α) :
    (sinsert m l).contains n = (l.contains n || m == n) := by
  rw [Bool.eq_iff_iff]
  simp only [List.contains_iff_mem, mem_sinsert, Bool.or_eq_true, beq_iff_eq]
  exact or_congr_right eq_comm

theorem length_regCells (ctxs : List Shape) (cs : Cells) (r : Reg) : (regCells ctxs cs r).length = cs.length := by
  rw [regCells_eq]
  cases ctxs[r.i]?.bind writeCell with
  | none => rfl
  | some c => exact C09.modifyCell_length _ _ _

theorem excl_regCell (fname : CName) (fid : Fid) (x : Bool) (a : Cell) (n : CName) :
    (regCell fname fid x a).excl.contains n = (a.excl.contains n || (x && fname == n)) := by
  cases x
  · simp [regCell]
  · simp only [regCell, if_true, Bool.true_and]; exact contains_sinsert n fname a.excl

theorem hits_eq (ctxs : List Shape) (len : Nat) (r : Reg) (c : Nat) :
    r.hits ctxs len c = (ctxs[r.i]?.bind writeCell == some c && decide (c < len)) := by
  unfold Reg.hits
  cases ctxs[r.i]? <;> rfl

theorem excl_regCells (ctxs : List Shape) (cs : Cells) (r : Reg) (c : Nat) (n : CName) :
    ((regCells ctxs cs r).get c).excl.contains n =
      ((cs.get c).excl.contains n || (r.x && r.fname == n && r.hits ctxs cs.length c)) := by
  rw [regCells_eq, hits_eq]
  cases ctxs[r.i]?.bind writeCell with
  | none => simp
  | some w =>
      rw [C17.get_modify]
      split
      next hc => obtain ⟨rfl, hl⟩ := hc; rw [excl_regCell]; simp [hl]
      next hc =>
        have : (some w == some c && decide (c < cs.length)) = false := by
          simp only [Bool.and_eq_false_imp, beq_iff_eq, Option.some.injEq, decide_eq_false_iff_not]
          exact fun e hl => hc ⟨e.symm, e ▸ hl⟩
        rw [this, Bool.and_false, Bool.or_false]

/-- after the registrations a cell is exclusive for `n` iff it was before or SOME registration that reached it
    was made for the name `n` with `exclusive=True` - wherever in the order it came -/
theorem exclusive_any (ctxs : List Shape) (n : CName) (c : Nat) : ∀ (rs : List Reg) (cs : Cells),
    ((rs.foldl (regCells ctxs) cs).get c).excl.contains n =
      ((cs.get c).excl.contains n || rs.any fun r => r.x && r.fname == n && r.hits ctxs cs.length c)
  | [], cs => by simp
  | r :: rs, cs => by
      simp only [List.foldl_cons, List.any_cons]
      rw [exclusive_any ctxs n c rs, excl_regCells, length_regCells, Bool.or_assoc]

/-! ## the contrast: a flag that every registration overwrites -/

/-- `_exclusive_funcs[name] = bool(exclusive)` instead of `if exclusive: _exclusive_funcs.add(name)` -/
def regCellLastWins (fname : CName) (fid : Fid) (x : Bool) (cell : Cell) : Cell :=
  { cell with funcs := sinsert (fname, fid) cell.funcs,
              excl := if x then sinsert fname cell.excl else cell.excl.filter (· != fname) }

/-- with an overwritten flag the order of two registrations decides whether the layer is exclusive -/
theorem last_registration_wins_order_dependent :
    ((regCellLastWins ['f'] 1 false (regCellLastWins ['f'] 0 true {})).excl.contains ['f'] = false) ∧
    ((regCellLastWins ['f'] 0 true (regCellLastWins ['f'] 1 false {})).excl.contains ['f'] = true) ∧
    ((regCell ['f'] 1 false (regCell ['f'] 0 true {})).excl.contains ['f'] = true) ∧
    ((regCell ['f'] 0 true (regCell ['f'] 1 false {})).excl.contains ['f'] = true) := by decide +kernel

/-! ## non-vacuity -/
namespace Ex
open Yaql.Props.C05Hist.Ex

/-- parent layer `f(x: str)`; child layer `f(x: Base)` registered exclusively and `f(x: D)` not: the child layer
    hides the parent whichever of the two was registered last -/
def rs : List Reg := [⟨0, f, 2, false⟩, ⟨1, f, 0, true⟩, ⟨1, f, 1, false⟩]

example : rs.Perm rs.reverse := (List.reverse_perm rs).symm

example : outcome (regAll st0 rs) 2 = .ok 1 ∧ outcome (regAll st0 rs.reverse) 2 = .ok 1 ∧
    (familyIn defs (regAll st0 rs) 2 f).map (·.exclusive) = [false, true, false] ∧
    (familyIn defs (regAll st0 rs.reverse) 2 f).map (·.exclusive) = [false, true, false] := by decide +kernel

end Ex

end Yaql.Props.C06Reg
