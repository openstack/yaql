import Yaql.Model.SeqRun
/-! What a successful run of a `do` block in the error monad `R` went through. -/
namespace Yaql.Seq

theorem R.bind_ok {α β : Type} {x : R α} {f : α → R β} {b : β} (h : x >>= f = .ok b) :
    ∃ a, x = .ok a ∧ f a = .ok b := by
  cases x with
  | error e => cases h
  | ok a => exact ⟨a, rfl, h⟩

theorem R.guard_ok {β : Type} {c : Bool} {e : Err} {k : Unit → R β} {b : β}
    (h : (if c = true then (Except.error e : R Unit) >>= k else k ()) = .ok b) : k () = .ok b := by
  cases c
  · exact h
  · cases h

end Yaql.Seq
