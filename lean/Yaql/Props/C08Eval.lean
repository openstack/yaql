import Yaql.Props.C08EvalMono
import Yaql.Props.C08EvalOff
/-!
# C08 over the evaluator: the iterator limit and the memory quota bound every evaluation

The theorems are about `Yaql.EvalLimits.evalL` / `runL` (`Model/EvalLimits.lean`): the C04 reference interpreter
`Yaql.Eval.eval` with `limit_memory_usage` at every parameter binding and every call result and `limit_iterable`
at every `Iterable()` parameter and in the finaliser.  All of them hold for ALL expressions, contexts, documents,
fuel, limits `N`, quotas `Q` and size constants `c`.

| theorem | says |
|---|---|
| `evalL_off`, `runL_off` (C08EvalOff) | without limits `evalL` IS `Eval.eval` (through the embedding of the larger exception type) |
| `evalL_refines`, `runL_refines` | whatever the limits: a result of `evalL` / `runL` is the result of `Eval.eval` / `Eval.run` (a lazy result: a prefix of it that ends in a limit exception) - unless the reference makes no prediction; the instrumentation never changes a result |
| `limits_monotone` | raising `N` / `Q` (or disabling them) never turns a value into a failure and never changes it |
| `limits_monotone_error` | ... and an ordinary exception stays that exception |
| `new_outcomes` | under limits the outcome is the reference outcome, `Quota`, `TooLarge` (or "no prediction"): nothing else is new |
| `quota_flow_eval` | the result of every node that is a call fits the quota (so: of every sub-evaluation, `evalL` being recursive) |
| `quota_flow_let`, `quota_flow_ucall`, `quota_flow_receiver`, `limit_flow_iter` (first half) | values bound to the parameters of `let`, of a `def`-ined function, of `#operator_.` and to `Iterable()` parameters fit the quota; a value that does not fit ends the call in `Quota` (`quota_refuses`) |
| `limit_flow_iter`, `limit_sized_refuses` | a collection that gets through an `Iterable()` parameter has at most `N` elements visible; a sized one with more is refused at once |
| `limitLazy_run` | `limitLazy` is `Limits.run` (the counting generator of C08) on a finite source |
| `limit_flow_result` | a value `runL` returns holds no collection with more than `N` elements at any depth |
-/
namespace Yaql.Props.C08Eval
open Yaql Yaql.Value Yaql.EvalLimits
open Yaql.Eval (Ctx Expr Fn BinOp UnOp Name VL KV Frame Final Obj Err R Ev)

/-! ## the instrumentation never changes a result -/

theorem embR_ok {g : α → β} {x : R α} {b : β} (h : embR g x = .ok b) : ∃ a, x = .ok a ∧ b = g a := by
  cases x with
  | ok a => cases h; exact ⟨a, rfl, rfl⟩
  | error e => cases h

theorem embR_err {g : α → β} {x : R α} {e : LErr} (h : embR g x = .error e) : ∃ b, x = .error b ∧ e = .base b := by
  cases x with
  | ok a => cases h
  | error b => cases h; exact ⟨b, rfl, rfl⟩

theorem noPred_iff {e : LErr} : noPred e = true ↔ e = .base .fuel ∨ e = .base .outOfDomain := by
  unfold noPred
  split
  · exact ⟨fun _ => .inl rfl, fun _ => rfl⟩
  · exact ⟨fun _ => .inr rfl, fun _ => rfl⟩
  · rename_i h1 h2
    refine ⟨fun h => (by cases h), ?_⟩
    rintro (h | h)
    · exact (h1 h).elim
    · exact (h2 h).elim

theorem RelR.of_ok {ra : α → β → Prop} {a : α} {hi : RL β} (h : RelR ra (.ok a) hi) :
    (∃ b, hi = .ok b ∧ ra a b) ∨ hi = .error (.base .fuel) ∨ hi = .error (.base .outOfDomain) := by
  rcases h with ⟨eh, rfl, h2⟩ | ⟨el, h1, _⟩ | ⟨e1, h1, _⟩ | ⟨a', b, h1, rfl, h3⟩
  · rcases noPred_iff.mp h2 with rfl | rfl
    · exact .inr (.inl rfl)
    · exact .inr (.inr rfl)
  · cases h1
  · cases h1
  · cases h1; exact .inl ⟨b, rfl, h3⟩

theorem RelR.ok_emb {ra : α → β → Prop} {a : α} {g : γ → β} {x : R γ} (h : RelR ra (.ok a) (embR g x)) :
    (∃ b, x = .ok b ∧ ra a (g b)) ∨ x = .error .fuel ∨ x = .error .outOfDomain := by
  rcases h.of_ok with ⟨b, h1, h2⟩ | h1 | h1
  · obtain ⟨b', hb, rfl⟩ := embR_ok h1
    exact .inl ⟨b', hb, h2⟩
  · obtain ⟨_, hb, ⟨⟩⟩ := embR_err h1
    exact .inr (.inl hb)
  · obtain ⟨_, hb, ⟨⟩⟩ := embR_err h1
    exact .inr (.inr hb)

/-- **evalL_refines** (objects): if the interpreter under ANY limits returns an object, the reference
    interpreter returns the same object - a lazy sequence may be cut: the same items up to a limit exception -
    or makes no prediction (out of fuel / out of domain). -/
theorem evalL_refines (c : ECfg) (L : Lim) (fuel : Nat) (C : Ctx) (e : Expr) (o : ObjL)
    (h : evalL c L fuel C e = .ok o) :
    (∃ o', Eval.eval fuel C e = .ok o' ∧ RelO o (emb o'))
      ∨ Eval.eval fuel C e = .error .fuel ∨ Eval.eval fuel C e = .error .outOfDomain := by
  have hr := evalL_rel (Lim.le_off L) c fuel C e
  rw [h, (evalL_off c fuel C e : _ = _)] at hr
  exact hr.ok_emb

/-- **runL_refines** (finalised values): a value returned under any limits is the value `Eval.run` returns. -/
theorem runL_refines (c : ECfg) (L : Lim) (fuel : Nat) (doc : Value) (e : Expr) (v : Final)
    (h : runL c L fuel doc e = .ok v) :
    Eval.run fuel doc e = .ok v ∨ Eval.run fuel doc e = .error .fuel ∨ Eval.run fuel doc e = .error .outOfDomain := by
  have hr := runL_rel (Lim.le_off L) c fuel doc e
  rw [h, (runL_off c fuel doc e : _ = _)] at hr
  exact hr.ok_emb.imp_left fun ⟨_, hv, hvv⟩ => hvv ▸ hv

/-! ## raising the limits -/

/-- **limits_monotone**: raising `N` or `Q` (or switching a limit off) never turns a value into a failure and
    never changes it; only "no prediction" (fuel / domain) can take its place - a generator that was cut before
    may now be evaluated further. -/
theorem limits_monotone (c : ECfg) {lo hi : Lim} (hle : Lim.le lo hi) (fuel : Nat) (doc : Value) (e : Expr) (v : Final)
    (h : runL c lo fuel doc e = .ok v) :
    runL c hi fuel doc e = .ok v ∨ runL c hi fuel doc e = .error (.base .fuel)
      ∨ runL c hi fuel doc e = .error (.base .outOfDomain) := by
  have hr := runL_rel hle c fuel doc e
  rw [h] at hr
  exact hr.of_ok.imp_left fun ⟨_, hv, hvv⟩ => hvv ▸ hv

/-- ... and an ordinary exception stays that exception -/
theorem limits_monotone_error (c : ECfg) {lo hi : Lim} (hle : Lim.le lo hi) (fuel : Nat) (doc : Value) (e : Expr) (b : Err)
    (hb : b ≠ .fuel ∧ b ≠ .outOfDomain) (h : runL c lo fuel doc e = .error (.base b)) :
    runL c hi fuel doc e = .error (.base b) ∨ runL c hi fuel doc e = .error (.base .fuel)
      ∨ runL c hi fuel doc e = .error (.base .outOfDomain) := by
  have hr := runL_rel hle c fuel doc e
  rw [h] at hr
  rcases hr with ⟨eh, h1, h2⟩ | ⟨el, h1, h2⟩ | ⟨e1, h1, h2⟩ | ⟨a, b', h1, _, _⟩
  · rcases noPred_iff.mp h2 with rfl | rfl
    · exact .inr (.inl h1)
    · exact .inr (.inr h1)
  · cases h1
    rcases h2 with h2 | h2
    · cases h2
    · rcases noPred_iff.mp h2 with h2 | h2
      · cases h2; exact absurd rfl hb.1
      · cases h2; exact absurd rfl hb.2
  · cases h1; exact .inl h2
  · cases h1

/-- **new_outcomes**: under limits an evaluation ends in the reference outcome, in `Quota`, in `TooLarge` - or one
    of the two sides makes no prediction.  Nothing else is new. -/
theorem new_outcomes (c : ECfg) (L : Lim) (fuel : Nat) (doc : Value) (e : Expr) :
    (∃ v, runL c L fuel doc e = .ok v ∧ Eval.run fuel doc e = .ok v)
    ∨ (∃ b, runL c L fuel doc e = .error (.base b) ∧ Eval.run fuel doc e = .error b)
    ∨ runL c L fuel doc e = .error .quota
    ∨ runL c L fuel doc e = .error .tooLarge
    ∨ runL c L fuel doc e = .error (.base .fuel) ∨ runL c L fuel doc e = .error (.base .outOfDomain)
    ∨ Eval.run fuel doc e = .error .fuel ∨ Eval.run fuel doc e = .error .outOfDomain := by
  have hr := runL_rel (Lim.le_off L) c fuel doc e
  rw [(runL_off c fuel doc e : _ = _)] at hr
  rcases hr with ⟨eh, h1, h2⟩ | ⟨el, h1, h2 | h2⟩ | ⟨e1, h1, h2⟩ | ⟨a, b, h1, h2, rfl⟩
  · obtain ⟨b, hb, rfl⟩ := embR_err h1
    rcases noPred_iff.mp h2 with h2 | h2
    · cases h2; exact .inr (.inr (.inr (.inr (.inr (.inr (.inl hb))))))
    · cases h2; exact .inr (.inr (.inr (.inr (.inr (.inr (.inr hb))))))
  · cases el with
    | base b => cases h2
    | quota => exact .inr (.inr (.inl h1))
    | tooLarge => exact .inr (.inr (.inr (.inl h1)))
  · rcases noPred_iff.mp h2 with rfl | rfl
    · exact .inr (.inr (.inr (.inr (.inl h1))))
    · exact .inr (.inr (.inr (.inr (.inr (.inl h1)))))
  · obtain ⟨b, hb, rfl⟩ := embR_err h2
    exact .inr (.inl ⟨b, h1, hb⟩)
  · obtain ⟨v', hv', rfl⟩ := embR_ok h2
    exact .inl ⟨a, h1, hv'⟩

/-! ## the quota: every call result and every bound value is measured -/

/-- what a passed check means -/
theorem measure_ok_iff (L : Lim) (s : Option Sz) :
    EvalLimits.measure L s = .ok () ↔ (L.Q ≤ 0 ∨ ∃ z, s = some z ∧ (z.hi : Int) ≤ L.Q) := by
  unfold EvalLimits.measure measureAll
  by_cases hq : L.Q ≤ 0
  · simp only [hq, if_true, true_or]
  · cases s with
    | none => simp [hq, allSome]
    | some z =>
      have h1 := C08.limitMemory_one L.Q z.hi
      simp only [hq, if_false, false_or, allSome, Option.map_some, List.map_cons, List.map_nil, Option.some.injEq,
        exists_eq_left']
      by_cases hz : (z.hi : Int) ≤ L.Q
      · rw [if_pos (h1.mpr (.inr hz))]
        exact iff_of_true rfl hz
      · rw [if_neg fun h => (h1.mp h).elim hq hz]
        refine iff_of_false (fun h => ?_) hz
        split at h <;> cases h

theorem bind_ok {x : RL α} {f : α → RL β} {b : β} (h : (x >>= f) = .ok b) : ∃ a, x = .ok a ∧ f a = .ok b := by
  cases x with
  | ok a => exact ⟨a, rfl, h⟩
  | error e => cases h

/-- `limit_memory_usage` around every call (`runner.call`) -/
theorem evalL_call (c : ECfg) (L : Lim) (n : Nat) (C : Ctx) {e : Expr} (hc : Eval.isConst e = false) :
    evalL c L (n + 1) C e = (do let o ← rawL c L (evalL c L n) C e; EvalLimits.measure L (objSz c o); pure o) := by
  show stepL c L (evalL c L n) C e = _
  unfold stepL
  rw [if_neg (by rw [hc]; exact Bool.false_ne_true)]

theorem evalL_call_ok {c : ECfg} {L : Lim} {n : Nat} {C : Ctx} {e : Expr} {o : ObjL} (hc : Eval.isConst e = false)
    (h : evalL c L (n + 1) C e = .ok o) :
    rawL c L (evalL c L n) C e = .ok o ∧ EvalLimits.measure L (objSz c o) = .ok () := by
  rw [evalL_call c L n C hc] at h
  obtain ⟨o', hr, h1⟩ := bind_ok h
  obtain ⟨⟨⟩, hm, ⟨⟩⟩ := bind_ok h1
  exact ⟨hr, hm⟩

/-- **quota_flow_eval**: the object an evaluation of a non-constant expression (= a function call) returns has
    passed `limit_memory_usage`: under a quota `Q > 0` its modelled size is known and at most `Q`.  `evalL` is
    recursive, so this holds for the result of every sub-evaluation (every argument, every lambda body) as well. -/
theorem quota_flow_eval (c : ECfg) (L : Lim) (fuel : Nat) (C : Ctx) (e : Expr) (o : ObjL)
    (hc : Eval.isConst e = false) (h : evalL c L fuel C e = .ok o) :
    EvalLimits.measure L (objSz c o) = .ok () := by
  cases fuel with
  | zero => cases h
  | succ n => exact (evalL_call_ok hc h).2

theorem quota_flow_eval_bound (c : ECfg) (L : Lim) (hq : 0 < L.Q) (fuel : Nat) (C : Ctx) (e : Expr) (o : ObjL)
    (hc : Eval.isConst e = false) (h : evalL c L fuel C e = .ok o) :
    ∃ z, objSz c o = some z ∧ (z.hi : Int) ≤ L.Q := by
  rcases (measure_ok_iff L _).mp (quota_flow_eval c L fuel C e o hc h) with h1 | h1
  · omega
  · exact h1

/-- a call whose result does not fit ends in `Quota` (or, when the model does not know the size, in "no prediction") -/
theorem quota_refuses (c : ECfg) (L : Lim) (n : Nat) (C : Ctx) (e : Expr) (o : ObjL)
    (hc : Eval.isConst e = false) (hr : rawL c L (evalL c L n) C e = .ok o)
    (hm : EvalLimits.measure L (objSz c o) ≠ .ok ()) :
    evalL c L (n + 1) C e = .error .quota ∨ evalL c L (n + 1) C e = .error (.base .outOfDomain) := by
  rw [evalL_call c L n C hc, hr]
  simp only [ok_bind]
  rcases measure_cases L (objSz c o) with h | h | h
  · exact absurd h hm
  · rw [h]; exact Or.inl rfl
  · rw [h]; exact Or.inr rfl

theorem measureEach_ok (L : Lim) : ∀ ss : List (Option Sz), measureEach L ss = .ok () →
    ∀ s ∈ ss, EvalLimits.measure L s = .ok ()
  | [], _, s, hs => by cases hs
  | s0 :: r, h, s, hs => by
    unfold measureEach at h
    obtain ⟨⟨⟩, h1, h2⟩ := bind_ok h
    rcases List.mem_cons.mp hs with rfl | hs
    · exact h1
    · exact measureEach_ok L r h2 s hs

/-- the binding of `*args`, `**kwargs` as `let(...)` and the wrapper of a `def`-ined function do it: evaluate,
    measure every value, go on (`k`) -/
theorem bindArgs_ok {c : ECfg} {L : Lim} {ev : EvL} {C : Ctx} {args : List Expr} {kw : List (Expr × Expr)}
    {k : List Name → VL → VL → RL ObjL} {o : ObjL}
    (h : (do let names ← liftR (Eval.kwNames kw)
             let vs ← evalListL ev C args
             let kvs ← evalListL ev C (kw.map fun p : Expr × Expr => p.2)
             measureEach L (vs.map (sizeofV c)); measureEach L (kvs.map (sizeofV c))
             k names vs kvs) = .ok o) :
    ∃ (names : List Name) (vs kvs : VL), evalListL ev C args = .ok vs ∧ evalListL ev C (kw.map (·.2)) = .ok kvs
      ∧ (∀ v ∈ vs ++ kvs, EvalLimits.measure L (sizeofV c v) = .ok ()) ∧ k names vs kvs = .ok o := by
  obtain ⟨names, _, h1⟩ := bind_ok h
  obtain ⟨vs, hvs, h2⟩ := bind_ok h1
  obtain ⟨kvs, hkvs, h3⟩ := bind_ok h2
  obtain ⟨_, hm1, h4⟩ := bind_ok h3
  obtain ⟨_, hm2, h5⟩ := bind_ok h4
  refine ⟨names, vs, kvs, hvs, hkvs, fun v hv => ?_, h5⟩
  rcases List.mem_append.mp hv with hv | hv
  · exact measureEach_ok L _ hm1 _ (List.mem_map_of_mem hv)
  · exact measureEach_ok L _ hm2 _ (List.mem_map_of_mem hv)

/-- **quota_flow_let**: every value `let(...)` binds has been measured -/
theorem quota_flow_let (c : ECfg) (L : Lim) (n : Nat) (C : Ctx) (args : List Expr) (kw : List (Expr × Expr)) (o : ObjL)
    (h : evalL c L (n + 1) C (.call .let_ args kw) = .ok o) :
    ∃ (names : List Name) (vs kvs : VL), evalListL (evalL c L n) C args = .ok vs ∧ evalListL (evalL c L n) C (kw.map (·.2)) = .ok kvs
      ∧ (∀ v ∈ vs ++ kvs, EvalLimits.measure L (sizeofV c v) = .ok ())
      ∧ o = .ctx (Eval.argFrame vs (names.zip kvs) :: C) := by
  have hr : callFnL c L (evalL c L n) C .let_ args kw = .ok o := (evalL_call_ok rfl h).1
  unfold callFnL at hr
  obtain ⟨names, vs, kvs, hvs, hkvs, hm, hk⟩ := bindArgs_ok hr
  cases hk
  exact ⟨names, vs, kvs, hvs, hkvs, hm, rfl⟩

/-- **quota_flow_ucall**: every argument a `def`-ined function is called with has been measured before its body
    runs (they are the parameters `*args`, `**kwargs` of the registered wrapper) -/
theorem quota_flow_ucall (c : ECfg) (L : Lim) (n : Nat) (C : Ctx) (f : Name) (args : List Expr) (kw : List (Expr × Expr))
    (o : ObjL) (body : Expr) (D : Ctx) (hf : C.getFun (Eval.fnKey f) = some (body, D))
    (h : evalL c L (n + 1) C (.ucall f args kw) = .ok o) :
    ∃ (names : List Name) (vs kvs : VL), evalListL (evalL c L n) C args = .ok vs ∧ evalListL (evalL c L n) C (kw.map (·.2)) = .ok kvs
      ∧ (∀ v ∈ vs ++ kvs, EvalLimits.measure L (sizeofV c v) = .ok ())
      ∧ evalL c L n (Eval.argFrame vs (names.zip kvs) :: D) body = .ok o := by
  have hr := (evalL_call_ok rfl h).1
  unfold rawL at hr
  simp only [hf] at hr
  exact bindArgs_ok hr

/-- **quota_flow_receiver**: the receiver of every method call has been measured (`#operator_.` binds it) -/
theorem quota_flow_receiver (c : ECfg) (L : Lim) (n : Nat) (C : Ctx) (e : Expr) (f : Fn) (args : List Expr) (o : ObjL)
    (h : evalL c L (n + 1) C (.method e f args []) = .ok o) :
    ∃ r, evalL c L n C e = .ok r ∧ EvalLimits.measure L (objSz c r) = .ok ()
      ∧ callMethodL c L (evalL c L n) C .noMethod r f args = .ok o := by
  have hr := (evalL_call_ok rfl h).1
  unfold rawL at hr
  obtain ⟨r, hev, hr1⟩ := bind_ok hr
  simp only [List.isEmpty_nil, Bool.not_true, Bool.false_eq_true, if_false] at hr1
  obtain ⟨⟨⟩, hm, hr2⟩ := bind_ok hr1
  exact ⟨r, hev, hm, hr2⟩

/-! ## the iterator limit -/

theorem limitLen_ok {L : Lim} {n len : Nat} (hn : L.N = some n) (h : limitLen L len = .ok ()) : len ≤ n := by
  unfold limitLen at h
  rw [hn] at h
  by_cases hle : len ≤ n
  · exact hle
  · rw [(C08.limit_sized n len).1 (by omega)] at h; cases h

theorem limitLen_refuses {L : Lim} {n len : Nat} (hn : L.N = some n) (h : n < len) : limitLen L len = .error .tooLarge := by
  unfold limitLen
  rw [hn, (C08.limit_sized n len).1 h]

theorem limitLazy_length {L : Lim} {n : Nat} (hn : L.N = some n) (t : VL × Option LErr) :
    (limitLazy L t).1.length ≤ n := by
  unfold limitLazy
  rw [hn]
  dsimp only
  split
  · exact List.length_take_le n _
  · omega

/-- **limit_flow_iter**: what gets through the conversion of an `Iterable()` parameter has been
    measured and shows at most `N` elements -/
theorem limit_flow_iter (c : ECfg) (L : Lim) (o : ObjL) (s : VL × Option LErr) (h : bindIter c L o = .ok s) :
    EvalLimits.measure L (objSz c o) = .ok () ∧ ∀ n, L.N = some n → s.1.length ≤ n := by
  unfold bindIter at h
  obtain ⟨⟨⟩, hm, h1⟩ := bind_ok h
  refine ⟨hm, fun n hn => ?_⟩
  split at h1
  · obtain ⟨_, hl, ⟨⟩⟩ := bind_ok h1; exact limitLen_ok hn hl
  · obtain ⟨_, hl, ⟨⟩⟩ := bind_ok h1; exact limitLen_ok hn hl
  · cases h1; exact limitLazy_length hn _
  · cases h1; exact limitLazy_length hn _
  · cases h1; exact limitLazy_length hn _
  · cases h1

/-- a sized collection with more than `N` elements is refused when it is bound (before anything is iterated) -/
theorem limit_sized_refuses (c : ECfg) (L : Lim) (n : Nat) (hn : L.N = some n) (l : VL) (hl : n < l.length)
    (hm : EvalLimits.measure L (objSz c (.val (.tuple l))) = .ok ()) :
    bindIter c L (.val (.tuple l)) = .error .tooLarge := by
  unfold bindIter
  rw [hm]
  simp only [ok_bind]
  rw [limitLen_refuses hn hl]
  rfl

/-- a finite source, as the `Source` of `Limits` -/
def srcOf (xs : List α) : Limits.Source α := fun i => xs[i]?

theorem step_dead (lim : Convert.Limit) (src : Limits.Source α) (r : Limits.Run α) (h : r.st.dead = true) :
    r.step lim src = r := by
  unfold Limits.Run.step Limits.limNext
  rw [if_pos h]

theorem run_dead (lim : Convert.Limit) (src : Limits.Source α) : ∀ (k : Nat) (r : Limits.Run α), r.st.dead = true →
    Limits.run lim src k r = r
  | 0, _, _ => rfl
  | k + 1, r, h => by
    show Limits.run lim src k (r.step lim src) = r
    rw [step_dead lim src r h]
    exact run_dead lim src k r h

theorem run_live (N : Nat) (xs : List α) : ∀ k, k ≤ xs.length → k ≤ N →
    Limits.run (some N) (srcOf xs) k {} = { st := { idx := k, dead := false }, items := xs.take k, raised := false }
  | 0, _, _ => rfl
  | k + 1, h1, h2 => by
    have hb : Limits.blocks (some N) k = false := decide_eq_false (by omega)
    rw [C08.run_succ, run_live N xs k (by omega) (by omega)]
    unfold Limits.Run.step Limits.limNext
    simp only [Bool.false_eq_true, if_false, srcOf, List.getElem?_eq_getElem h1, hb, List.take_succ_eq_append_getElem h1]

theorem run_finite (N : Nat) (xs : List α) (k : Nat) (hk : min xs.length N < k) :
    (Limits.run (some N) (srcOf xs) k {}).items = xs.take N
    ∧ (Limits.run (some N) (srcOf xs) k {}).raised = decide (N < xs.length) := by
  obtain ⟨j, rfl⟩ : ∃ j, k = min xs.length N + (j + 1) := ⟨k - min xs.length N - 1, by omega⟩
  rw [C08.run_add, run_live N xs _ (Nat.min_le_left _ _) (Nat.min_le_right _ _), Limits.run]
  unfold Limits.Run.step Limits.limNext
  by_cases hlen : xs.length ≤ N
  · have hsrc : srcOf xs xs.length = none := List.getElem?_eq_none (Nat.le_refl _)
    simp only [Nat.min_eq_left hlen, Bool.false_eq_true, if_false, hsrc]
    rw [run_dead]
    · exact ⟨by rw [List.take_of_length_le (Nat.le_refl _), List.take_of_length_le hlen],
        (decide_eq_false (Nat.not_lt.mpr hlen)).symm⟩
    · rfl
  · have hlt : N < xs.length := Nat.lt_of_not_le hlen
    have hb : Limits.blocks (some N) N = true := decide_eq_true (Nat.le_refl _)
    simp only [Nat.min_eq_right (Nat.le_of_lt hlt), Bool.false_eq_true, if_false, srcOf, List.getElem?_eq_getElem hlt, hb,
      if_true]
    rw [run_dead]
    · exact ⟨rfl, (decide_eq_true hlt).symm⟩
    · rfl

/-- **limitLazy_run**: `limitLazy` is the counting generator `Limits.limNext` / `Limits.run` of C08 on a finite
    source that does not raise, consumed to its end: the same items, and `TooLarge` exactly when the generator raises
    (at the pull of item `N + 1`: `C08.limit_pulls`) -/
theorem limitLazy_run (N : Nat) (Q : Int) (xs : VL) (k : Nat) (hk : min xs.length N < k) :
    (Limits.run (some N) (srcOf xs) k {}).items = (limitLazy ⟨some N, Q⟩ (xs, none)).1
    ∧ ((Limits.run (some N) (srcOf xs) k {}).raised = true ↔ (limitLazy ⟨some N, Q⟩ (xs, none)).2 = some .tooLarge) := by
  obtain ⟨h1, h2⟩ := run_finite N xs k hk
  unfold limitLazy
  simp only
  by_cases hlt : N < xs.length
  · rw [if_pos hlt]
    exact ⟨h1, by rw [h2]; simp [hlt]⟩
  · rw [if_neg hlt]
    refine ⟨by rw [h1, List.take_of_length_le (by omega)], ?_⟩
    rw [h2]
    simp [hlt]

/-! ## the result: no collection longer than `N` at any depth -/

mutual
/-- no collection with more than `n` elements at any depth -/
def boundedV (n : Nat) : Value → Bool
  | .tuple l | .list l | .set l | .iter l => decide (l.length ≤ n) && boundedL n l
  | .dict kvs => decide (kvs.length ≤ n) && boundedP n kvs
  | _ => true
def boundedL (n : Nat) : List Value → Bool
  | [] => true
  | x :: xs => boundedV n x && boundedL n xs
def boundedP (n : Nat) : List (Value × Value) → Bool
  | [] => true
  | (k, v) :: r => boundedV n k && boundedV n v && boundedP n r
end

mutual
theorem walkV_bounded (c : ECfg) (L : Lim) (n : Nat) (hn : L.N = some n) : ∀ v : Value, walkV c L v = .ok () → boundedV n v = true
  | .tuple l, h | .list l, h | .set l, h => by
    unfold walkV at h
    obtain ⟨_, _, h1⟩ := bind_ok h
    obtain ⟨_, hl, h2⟩ := bind_ok h1
    exact Bool.and_eq_true_iff.mpr ⟨decide_eq_true (limitLen_ok hn hl), (walkL_bounded c L n hn l none h2).2⟩
  | .iter l, h => by
    unfold walkV at h
    obtain ⟨_, _, h1⟩ := bind_ok h
    have := walkL_bounded c L n hn l L.N h1
    exact Bool.and_eq_true_iff.mpr ⟨decide_eq_true (this.1 n hn), this.2⟩
  | .dict kvs, h => by
    unfold walkV at h
    obtain ⟨_, hl, h1⟩ := bind_ok h
    exact Bool.and_eq_true_iff.mpr ⟨decide_eq_true (limitLen_ok hn hl), walkP_bounded c L n hn kvs h1⟩
  | .null, _ | .bool _, _ | .int _, _ | .flt _, _ | .str _, _ | .host _, _ => rfl
/-- a walk with budget `b` that succeeds: at most `b` elements, all bounded -/
theorem walkL_bounded (c : ECfg) (L : Lim) (n : Nat) (hn : L.N = some n) : ∀ (xs : VL) (b : Option Nat),
    walkL c L b xs = .ok () → (∀ m, b = some m → xs.length ≤ m) ∧ boundedL n xs = true
  | [], b, _ => ⟨fun _ _ => Nat.zero_le _, rfl⟩
  | x :: xs, b, h => by
    by_cases hb : b = some 0
    · subst hb; cases h
    · rw [walkL_cons c L b hb] at h
      obtain ⟨_, hx, h1⟩ := bind_ok h
      have ih := walkL_bounded c L n hn xs (b.map (· - 1)) h1
      refine ⟨fun m hm => ?_, Bool.and_eq_true_iff.mpr ⟨walkV_bounded c L n hn x hx, ih.2⟩⟩
      subst hm
      have := ih.1 (m - 1) rfl
      have : m ≠ 0 := fun h0 => hb (h0 ▸ rfl)
      simp only [List.length_cons]
      omega
theorem walkP_bounded (c : ECfg) (L : Lim) (n : Nat) (hn : L.N = some n) : ∀ kvs : List (Value × Value),
    walkP c L kvs = .ok () → boundedP n kvs = true
  | [], _ => rfl
  | (k, v) :: r, h => by
    unfold walkP at h
    obtain ⟨_, hk, h1⟩ := bind_ok h
    obtain ⟨_, hv, h2⟩ := bind_ok h1
    exact Bool.and_eq_true_iff.mpr
      ⟨Bool.and_eq_true_iff.mpr ⟨walkV_bounded c L n hn k hk, walkV_bounded c L n hn v hv⟩, walkP_bounded c L n hn r h2⟩
end

theorem afterWalk_ok {ok : Bool} {w : RL Unit} (h : afterWalk ok w = .ok ()) : w = .ok () := by
  cases w with
  | ok u => rfl
  | error e =>
    unfold afterWalk at h
    simp only at h
    split at h <;> cases h

theorem finIter_bounded {c : ECfg} {L : Lim} {n : Nat} (hn : L.N = some n) {s : VL × Option LErr} (hlen : s.1.length ≤ n)
    {v : Value} (h : finIter c L s = .ok (.data v)) : boundedV n v = true := by
  unfold finIter at h
  split at h
  · cases h
  · obtain ⟨_, haw, h1⟩ := bind_ok h
    split at h1
    · obtain ⟨_, _, ⟨⟩⟩ := bind_ok h1
      obtain ⟨_, hw, _⟩ := bind_ok (afterWalk_ok haw)
      exact Bool.and_eq_true_iff.mpr ⟨decide_eq_true hlen, (walkL_bounded c L n hn s.1 none hw).2⟩
    · cases h1

theorem finVal_bounded {c : ECfg} {L : Lim} {n : Nat} (hn : L.N = some n) {v' v : Value}
    (h : finVal c L v' = .ok (.data v)) : boundedV n v = true := by
  unfold finVal at h
  obtain ⟨_, _, h1⟩ := bind_ok h
  obtain ⟨_, haw, h2⟩ := bind_ok h1
  split at h2
  · obtain ⟨_, _, ⟨⟩⟩ := bind_ok h2
    exact walkV_bounded c L n hn _ (afterWalk_ok haw)
  · cases h2

/-- **limit_flow_result**: a value that `runL` returns under `yaql.limitIterators = n` holds no collection with more
    than `n` elements at any depth (an evaluation whose result would hold one does not return a value: by
    `new_outcomes` it ends in `TooLarge`, `Quota`, an ordinary exception or "no prediction") -/
theorem limit_flow_result (c : ECfg) (L : Lim) (n : Nat) (hn : L.N = some n) (fuel : Nat) (doc : Value) (e : Expr) (v : Value)
    (h : runL c L fuel doc e = .ok (.data v)) : boundedV n v = true := by
  unfold runL at h
  obtain ⟨o, _, hf⟩ := bind_ok h
  unfold finaliseL at hf
  split at hf
  · obtain ⟨_, _, ⟨⟩⟩ := bind_ok hf
  · split at hf
    · obtain ⟨_, _, h1⟩ := bind_ok hf
      obtain ⟨s, hs, h2⟩ := bind_ok h1
      exact finIter_bounded hn ((limit_flow_iter c L _ s hs).2 n hn) h2
    · split at hf
      · exact finVal_bounded hn hf
      · cases hf

/-! ## non-vacuity: concrete programs

`exCfg` is a hand-copied excerpt (CPython 3.12.1, 64 bit) of what `harness/pyfacts.py` regenerates into
`Gen.Sizes.cfg` / `Gen.EvalSizes.ecfg`; the driver and the checks use the generated ones, these examples only need some
plausible constants. -/

def exCfg : ECfg :=
  { sz := { tupleHdr := 40, listHdr := 56, ptr := 8, strAscii := 41, strLatin1 := 57, strUcs2 := 58, strUcs4 := 60,
            fdictOverhead := 48 },
    noneSz := 16, boolSz := 28, intBase := 24, intDigit := 4, digitBits := 30, objMin := 40, objMax := 248, ruleSz := 48,
    dictEmpty := 64, dictUni := [(5, 184), (10, 272), (21, 464)], dictGen := [(5, 224), (10, 352), (21, 632)],
    listGrow := [(0, 0), (1, 4), (8, 8), (16, 16), (24, 24)] }

def dollar : Expr := .var ['$']
def i (n : Int) : Expr := .lit (.int n)

/-- `[1, 2, 3].select($ * 2)` -/
def exSelect : Expr := .method (.list [i 1, i 2, i 3]) .select [.bin .mul dollar (i 2)] []

example : runL exCfg ⟨some 2, 0⟩ 10 .null exSelect = .error .tooLarge := by rfl
example : runL exCfg ⟨some 3, 0⟩ 10 .null exSelect = .ok (.data (.list [.int 2, .int 4, .int 6])) := by rfl
example : Eval.run 10 .null exSelect = .ok (.data (.list [.int 2, .int 4, .int 6])) := by rfl

/-- `[1, 2, 3].selectMany([$, $])`: a lazy sequence of six elements; `.take(3)` / `.first()` never pull item 4 -/
def exMany : Expr := .method (.list [i 1, i 2, i 3]) .selectMany [.list [dollar, dollar]] []

example : runL exCfg ⟨some 3, 0⟩ 10 .null (.method exMany .take [i 3] []) = .ok (.data (.list [.int 1, .int 1, .int 2])) := by rfl
example : runL exCfg ⟨some 3, 0⟩ 10 .null (.method exMany .take [i 4] []) = .error .tooLarge := by rfl
example : runL exCfg ⟨some 3, 0⟩ 10 .null (.method exMany .first [] []) = .ok (.data (.int 1)) := by rfl
example : runL exCfg ⟨some 3, 0⟩ 10 .null (.method exMany .len [] []) = .error .tooLarge := by rfl
-- `len` of a list is a `Sequence()` parameter: measured, not limited
example : runL exCfg ⟨some 2, 0⟩ 10 .null (.method (.list [i 1, i 2, i 3]) .len [] []) = .ok (.data (.int 3)) := by rfl

/-- a string built by repeated `+`: `$ + $ + $ + $` on a string of ten characters (51, 61, 71, 81 bytes) -/
def s10 : Value := .str (List.replicate 10 'a')
def exPlus : Expr := .bin .add (.bin .add (.bin .add dollar dollar) dollar) dollar

example : runL exCfg ⟨none, 81⟩ 10 s10 exPlus = .ok (.data (.str (List.replicate 40 'a'))) := by rfl
example : runL exCfg ⟨none, 80⟩ 10 s10 exPlus = .error .quota := by rfl
example : runL exCfg ⟨none, 50⟩ 10 s10 exPlus = .error .quota := by rfl
example : runL exCfg ⟨none, 0⟩ 10 s10 exPlus = .ok (.data (.str (List.replicate 40 'a'))) := by rfl

/-- an element that would not fit is only refused when the consumer gets there:
    `['x', <100 characters>].select($ + $ + $ + $)` (the list: 42 + 141 bytes; the elements: 45 and 441 bytes; the
    generator object: at most 248 bytes) under a quota of 300 bytes -/
def s100 : Value := .str (List.replicate 100 'a')
-- `rfl` on the runs below unfolds `maxCp` and `++` on strings of 100 to 400 characters: deeper than the default
set_option maxRecDepth 4000
def exLazyQuota : Expr := .method (.list [.lit (.str ['x']), .lit s100]) .select [exPlus] []

example : runL exCfg ⟨none, 300⟩ 10 .null (.method exLazyQuota .first [] []) = .ok (.data (.str ['x', 'x', 'x', 'x'])) := by rfl
example : runL exCfg ⟨none, 300⟩ 10 .null exLazyQuota = .error .quota := by rfl
example : (runL exCfg ⟨none, 441⟩ 10 .null exLazyQuota).isOk = true := by decide +kernel
-- below the size of the largest non-data object the model makes no prediction about a generator
example : runL exCfg ⟨none, 200⟩ 10 .null exLazyQuota = .error (.base .outOfDomain) := by rfl

example : sizeofV exCfg s10 = some (.exact 51) := by rfl
example : sizeofV exCfg (.dict [(.str ['a'], .int 1), (.str ['b'], .int 2)]) = some (.exact 232) := by rfl
example : sizeofV exCfg (.dict [(.int 1, .int 1)]) = some (.exact 272) := by rfl
example : sizeofV exCfg (.dict [(.int 1, .int 1), (.str ['b'], .int 2)]) = none := by rfl
example : sizeofV exCfg (.int (2 ^ 60)) = some (.exact 36) := by rfl

-- the running total of `#list`: three strings of 51 bytes each
example : runL exCfg ⟨none, 152⟩ 10 s10 (.list [dollar, dollar, dollar]) = .error .quota := by rfl
example : (runL exCfg ⟨none, 153⟩ 10 s10 (.list [dollar, dollar, dollar])).isOk = true := by rfl

-- the hypotheses of the theorems are satisfiable
example : Lim.le ⟨some 2, 100⟩ ⟨some 3, 200⟩ := ⟨Or.inr ⟨2, 3, rfl, rfl, by decide⟩, Or.inr ⟨by decide, by decide⟩⟩
example : Lim.le ⟨some 2, 100⟩ ⟨none, 0⟩ := Lim.le_off _
example : boundedV 2 (.list [.int 1, .tuple [.int 2, .int 3]]) = true := by rfl
example : boundedV 2 (.list [.int 1, .tuple [.int 2, .int 3, .int 4]]) = false := by rfl
example : (Limits.run (some 2) (srcOf [1, 2, 3]) 5 {}).items = [1, 2] ∧ (Limits.run (some 2) (srcOf [1, 2, 3]) 5 {}).raised = true := by
  decide

end Yaql.Props.C08Eval
