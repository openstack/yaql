import Yaql.Lemmas.Lexer
/-!
C16 - literals denote exactly the values they spell.

All theorems are about the lexer model `Yaql.Lexer` (`Model/Lexer.lean`) and hold for EVERY
configuration `cfg : LexCfg` (character classes satisfying the `CharCfg` hypotheses, any operator
table, any `\N{}` oracle, any digit limit) and every string.
-/
namespace Yaql.Props.C16
open Yaql.Lexer Yaql.Syntax

/-- `s.replace('\\', '\\\\').replace(q, '\\' + q)`: backslashes doubled, the quote escaped -/
def escQ (q : Char) : List Char → List Char
  | [] => []
  | c :: s => if c = '\\' ∨ c = q then '\\' :: c :: escQ q s else c :: escQ q s

/-- ``s.replace('`', '\\`')`` -/
def spellV : List Char → List Char
  | [] => []
  | c :: s => if c = '`' then '\\' :: '`' :: spellV s else c :: spellV s

/-- the token a quoted literal alone in a text must produce -/
def strTok (s : List Char) : Token := ⟨.quoted, .text s, 0⟩

theorem quote_nonword (cfg : LexCfg) {q : Char} (hq : q = '\'' ∨ q = '"' ∨ q = '`') :
    cfg.chars.isWord q = false ∧ q ≠ '$' ∧ isIgnored q = false := by
  rcases hq with h | h | h <;> subst h <;> exact ⟨cfg.chars.nonword _ (by decide), by decide, by decide⟩

theorem lexAll_quoted (cfg : LexCfg) {q : Char} (hq : q = '\'' ∨ q = '"') {c v : List Char}
    (hs : scanStr q (c ++ [q]) = some c) (hd : decodeEscapes cfg c 1 = .ok v) :
    lexAll cfg (q :: (c ++ [q])) = .ok [strTok v] := by
  obtain ⟨hw, h1, hi⟩ := quote_nonword cfg (q := q) (by rcases hq with h | h <;> simp [h])
  have hc : (q = '\'' || q = '"') = true := by simpa using hq
  apply lexAll_single cfg hi
  rw [ruleAt_nonword cfg hw h1]
  simp [hc, hs, quotedTok, hd, strTok]

theorem ruleAt_backquote (cfg : LexCfg) (pw : Bool) (r : List Char) (pos : Nat) :
    ruleAt cfg pw ('`' :: r) pos =
      match scanStr '`' r with
      | some content => .tok ⟨.quoted, .text (unescapeBackquote content), pos⟩ (content.length + 2)
      | none => symbolAt cfg '`' ('`' :: r) pos := by
  obtain ⟨hw, h1, _⟩ := quote_nonword cfg (q := '`') (by simp)
  rw [ruleAt_nonword cfg hw h1]
  have h2 : ('`' = '\'' || '`' = '"') = false := by decide
  simp only [h2, Bool.false_eq_true, if_false, if_true]
  rfl

theorem lexAll_verbatim (cfg : LexCfg) {c : List Char} (hs : scanStr '`' (c ++ ['`']) = some c) :
    lexAll cfg ('`' :: (c ++ ['`'])) = .ok [strTok (unescapeBackquote c)] := by
  apply lexAll_single cfg (by decide)
  rw [ruleAt_backquote, hs]
  simp [strTok]

theorem decodeGo_plain (cfg : LexCfg) (b off : Nat) {c : Char} (t : List Char) (hc : c ≠ '\\') :
    decodeGo cfg b 0 off (c :: t) = consOk c (decodeGo cfg b 0 (off + 1) t) := by
  simp [decodeGo, hc]

/-- after a match of length `k + 1` the next `k` characters are not looked at -/
theorem decodeGo_skip (cfg : LexCfg) (b : Nat) : ∀ (pre : List Char) (off : Nat) (rest : List Char),
    decodeGo cfg b pre.length off (pre ++ rest) = decodeGo cfg b 0 (off + pre.length) rest
  | [], off, rest => by simp
  | c :: pre, off, rest => by
      simp only [List.length_cons, List.cons_append, decodeGo]
      rw [decodeGo_skip cfg b pre (off + 1) rest]
      congr 1
      omega

/-- wherever the escape text `e` stands in the content of a single- or double-quoted string (followed
by a `rest` satisfying `P`), `decode_escapes` replaces it by the one character `v` and goes on behind it -/
def DenotesIf (cfg : LexCfg) (e : List Char) (v : Char) (P : List Char → Prop) : Prop :=
  ∀ (b off : Nat) (rest : List Char), P rest →
    decodeGo cfg b 0 off (e ++ rest) = consOk v (decodeGo cfg b 0 (off + e.length) rest)

def Denotes (cfg : LexCfg) (e : List Char) (v : Char) : Prop := DenotesIf cfg e v (fun _ => True)

theorem decodeGo_escape (cfg : LexCfg) (b off : Nat) {pre rest : List Char} {len : Nat} {v : Char}
    (h : escAt cfg (pre ++ rest) = some ⟨len, .ok v⟩) (hl : pre.length + 1 = len) :
    decodeGo cfg b 0 off ('\\' :: (pre ++ rest)) = consOk v (decodeGo cfg b 0 (off + ('\\' :: pre).length) rest) := by
  subst hl
  simp only [decodeGo, h, if_true, Nat.add_sub_cancel]
  rw [decodeGo_skip cfg b pre (off + 1) rest]
  congr 2
  simp only [List.length_cons]; omega

/-- the ordered alternation is decided by the character behind the backslash: no two alternatives start alike, and
the one octal digits start never fails -/
theorem escAt_cons (cfg : LexCfg) (c : Char) (t : List Char) :
    escAt cfg (c :: t) =
      if isOct c then octEscape (c :: t)
      else if c = 'U' then hexEscape 8 t else if c = 'u' then hexEscape 4 t else if c = 'x' then hexEscape 2 t
      else if c = 'N' then nameEscape cfg (c :: t) else singleEscape c := by
  have hname : ∀ {c}, c ≠ 'N' → nameEscape cfg (c :: t) = none := fun h => by cases t <;> simp [nameEscape, h]
  cases ho : isOct c
  · have h1 : octEscape (c :: t) = none := by simp [octEscape, List.take_succ_cons, ho]
    by_cases hU : c = 'U'
    · subst hU; simp [escAt, h1, hname, singleEscape]
    by_cases hu : c = 'u'
    · subst hu; simp [escAt, h1, hname, singleEscape]
    by_cases hx : c = 'x'
    · subst hx; simp [escAt, h1, hname, singleEscape]
    by_cases hN : c = 'N'
    · subst hN; simp [escAt, h1, singleEscape]
    · simp [escAt, h1, hname hN, hU, hu, hx, hN]
  · have hl : ∀ l ∈ ['U', 'u', 'x'], isOct l = false := by decide
    have hne : ∀ l ∈ ['U', 'u', 'x'], c ≠ l := fun l h e => by rw [e, hl l h] at ho; cases ho
    obtain ⟨m, hm⟩ : ∃ m, octEscape (c :: t) = some m := by simp [octEscape, List.take_succ_cons, ho]
    simp [escAt, hne, hm]

theorem escAt_simple (cfg : LexCfg) {c : Char} (t : List Char) (hc : c ∉ ['U', 'u', 'x', 'N']) (ho : isOct c = false) :
    escAt cfg (c :: t) = singleEscape c := by
  simp only [List.mem_cons, List.not_mem_nil, or_false, not_or] at hc
  simp [escAt_cons, ho, hc]

/-- the single-character escapes and their values -/
def singleTable : List (Char × Char) :=
  [('\\', '\\'), ('\'', '\''), ('"', '"'), ('a', Char.ofNat 7), ('b', Char.ofNat 8), ('f', Char.ofNat 12),
   ('n', '\n'), ('r', '\r'), ('t', '\t'), ('v', Char.ofNat 11)]

theorem singleTable_spec : ∀ p ∈ singleTable,
    singleEscape p.1 = some ⟨2, .ok p.2⟩ ∧ p.1 ∉ ['U', 'u', 'x', 'N'] ∧ isOct p.1 = false := by decide +kernel

theorem esc_single (cfg : LexCfg) {c v : Char} (h : (c, v) ∈ singleTable) : Denotes cfg ['\\', c] v := by
  intro b off rest _
  obtain ⟨hs, hc, ho⟩ := singleTable_spec _ h
  exact decodeGo_escape cfg b off (pre := [c]) (by rw [List.singleton_append, escAt_simple cfg rest hc ho, hs]; rfl) rfl

theorem hexNum_no_newline (ds : List Char) (acc : Nat) {v : Nat} (h : hexNum acc ds = some v) : ∀ c ∈ ds, c ≠ '\n' := by
  fun_induction hexNum acc ds with
  | case1 => simp
  | case2 acc d r x hd ih =>
      intro c hc
      rcases List.mem_cons.mp hc with rfl | hc'
      · intro e; subst e; simp [hexVal] at hd
      · exact ih h c hc'
  | case3 => cases h

theorem hexEscape_ok {n : Nat} {ds rest : List Char} {v : Nat} (hl : ds.length = n) (hv : hexNum 0 ds = some v)
    (hs : isSurrogate v = false) (hr : v ≤ 0x10FFFF) :
    hexEscape n (ds ++ rest) = some ⟨n + 2, .ok (Char.ofNat v)⟩ := by
  have ht : (ds ++ rest).take n = ds := by subst hl; simp
  have hnl : ds.all (fun c => c != '\n') = true := by
    rw [List.all_eq_true]; intro c hc; simpa using hexNum_no_newline ds 0 hv c hc
  simp [hexEscape, ht, hl, hnl, hv, codePoint, hs, hr]

/-- `\xHH`, `\uHHHH`, `\UHHHHHHHH`: the character with that code (not a surrogate, at most U+10FFFF) -/
theorem esc_hex (cfg : LexCfg) {letter : Char} {n : Nat} (hn : (letter, n) ∈ [('x', 2), ('u', 4), ('U', 8)])
    {ds : List Char} {v : Nat} (hl : ds.length = n) (hv : hexNum 0 ds = some v)
    (hs : isSurrogate v = false) (hr : v ≤ 0x10FFFF) :
    Denotes cfg ('\\' :: letter :: ds) (Char.ofNat v) := by
  intro b off rest _
  refine decodeGo_escape cfg b off (pre := letter :: ds) (len := n + 2) ?_ (by simp [hl])
  rw [← hexEscape_ok (rest := rest) hl hv hs hr, List.cons_append, escAt_cons]
  simp only [List.mem_cons, Prod.mk.injEq, List.not_mem_nil, or_false] at hn
  rcases hn with ⟨rfl, rfl⟩ | ⟨rfl, rfl⟩ | ⟨rfl, rfl⟩ <;> simp [isOct]

/-- what may follow an octal escape of fewer than three digits: not another octal digit -/
def noOctNext : List Char → Prop
  | [] => True
  | x :: _ => isOct x = false

theorem octEscape_ok {ds rest : List Char} (hne : ds ≠ []) (hl : ds.length ≤ 3) (ho : ∀ d ∈ ds, isOct d = true)
    (hr : ds.length = 3 ∨ noOctNext rest) :
    octEscape (ds ++ rest) = some ⟨ds.length + 1, .ok (Char.ofNat (octVal ds))⟩ := by
  have hnext : ∀ x ∈ (rest.take (3 - ds.length)).head?, isOct x = false := by
    rcases hr with hr | hr
    · simp [hr]
    · cases rest with
      | nil => simp
      | cons y t =>
          intro x hx
          rw [List.head?_take] at hx
          split at hx
          · cases hx
          · cases hx; exact hr
  have key : ((ds ++ rest).take 3).takeWhile isOct = ds := by
    rw [List.take_append, List.take_of_length_le hl]
    exact takeWhile_append_head ho hnext
  simp [octEscape, key, hne]

/-- `\o`, `\oo`, `\ooo` (octal digits; at most three are taken): the character with that code -/
theorem esc_octal (cfg : LexCfg) {ds : List Char} (hne : ds ≠ []) (hl : ds.length ≤ 3)
    (ho : ∀ d ∈ ds, isOct d = true) :
    DenotesIf cfg ('\\' :: ds) (Char.ofNat (octVal ds)) (fun rest => ds.length = 3 ∨ noOctNext rest) := by
  intro b off rest hr
  obtain ⟨d, r, rfl⟩ := List.exists_cons_of_ne_nil hne
  refine decodeGo_escape cfg b off ?_ rfl
  rw [List.cons_append, escAt_cons, if_pos (ho d (by simp))]
  exact octEscape_ok hne hl ho hr

/-- `\N{name}`: the character the name table gives (the table is a parameter of the model) -/
theorem esc_name (cfg : LexCfg) {name : List Char} {v : Char} (hne : name ≠ [])
    (hb : ∀ c ∈ name, c ≠ '}') (hv : cfg.names name = some v) :
    Denotes cfg ('\\' :: 'N' :: '{' :: (name ++ ['}'])) v := by
  intro b off rest _
  have hp : ∀ c ∈ name, (fun c => c != '}') c = true := by intro c hc; simpa using hb c hc
  have hx : (fun c : Char => c != '}') '}' = false := by decide
  have h1 : (name ++ '}' :: rest).takeWhile (fun c => c != '}') = name := takeWhile_append_stop hp hx
  have h2 : (name ++ '}' :: rest).dropWhile (fun c => c != '}') = '}' :: rest := dropWhile_append_stop hp hx
  refine decodeGo_escape cfg b off (pre := 'N' :: '{' :: (name ++ ['}'])) (len := name.length + 4) ?_ (by simp)
  rw [List.cons_append, escAt_cons]
  simp [isOct, nameEscape, h1, h2, hne, hv]

/-- the value of every escape shape of single- and double-quoted strings. -/
theorem escape_values (cfg : LexCfg) :
    (∀ c v, (c, v) ∈ singleTable → Denotes cfg ['\\', c] v) ∧
    (∀ letter n, (letter, n) ∈ [('x', 2), ('u', 4), ('U', 8)] → ∀ ds v, ds.length = n → hexNum 0 ds = some v →
        isSurrogate v = false → v ≤ 0x10FFFF → Denotes cfg ('\\' :: letter :: ds) (Char.ofNat v)) ∧
    (∀ ds, ds ≠ [] → ds.length ≤ 3 → (∀ d ∈ ds, isOct d = true) →
        DenotesIf cfg ('\\' :: ds) (Char.ofNat (octVal ds)) (fun rest => ds.length = 3 ∨ noOctNext rest)) ∧
    (∀ name v, name ≠ [] → (∀ c ∈ name, c ≠ '}') → cfg.names name = some v →
        Denotes cfg ('\\' :: 'N' :: '{' :: (name ++ ['}'])) v) :=
  ⟨fun _ _ h => esc_single cfg h, fun _ _ hn _ _ hl hv hs hr => esc_hex cfg hn hl hv hs hr,
   fun _ hne hl ho => esc_octal cfg hne hl ho, fun _ _ hne hb hv => esc_name cfg hne hb hv⟩

/-- an escape alone between quotes: the literal is the one-character string -/
theorem escape_literal (cfg : LexCfg) {q : Char} (hq : q = '\'' ∨ q = '"') {e : List Char} {v : Char}
    (hd : Denotes cfg e v) (hs : scanStr q (e ++ [q]) = some e) :
    lexAll cfg (q :: (e ++ [q])) = .ok [strTok [v]] := by
  apply lexAll_quoted cfg hq hs
  simpa [decodeEscapes, decodeGo, consOk] using hd 1 0 [] trivial

example (cfg : LexCfg) : lexAll cfg ['\'', '\\', 'x', '4', '1', '\''] = .ok [strTok ['A']] :=
  escape_literal cfg (Or.inl rfl)
    (esc_hex cfg (letter := 'x') (n := 2) (by simp) (ds := ['4', '1']) (v := 65) rfl (by decide) (by decide) (by decide))
    (by decide)

/-- the characters that can follow a backslash in an escape shape -/
def escapeStarters : List Char :=
  ['U', 'u', 'x', '0', '1', '2', '3', '4', '5', '6', '7', 'N', '\\', '\'', '"', 'a', 'b', 'f', 'n', 'r', 't', 'v']

theorem escAt_unknown (cfg : LexCfg) {c : Char} (t : List Char) (h : c ∉ escapeStarters) :
    escAt cfg (c :: t) = none := by
  simp only [escapeStarters, List.mem_cons, List.not_mem_nil, or_false, not_or] at h
  obtain ⟨hU, hu, hx, o0, o1, o2, o3, o4, o5, o6, o7, hN, h1, h2, h3, h4, h5, h6, h7, h8, h9, h10⟩ := h
  have code : ∀ {n : Nat}, c ≠ Char.ofNat n → c.toNat ≠ n := fun hn e => hn (by rw [← Char.ofNat_toNat c, e])
  have ho : isOct c = false := by
    have : c.toNat ≠ 48 ∧ c.toNat ≠ 49 ∧ c.toNat ≠ 50 ∧ c.toNat ≠ 51 ∧ c.toNat ≠ 52 ∧ c.toNat ≠ 53 ∧ c.toNat ≠ 54 ∧
        c.toNat ≠ 55 := ⟨code o0, code o1, code o2, code o3, code o4, code o5, code o6, code o7⟩
    simp only [isOct, Bool.and_eq_false_iff, decide_eq_false_iff_not]
    omega
  rw [escAt_simple cfg t (by simp only [List.mem_cons, List.not_mem_nil, or_false, hU, hu, hx, hN, not_false_eq_true]) ho]
  simp only [singleEscape, h1, h2, h3, h4, h5, h6, h7, h8, h9, h10, if_false]

/-- a backslash followed by a character that starts no escape shape (`\q`)
stays as the two characters it is; so does a backslash at the very end of the content. -/
theorem unknown_escape_kept (cfg : LexCfg) (b off : Nat) :
    (∀ (c : Char) (rest : List Char), c ∉ escapeStarters →
      decodeGo cfg b 0 off ('\\' :: c :: rest) = consOk '\\' (consOk c (decodeGo cfg b 0 (off + 2) rest))) ∧
    decodeGo cfg b 0 off ['\\'] = .ok ['\\'] := by
  constructor
  · intro c rest h
    have hb : c ≠ '\\' := by intro e; subst e; exact h (by decide)
    have h1 : decodeGo cfg b 0 off ('\\' :: c :: rest) = consOk '\\' (decodeGo cfg b 0 (off + 1) (c :: rest)) := by
      simp only [decodeGo, escAt_unknown cfg rest h, if_true]
    rw [h1, decodeGo_plain cfg b (off + 1) rest hb]
  · simp [decodeGo, escAt, consOk]

example : ('q' : Char) ∉ escapeStarters := by decide

theorem wfQ_escQ {q : Char} (hb : q ≠ '\\') (hn : q ≠ '\n') : ∀ (s : List Char), wfQ q (escQ q s) = true
  | [] => rfl
  | c :: s => by
      by_cases hc : c = '\\' ∨ c = q
      · have hcn : c ≠ '\n' := by
          rcases hc with h | h
          · subst h; decide
          · subst h; exact hn
        simp [escQ, hc, wfQ_cons, hb.symm, hcn, wfQ_escQ hb hn s]
      · have h1 : c ≠ '\\' := fun h => hc (Or.inl h)
        have h2 : c ≠ q := fun h => hc (Or.inr h)
        simp [escQ, wfQ_cons, h1, h2, wfQ_escQ hb hn s]

theorem scanStr_escQ {q : Char} (hq : q = '\'' ∨ q = '"') (s tail : List Char) :
    scanStr q (escQ q s ++ q :: tail) = some (escQ q s) :=
  scanStr_wf q tail _ (wfQ_escQ (by rcases hq with h | h <;> subst h <;> decide)
    (by rcases hq with h | h <;> subst h <;> decide) s)

theorem decodeGo_escQ (cfg : LexCfg) {q : Char} (hq : q = '\'' ∨ q = '"') (b : Nat) :
    ∀ (s : List Char) (off : Nat), decodeGo cfg b 0 off (escQ q s) = .ok s
  | [], off => by simp [escQ, decodeGo]
  | c :: s, off => by
      by_cases hc : c = '\\' ∨ c = q
      · have hm : (c, c) ∈ singleTable := by
          rcases hc with h | h
          · subst h; decide
          · rcases hq with h' | h' <;> subst h <;> subst h' <;> decide
        simp only [escQ, hc, if_true]
        have := esc_single cfg hm b off (escQ q s) trivial
        simp only [List.cons_append, List.nil_append] at this
        rw [this, decodeGo_escQ cfg hq b s]
        rfl
      · simp only [escQ, hc, if_false]
        rw [decodeGo_plain cfg b off _ (fun h => hc (Or.inl h)), decodeGo_escQ cfg hq b s]
        rfl

theorem roundtrip (cfg : LexCfg) {q : Char} (hq : q = '\'' ∨ q = '"') (s : List Char) :
    lexAll cfg (q :: (escQ q s ++ [q])) = .ok [strTok s] :=
  lexAll_quoted cfg hq (scanStr_escQ hq s []) (decodeGo_escQ cfg hq 1 s 0)

/-- for EVERY string `s`, the single-quoted literal built by doubling the
backslashes and escaping the quote lexes as exactly one QUOTED_STRING token whose value is `s`. -/
theorem roundtrip_single (cfg : LexCfg) (s : List Char) :
    lexAll cfg ('\'' :: (escQ '\'' s ++ ['\''])) = .ok [strTok s] :=
  roundtrip cfg (Or.inl rfl) s

/-- the same for the double-quoted style. -/
theorem roundtrip_double (cfg : LexCfg) (s : List Char) :
    lexAll cfg ('"' :: (escQ '"' s ++ ['"'])) = .ok [strTok s] :=
  roundtrip cfg (Or.inr rfl) s

theorem escQ_plain {q : Char} : ∀ {s : List Char}, (∀ c ∈ s, c ≠ '\\' ∧ c ≠ q) → escQ q s = s
  | [], _ => rfl
  | c :: s, h => by
      have hc := h c (by simp)
      have : ¬ (c = '\\' ∨ c = q) := fun o => o.elim hc.1 hc.2
      simp only [escQ, this, if_false]
      rw [escQ_plain (fun d hd => h d (by simp [hd]))]

/-- the three equations that define the value of a back-quoted token: a backslash right before a back
quote disappears, every other character - every other backslash included - stays -/
theorem unescapeBackquote_eqns :
    unescapeBackquote [] = [] ∧
    (∀ r, unescapeBackquote ('\\' :: '`' :: r) = '`' :: unescapeBackquote r) ∧
    (∀ c r, ¬ (c = '\\' ∧ r.head? = some '`') → unescapeBackquote (c :: r) = c :: unescapeBackquote r) := by
  refine ⟨rfl, fun r => by simp [unescapeBackquote], fun c r h => ?_⟩
  by_cases hc : c = '\\'
  · have : r.head? ≠ some '`' := fun e => h ⟨hc, e⟩
    simp [unescapeBackquote, this]
  · simp [unescapeBackquote, hc]

/-- no `` \` `` in the text -/
def noEscapedBackquote : List Char → Bool
  | [] => true
  | c :: r => !(c == '\\' && r.head? == some '`') && noEscapedBackquote r

theorem unescapeBackquote_noop : ∀ {c : List Char}, noEscapedBackquote c = true → unescapeBackquote c = c
  | [], _ => rfl
  | c :: r, h => by
      simp only [noEscapedBackquote, Bool.and_eq_true, Bool.not_eq_true', Bool.and_eq_false_iff] at h
      have h1 : ¬ (c = '\\' ∧ r.head? = some '`') := by
        rintro ⟨rfl, e⟩
        rcases h.1 with h' | h'
        · simp at h'
        · simp [e] at h'
      rw [unescapeBackquote_eqns.2.2 c r h1, unescapeBackquote_noop h.2]

/-- a back-quoted token (content: anything but bare back quotes, a backslash
always paired with a following character other than a newline) has as its value the content with
`` \` `` replaced by `` ` `` and nothing else (`unescapeBackquote_eqns`; in particular the content itself when
it has no `` \` ``). -/
theorem verbatim_identity (cfg : LexCfg) (c : List Char) (hw : wfQ '`' c = true) :
    lexAll cfg ('`' :: (c ++ ['`'])) = .ok [strTok (unescapeBackquote c)] ∧
    (noEscapedBackquote c = true → lexAll cfg ('`' :: (c ++ ['`'])) = .ok [strTok c]) := by
  have h1 := lexAll_verbatim cfg (scanStr_wf '`' [] c hw)
  exact ⟨h1, fun hn => by rw [h1, unescapeBackquote_noop hn]⟩

theorem noEscapedBackquote_plain : ∀ {s : List Char}, (∀ c ∈ s, c ≠ '\\') → noEscapedBackquote s = true
  | [], _ => rfl
  | c :: s, h => by
      have hc : c ≠ '\\' := h c (by simp)
      have ih : noEscapedBackquote s = true := noEscapedBackquote_plain fun d hd => h d (List.mem_cons_of_mem _ hd)
      simp [noEscapedBackquote, hc, ih]

/-- in each of the three styles a string without a backslash and without the
quote character, put between the quotes as it is, stands for itself. -/
theorem unescaped_self (cfg : LexCfg) {q : Char} (hq : q = '\'' ∨ q = '"' ∨ q = '`') (s : List Char)
    (h : ∀ c ∈ s, c ≠ '\\' ∧ c ≠ q) :
    lexAll cfg (q :: (s ++ [q])) = .ok [strTok s] := by
  rcases hq with hq | hq | hq
  · simpa [escQ_plain h] using roundtrip cfg (Or.inl hq) s
  · simpa [escQ_plain h] using roundtrip cfg (Or.inr hq) s
  · subst hq
    -- `s` is its own escaped spelling, so the back-quote rule accepts it; and it has no `` \` `` to replace
    have hw : wfQ '`' s = true := by simpa [escQ_plain h] using wfQ_escQ (q := '`') (by decide) (by decide) s
    exact (verbatim_identity cfg s hw).2 (noEscapedBackquote_plain fun c hc => (h c hc).1)

/-- does the string have a maximal run of backslashes of ODD length that is followed by a back quote,
by a newline, or by the end of the string?  (`odd`: an odd number of backslashes immediately precedes) -/
def badRun : Bool → List Char → Bool
  | odd, [] => odd
  | odd, c :: r => if c = '\\' then badRun (!odd) r else (odd && (c == '`' || c == '\n')) || badRun false r

/-- `c`, put between back quotes, is a spelling of `s` -/
def SpellsV (cfg : LexCfg) (c s : List Char) : Prop := lexAll cfg ('`' :: (c ++ ['`'])) = .ok [strTok s]

/-- no string rule of the table produces QUOTED_STRING tokens (true of every `LexCfg.ofTable`) -/
def NoQuotedRule (cfg : LexCfg) : Prop := ∀ r ∈ cfg.rules, r.kind ≠ .quoted

theorem spellV_head : ∀ (s : List Char), (spellV s).head? ≠ some '`'
  | [] => by simp [spellV]
  | c :: s => by
      by_cases hc : c = '`'
      · simp [spellV, hc]
      · simp [spellV, hc]

theorem unescape_spellV : ∀ (s : List Char), unescapeBackquote (spellV s) = s
  | [] => rfl
  | c :: s => by
      by_cases hc : c = '`'
      · subst hc
        simp only [spellV, if_true]
        rw [unescapeBackquote_eqns.2.1, unescape_spellV s]
      · simp only [spellV, hc, if_false]
        rw [unescapeBackquote_eqns.2.2 c _ (fun h => spellV_head s h.2), unescape_spellV s]

/-- the back-quote rule's scanner as an automaton (`odd`: the previous character is an unpaired backslash) -/
def wfFrom : Bool → List Char → Bool
  | odd, [] => !odd
  | true, c :: l => c != '\n' && wfFrom false l
  | false, c :: l => c != '`' && wfFrom (c == '\\') l

theorem wfFrom_false (l : List Char) : wfFrom false l = wfQ '`' l := by
  fun_induction wfQ '`' l with
  | case1 => rfl
  | case2 => simp [wfFrom]
  | case3 => simp [wfFrom]
  | case4 e r hq ih => simp [wfFrom, ih]
  | case5 x r hx hb ih =>
      have h1 : (x == '\\') = false := by simpa using hb
      have h2 : (x == '`') = false := by simpa using hx
      simp [wfFrom, bne, h1, h2, ih]

theorem wfFrom_spellV : ∀ (s : List Char) (odd : Bool), wfFrom odd (spellV s) = !badRun odd s
  | [], odd => by cases odd <;> rfl
  | c :: s, odd => by
      by_cases hc : c = '\\'
      · subst hc
        have hs : spellV ('\\' :: s) = '\\' :: spellV s := by simp [spellV]
        rw [hs, badRun, if_pos rfl, ← wfFrom_spellV s (!odd)]
        cases odd <;> simp [wfFrom]
      · by_cases hq : c = '`'
        · subst hq
          cases odd <;> simp [spellV, badRun, wfFrom, wfFrom_spellV s false]
        · have h1 : (c == '\\') = false := by simpa using hc
          have h2 : (c == '`') = false := by simpa using hq
          cases odd <;> simp [spellV, badRun, wfFrom, hc, hq, bne, h1, h2, wfFrom_spellV s false]

theorem wfQ_spellV (s : List Char) : wfQ '`' (spellV s) = !badRun false s := by
  rw [← wfFrom_false, wfFrom_spellV]

theorem wfQ_head {l : List Char} (h : wfQ '`' l = true) : l.head? ≠ some '`' := by
  cases l with
  | nil => simp
  | cons c r =>
      intro e
      simp only [List.head?_cons, Option.some.injEq] at e
      subst e
      rw [wfQ_cons] at h
      simp at h

theorem spellV_unescape (c : List Char) (h : wfQ '`' c = true) : spellV (unescapeBackquote c) = c := by
  fun_induction wfQ '`' c with
  | case1 => rfl
  | case2 => cases h
  | case3 => cases h
  | case4 e r hq ih =>
      simp only [Bool.and_eq_true, bne_iff_ne, ne_eq] at h
      by_cases he : e = '`'
      · subst he
        rw [unescapeBackquote_eqns.2.1]
        simp [spellV, ih h.2]
      · rw [unescapeBackquote_eqns.2.2 '\\' (e :: r) (by simp [he]),
          unescapeBackquote_eqns.2.2 e r (fun hh => wfQ_head h.2 hh.2)]
        simp [spellV, he, ih h.2]
  | case5 x r hx hb ih =>
      rw [unescapeBackquote_eqns.2.2 x r (fun hh => hb hh.1)]
      simp [spellV, hx, ih h]

/-! `badRun` says what the property's wording says: some MAXIMAL run of backslashes of odd length is followed
by a back quote, a newline, or the end of the string -/

def postOK (post : List Char) : Prop := post = [] ∨ post.head? = some '`' ∨ post.head? = some '\n'

/-- `s = pre ++ \^k ++ post`, the run maximal on the left (`pre` does not end with a backslash) and - by
what follows it - on the right, `k` odd -/
def HasBadRun (s : List Char) : Prop :=
  ∃ pre k post, s = pre ++ (List.replicate k '\\' ++ post) ∧ pre.getLast? ≠ some '\\' ∧ k % 2 = 1 ∧ postOK post

/-- `badRun`, having just read `j` backslashes (`odd`: an odd number), exhibits the run it finds -/
theorem hasBadRun_of_badRun : ∀ (s : List Char) (j : Nat),
    badRun (decide (j % 2 = 1)) s = true → HasBadRun (List.replicate j '\\' ++ s)
  | [], j, h => ⟨[], j, [], rfl, by simp, by simpa [badRun] using h, Or.inl rfl⟩
  | c :: r, j, h => by
      by_cases hc : c = '\\'
      · subst hc
        have hj : (!decide (j % 2 = 1)) = decide ((j + 1) % 2 = 1) := by
          rcases Nat.mod_two_eq_zero_or_one j with e | e <;> simp [Nat.add_mod, e]
        rw [badRun, if_pos rfl, hj] at h
        simpa [List.replicate_succ'] using hasBadRun_of_badRun r (j + 1) h
      · simp only [badRun, if_neg hc, Bool.or_eq_true, Bool.and_eq_true, decide_eq_true_eq, beq_iff_eq] at h
        rcases h with ⟨hj, hq⟩ | h
        · exact ⟨[], j, c :: r, rfl, by simp, hj, Or.inr (by simpa using hq)⟩
        ·
          obtain ⟨pre, k, post, hs, hl, hk, hp⟩ := hasBadRun_of_badRun r 0 h
          refine ⟨List.replicate j '\\' ++ c :: pre, k, post, by simp [← hs], ?_, hk, hp⟩
          cases pre with
          | nil => simpa [List.getLast?_append] using hc
          | cons x pre => simpa [List.getLast?_append, List.getLast?_cons_cons] using hl

theorem badRun_replicate (post : List Char) :
    ∀ i, badRun false (List.replicate (2 * i + 1) '\\' ++ post) = badRun true post
  | 0 => by simp [badRun]
  | i + 1 => by
      show badRun false ('\\' :: '\\' :: (List.replicate (2 * i + 1) '\\' ++ post)) = _
      simpa [badRun] using badRun_replicate post i

/-- what `badRun` finds in `x` it finds behind `pre` as well, if `pre` does not end with a backslash (whatever the
state, when `pre` is not empty: behind a character other than a backslash the state is `false` again) -/
theorem badRun_append {x : List Char} (hx : badRun false x = true) : ∀ (pre : List Char) (odd : Bool),
    pre.getLast? ≠ some '\\' → (pre = [] → odd = false) → badRun odd (pre ++ x) = true
  | [], odd, _, ho => by rw [ho rfl]; exact hx
  | c :: a, odd, hl, _ => by
      have hl' : a.getLast? ≠ some '\\' := by
        cases a with
        | nil => simp
        | cons y a => simpa [List.getLast?_cons_cons] using hl
      by_cases hc : c = '\\'
      · subst hc
        have ha : a ≠ [] := by rintro rfl; simp at hl
        rw [List.cons_append, badRun, if_pos rfl]
        exact badRun_append hx a (!odd) hl' (fun e => absurd e ha)
      · rw [List.cons_append, badRun, if_neg hc, badRun_append hx a false hl' (fun _ => rfl), Bool.or_true]

theorem badRun_iff (s : List Char) : badRun false s = true ↔ HasBadRun s := by
  constructor
  · simpa using hasBadRun_of_badRun s 0
  · rintro ⟨pre, k, post, rfl, hl, hk, hp⟩
    obtain ⟨i, rfl⟩ : ∃ i, k = 2 * i + 1 := ⟨k / 2, by omega⟩
    refine badRun_append ?_ pre false hl (fun _ => rfl)
    rw [badRun_replicate]
    cases post with
    | nil => rfl
    | cons y t =>
        have hy : y = '`' ∨ y = '\n' := by simpa [postOK] using hp
        have hb : y ≠ '\\' := by rcases hy with rfl | rfl <;> decide
        simp [badRun, hb, hy]

/-- a back-quoted text that lexes as ONE string token is a well-formed content between the quotes -/
theorem spellsV_inv (cfg : LexCfg) (hr : NoQuotedRule cfg) {c s : List Char} (h : SpellsV cfg c s) :
    wfQ '`' c = true ∧ s = unescapeBackquote c := by
  obtain ⟨len, hrule, hign⟩ := lexAll_single_inv cfg (by decide) h
  rw [ruleAt_backquote] at hrule
  cases hs : scanStr '`' (c ++ ['`']) with
  | some content =>
      simp only [hs, strTok, Matched.tok.injEq, Token.mk.injEq, TokVal.text.injEq, true_and, and_true] at hrule
      obtain ⟨rfl, rfl⟩ := hrule
      obtain ⟨hw, tail, ht⟩ := scanStr_spec '`' _ _ hs
      have hd : (content ++ '`' :: tail).drop (content.length + 2 - 1) = tail := by simp
      rw [ht, hd] at hign
      obtain ⟨rfl, _⟩ := append_singleton_eq ht fun hm => by simpa [isIgnored] using hign _ hm
      exact ⟨hw, rfl⟩
  | none =>
      simp only [hs, symbolAt] at hrule
      cases hf : firstStrRule cfg.rules ('`' :: (c ++ ['`'])) with
      | some sr =>
          simp only [hf, strTok, Matched.tok.injEq, Token.mk.injEq] at hrule
          exact absurd hrule.1.1 (hr sr (List.mem_of_find?_eq_some hf))
      | none =>
          have hl : isLiteral '`' = false := by decide
          simp [hf, hl] at hrule

theorem spellsV_iff (cfg : LexCfg) (hr : NoQuotedRule cfg) (c s : List Char) :
    SpellsV cfg c s ↔ c = spellV s ∧ badRun false s = false := by
  constructor
  · intro h
    obtain ⟨hw, rfl⟩ := spellsV_inv cfg hr h
    have e := spellV_unescape c hw
    have hb := wfQ_spellV (unescapeBackquote c)
    rw [e, hw] at hb
    exact ⟨e.symm, by simpa using hb⟩
  · rintro ⟨rfl, hb⟩
    have hw : wfQ '`' (spellV s) = true := by rw [wfQ_spellV, hb]; rfl
    have := (verbatim_identity cfg (spellV s) hw).1
    rwa [unescape_spellV] at this

/-- a string has a back-quoted spelling iff no maximal run of backslashes of
odd length in it is followed by a back quote, a newline or the end of the string; and then
``spellV s`` (every `` ` `` written `` \` ``) is such a spelling. -/
theorem verbatim_spellable_iff (cfg : LexCfg) (hr : NoQuotedRule cfg) (s : List Char) :
    ((∃ c, SpellsV cfg c s) ↔ badRun false s = false) ∧
    (badRun false s = false → SpellsV cfg (spellV s) s) := by
  have hcons : badRun false s = false → SpellsV cfg (spellV s) s := fun hb => (spellsV_iff cfg hr _ s).2 ⟨rfl, hb⟩
  exact ⟨⟨fun ⟨c, hc⟩ => ((spellsV_iff cfg hr c s).1 hc).2, fun hb => ⟨_, hcons hb⟩⟩, hcons⟩

/-- the same in the wording of the property: spellable iff there is NO maximal odd run of backslashes before a
back quote, a newline or the end -/
theorem verbatim_spellable_iff_runs (cfg : LexCfg) (hr : NoQuotedRule cfg) (s : List Char) :
    (∃ c, SpellsV cfg c s) ↔ ¬ HasBadRun s := by
  rw [(verbatim_spellable_iff cfg hr s).1, ← badRun_iff]
  cases badRun false s <;> simp

/-- known finding K2: the one-character string `\` has no back-quoted
spelling - so "every string has a spelling in each of the three styles" is false by design. -/
theorem verbatim_unspellable (cfg : LexCfg) (hr : NoQuotedRule cfg) : ¬ ∃ c, SpellsV cfg c ['\\'] := by
  intro h
  have := ((verbatim_spellable_iff cfg hr ['\\']).1).1 h
  exact absurd this (by decide)

example : badRun false ['a', '\\', '\\', '`'] = false ∧ badRun false ['\\', '`'] = true ∧
    badRun false ['\\', '\n'] = true ∧ badRun false ['\\', 'n'] = false ∧ badRun false ['\\', '\\', '\\'] = true := by decide

/-! every configuration built from an operator table satisfies `NoQuotedRule` -/

theorem opRulesFrom_kind : ∀ (ops : List (List Char)) (i : Nat) (r : StrRule), r ∈ opRulesFrom i ops → r.kind ≠ .quoted
  | [], _, _, h => by simp [opRulesFrom] at h
  | s :: ops, i, r, h => by
      simp only [opRulesFrom, List.mem_cons] at h
      rcases h with rfl | h
      · simp
      · exact opRulesFrom_kind ops (i + 1) r h

theorem noQuotedRule_ofTable (chars : CharCfg) (ops : List (List Char)) (hasIndexer hasMap : Bool)
    (nvo : Option (List Char)) (names : List Char → Option Char) (maxDigits : Nat) :
    NoQuotedRule (LexCfg.ofTable chars ops hasIndexer hasMap nvo names maxDigits) := by
  intro r hr
  simp only [LexCfg.ofTable, mkRules] at hr
  have := mem_sortBy _ r _ (mem_sortBy _ r _ hr)
  simp only [List.mem_append] at this
  rcases this with ((h | h) | h) | h
  · cases hasIndexer <;> simp at h; subst h; simp
  · cases hasMap <;> simp at h; subst h; simp
  · cases nvo <;> simp at h; subst h; simp
  · exact opRulesFrom_kind ops 1 r h

def AllDigits (cc : CharCfg) (ds : List Char) : Prop := ∀ d ∈ ds, cc.isDigit d = true

theorem digit_ne_nonword (cc : CharCfg) {d x : Char} (hd : cc.isDigit d = true) (hx : x ∈ nonWordChars) : d ≠ x :=
  word_ne_of_nonword cc (cc.digit_word d hd) hx

theorem dot_not_digit (cc : CharCfg) : cc.isDigit '.' = false :=
  nonword_not_digit cc (cc.nonword '.' (by decide))

theorem matchNumber_digits (cc : CharCfg) {a t : List Char} (hne : a ≠ []) (ha : AllDigits cc a)
    (ht : ∀ x ∈ t.head?, cc.isDigit x = false) :
    matchNumber cc false (a ++ t) =
      match fracPart cc t with
      | some d2 => some ⟨a, some d2⟩
      | none => if boundaryAfter cc t then some ⟨a, none⟩ else none := by
  simp only [matchNumber, takeWhile_append_head ha ht, dropWhile_append_head ha ht, List.isEmpty_iff, hne,
    Bool.false_eq_true, if_false]
  rfl

theorem matchNumber_int (cc : CharCfg) {ds : List Char} (hne : ds ≠ []) (hd : AllDigits cc ds) :
    matchNumber cc false ds = some ⟨ds, none⟩ := by
  simpa [fracPart, boundaryAfter] using matchNumber_digits cc hne hd (t := []) (by simp)

theorem matchNumber_dec (cc : CharCfg) {a b : List Char} (hne : a ≠ []) (ha : AllDigits cc a)
    (hnb : b ≠ []) (hb : AllDigits cc b) :
    matchNumber cc false (a ++ '.' :: b) = some ⟨a, some b⟩ := by
  have hf : fracPart cc ('.' :: b) = some b := by simp [fracPart, takeWhile_all hb, dropWhile_all hb, hnb, boundaryAfter]
  rw [matchNumber_digits cc hne ha (by simpa using dot_not_digit cc), hf]

theorem ruleAt_digit (cfg : LexCfg) {d : Char} {r : List Char} (hd : cfg.chars.isDigit d = true) (pos : Nat)
    {m : NumMatch} (hm : matchNumber cfg.chars false (d :: r) = some m) :
    ruleAt cfg false (d :: r) pos = convNumber cfg m pos := by
  have h1 : d ≠ '$' := digit_ne_nonword cfg.chars hd (by decide)
  simp only [ruleAt, h1, if_false, hm]

/-- the decimal value of a digit string: `digitsVal` reads it most significant digit first -/
theorem digitsVal_snoc (cc : CharCfg) (ds : List Char) (d : Char) :
    digitsVal cc (ds ++ [d]) = 10 * digitsVal cc ds + cc.digitVal d := by
  simp [digitsVal, List.foldl_append]

/-- a non-empty string of `\d` characters (any script), alone in a text, is one NUMBER
token whose value is the integer the digits spell in base ten (`digitsVal`: `digitsVal_snoc`, value 0 for
no digit) - unless it has more digits than the interpreter's `int()` accepts, then it is the lexical error
`(text, 0)`. -/
theorem int_literal (cfg : LexCfg) {ds : List Char} (hne : ds ≠ []) (hd : AllDigits cfg.chars ds) :
    (cfg.maxDigits = 0 ∨ ds.length ≤ cfg.maxDigits →
      lexAll cfg ds = .ok [⟨.number, .int (digitsVal cfg.chars ds), 0⟩]) ∧
    (cfg.maxDigits ≠ 0 ∧ cfg.maxDigits < ds.length → lexAll cfg ds = .error (.lexical ds 0)) := by
  obtain ⟨d, r, rfl⟩ := List.exists_cons_of_ne_nil hne
  have hd0 : cfg.chars.isDigit d = true := hd d (by simp)
  have hi : isIgnored d = false := word_not_ignored cfg.chars (cfg.chars.digit_word d hd0)
  have hr : ruleAt cfg false (d :: r) 0 =
      if cfg.maxDigits ≠ 0 ∧ cfg.maxDigits < r.length + 1 then .err (.lexical (d :: r) 0)
      else .tok ⟨.number, .int (digitsVal cfg.chars (d :: r)), 0⟩ (r.length + 1) := by
    rw [ruleAt_digit cfg hd0 0 (matchNumber_int cfg.chars hne hd)]
    simp [convNumber, NumMatch.len]
  simp only [List.length_cons]
  exact ⟨fun hlim => lexAll_single cfg hi (by rw [hr, if_neg (by omega)]),
    fun hlim => lexAll_error cfg hi (by rw [hr, if_pos hlim])⟩

/-- value of an ASCII decimal text `ddd.ddd`: `(n, k)` stands for the rational `n / 10^k` -/
def decimalOf (text : List Char) : Nat × Nat :=
  let ip := text.takeWhile (fun c => c != '.')
  let fp := (text.dropWhile (fun c => c != '.')).drop 1
  ((ip ++ fp).foldl (fun a d => 10 * a + (d.toNat - 48)) 0, fp.length)

theorem asciiDigit_spec : ∀ {v : Nat}, v < 10 →
    (Char.ofNat (48 + v)).toNat - 48 = v ∧ (Char.ofNat (48 + v) != '.') = true := by decide

theorem foldl_asciiDigits (cc : CharCfg) : ∀ (ds : List Char) (acc : Nat), AllDigits cc ds →
    (asciiDigits cc ds).foldl (fun a d => 10 * a + (d.toNat - 48)) acc = ds.foldl (fun a d => 10 * a + cc.digitVal d) acc
  | [], _, _ => rfl
  | d :: ds, acc, h => by
      have hd := (asciiDigit_spec (cc.digit_lt d (h d (by simp)))).1
      simp only [asciiDigits, List.map_cons, List.foldl_cons, hd]
      exact foldl_asciiDigits cc ds _ (fun x hx => h x (by simp [hx]))

theorem decimalOf_ascii (cc : CharCfg) {a b : List Char} (ha : AllDigits cc a) (hb : AllDigits cc b) :
    decimalOf (asciiDigits cc a ++ '.' :: asciiDigits cc b) = (digitsVal cc (a ++ b), b.length) := by
  have hp : ∀ c ∈ asciiDigits cc a, (fun c => c != '.') c = true := by
    intro c hc
    simp only [asciiDigits, List.mem_map] at hc
    obtain ⟨d, hd, rfl⟩ := hc
    exact (asciiDigit_spec (cc.digit_lt d (ha d hd))).2
  have hx : (fun c : Char => c != '.') '.' = false := by decide
  have h1 : (asciiDigits cc a ++ '.' :: asciiDigits cc b).takeWhile (fun c => c != '.') = asciiDigits cc a :=
    takeWhile_append_stop hp hx
  have h2 : (asciiDigits cc a ++ '.' :: asciiDigits cc b).dropWhile (fun c => c != '.') = '.' :: asciiDigits cc b :=
    dropWhile_append_stop hp hx
  simp only [decimalOf, h1, h2, List.drop_succ_cons, List.drop_zero, List.foldl_append, digitsVal]
  rw [foldl_asciiDigits cc a 0 ha, foldl_asciiDigits cc b _ hb]
  simp [asciiDigits]

/-- the text a NUMBER match covers -/
def numText (m : NumMatch) : List Char :=
  match m.frac with
  | some d2 => m.int ++ '.' :: d2
  | none => m.int

/-- (1) digits `.` digits, alone in a text, is one NUMBER token holding a float: its
decimal text with ASCII digits and the double `literalFloat a b`; (2) that text denotes the rational
`digitsVal (a ++ b) / 10 ^ b.length`, and the double is this rational correctly rounded (`Yaql.Props.C16.literalFloat_spec` in `Props/C16Float.lean`:
nearest, ties to even, `inf` from `2^1024 - 2^970` on - the rounding is part of the model, not taken from the platform);
(3) for every NUMBER match the token holds a float iff the matched text contains a dot, and an integer otherwise. -/
theorem dot_means_float (cfg : LexCfg) :
    (∀ a b, a ≠ [] → b ≠ [] → AllDigits cfg.chars a → AllDigits cfg.chars b →
      lexAll cfg (a ++ '.' :: b) =
        .ok [⟨.number, .flt (asciiDigits cfg.chars a ++ '.' :: asciiDigits cfg.chars b) (literalFloat cfg.chars a b), 0⟩] ∧
      decimalOf (asciiDigits cfg.chars a ++ '.' :: asciiDigits cfg.chars b) =
        (digitsVal cfg.chars (a ++ b), b.length)) ∧
    (∀ pw rest m pos t len, matchNumber cfg.chars pw rest = some m → convNumber cfg m pos = .tok t len →
      ('.' ∈ numText m ↔ ∃ l w, t.val = .flt l w) ∧ ('.' ∉ numText m ↔ t.val = .int (digitsVal cfg.chars m.int))) := by
  constructor
  · intro a b hna hnb ha hb
    refine ⟨?_, decimalOf_ascii cfg.chars ha hb⟩
    obtain ⟨d, r, rfl⟩ := List.exists_cons_of_ne_nil hna
    have hd0 : cfg.chars.isDigit d = true := ha d (by simp)
    have hi : isIgnored d = false := word_not_ignored cfg.chars (cfg.chars.digit_word d hd0)
    have hm := matchNumber_dec cfg.chars hna ha hnb hb
    rw [List.cons_append] at hm ⊢
    apply lexAll_single cfg hi
    rw [ruleAt_digit cfg hd0 0 hm]
    simp only [convNumber, NumMatch.len, List.length_cons, List.length_append, Matched.tok.injEq, true_and]
    omega
  · intro pw rest m pos t len hm hc
    have hint : '.' ∉ m.int := by
      rw [(matchNumber_spec cfg.chars hm).1]
      intro hmem
      have := mem_takeWhile_true hmem
      rw [dot_not_digit] at this
      cases this
    cases hf : m.frac with
    | some d2 =>
        simp only [convNumber, hf, Matched.tok.injEq] at hc
        obtain ⟨rfl, _⟩ := hc
        simp [numText, hf]
    | none =>
        simp only [convNumber, hf] at hc
        split at hc
        · cases hc
        · simp only [Matched.tok.injEq] at hc
          obtain ⟨rfl, _⟩ := hc
          simp [numText, hf, hint]

/-- identifier-shaped: `c :: r` with `c` a `\w` character that is not a `\d`, `r` all `\w` characters -/
def IdentShaped (cc : CharCfg) (c : Char) (r : List Char) : Prop :=
  cc.isWord c = true ∧ cc.isDigit c = false ∧ ∀ x ∈ r, cc.isWord x = true

theorem ident_prelude (cfg : LexCfg) {c : Char} {r : List Char} (h : IdentShaped cfg.chars c r) (tail : List Char) :
    c ≠ '$' ∧ isIgnored c = false ∧ matchNumber cfg.chars false (c :: (r ++ tail)) = none ∧
    identStart cfg.chars c = true := by
  obtain ⟨hw, hd, _⟩ := h
  refine ⟨word_ne_of_nonword cfg.chars hw (by decide), word_not_ignored cfg.chars hw, ?_, ?_⟩
  · simp [matchNumber, hd]
  · simp [identStart, hw, hd]

theorem ruleAt_ident (cfg : LexCfg) {c : Char} {r : List Char} (h : IdentShaped cfg.chars c r) {tail : List Char}
    (ht : ∀ x ∈ tail.head?, cfg.chars.isWord x = false) (pos : Nat) :
    ruleAt cfg false (c :: (r ++ tail)) pos =
      if tail.head? = some '(' then .tok ⟨.func, .text (c :: r), pos⟩ (r.length + 2)
      else if startsDunder (c :: (r ++ tail)) then symbolAt cfg c (c :: (r ++ tail)) pos
      else .tok (classifyKeyword cfg (c :: r) pos) (r.length + 1) := by
  obtain ⟨h1, _, h3, h4⟩ := ident_prelude cfg h tail
  have hall : ∀ x ∈ c :: r, cfg.chars.isWord x = true := List.forall_mem_cons.2 ⟨h.1, h.2.2⟩
  have htk : (c :: (r ++ tail)).takeWhile cfg.chars.isWord = c :: r := takeWhile_append_head (l := c :: r) hall ht
  have hdr : (c :: (r ++ tail)).dropWhile cfg.chars.isWord = tail := dropWhile_append_head (l := c :: r) hall ht
  have hf : matchFunc cfg.chars false (c :: (r ++ tail)) = if tail.head? = some '(' then some (c :: r) else none := by
    simp only [matchFunc, h4, Bool.not_false, Bool.and_self, if_true, hdr, htk]
    cases tail <;> simp
  have hk : matchKeyword cfg.chars false (c :: (r ++ tail)) =
      if startsDunder (c :: (r ++ tail)) then none else some (c :: r) := by
    simp only [matchKeyword, h4, Bool.not_false, Bool.and_self, if_true, htk]
  have hq : (c = '\'' || c = '"') = false ∧ c ≠ '`' :=
    ⟨by simp [word_ne_of_nonword cfg.chars h.1 (d := '\'') (by decide), word_ne_of_nonword cfg.chars h.1 (d := '"') (by decide)],
     word_ne_of_nonword cfg.chars h.1 (by decide)⟩
  simp only [ruleAt, h1, if_false, h3, hf, hk]
  by_cases hp : tail.head? = some '('
  · simp only [hp, if_true, List.length_cons]
  · by_cases hdu : startsDunder (c :: (r ++ tail)) = true
    · simp only [hp, hdu, if_false, if_true, hq.1, hq.2, Bool.false_eq_true]
    · simp only [hp, hdu, if_false, Bool.false_eq_true, List.length_cons]

theorem ruleAt_word (cfg : LexCfg) {c : Char} {r : List Char} (h : IdentShaped cfg.chars c r)
    (hdu : startsDunder (c :: r) = false) :
    ruleAt cfg false (c :: r) 0 = .tok (classifyKeyword cfg (c :: r) 0) (r.length + 1) := by
  simpa [hdu] using ruleAt_ident cfg h (tail := []) (by simp) 0

/-- an identifier-shaped word alone in a text. Not starting with `__`: an operator word of the
table is that operator's token; otherwise `true` / `false` / `null` are the three constants and any other
word denotes its own text. Starting with `__` (and no operator symbol of the table being a prefix of it):
the lexical error `('_', 0)`. -/
theorem keywords (cfg : LexCfg) {c : Char} {r : List Char} (h : IdentShaped cfg.chars c r) :
    (startsDunder (c :: r) = false →
      (c :: r ∈ cfg.opWords → lexAll cfg (c :: r) = .ok [⟨.op (c :: r), .text (c :: r), 0⟩]) ∧
      (c :: r ∉ cfg.opWords →
        (c :: r = kwTrue → lexAll cfg (c :: r) = .ok [⟨.true_, .none, 0⟩]) ∧
        (c :: r = kwFalse → lexAll cfg (c :: r) = .ok [⟨.false_, .none, 0⟩]) ∧
        (c :: r = kwNull → lexAll cfg (c :: r) = .ok [⟨.null_, .none, 0⟩]) ∧
        (c :: r ≠ kwTrue → c :: r ≠ kwFalse → c :: r ≠ kwNull →
          lexAll cfg (c :: r) = .ok [⟨.keyword, .text (c :: r), 0⟩]))) ∧
    (startsDunder (c :: r) = true → firstStrRule cfg.rules (c :: r) = none →
      lexAll cfg (c :: r) = .error (.lexical ['_'] 0)) := by
  have hi : isIgnored c = false := (ident_prelude cfg h []).2.1
  constructor
  · intro hdu
    -- the text is the one token `classifyKeyword` makes of the word; each conclusion is one arm of its if-chain
    rw [lexAll_single cfg hi (ruleAt_word cfg h hdu), classifyKeyword]
    refine ⟨fun ho => ?_, fun ho => ⟨fun e => ?_, fun e => ?_, fun e => ?_, fun e1 e2 e3 => ?_⟩⟩
    · rw [if_pos (List.contains_iff_mem.2 ho)]
    all_goals rw [if_neg (fun hc => ho (List.contains_iff_mem.1 hc))]
    · rw [if_pos e]
    · rw [if_neg (e ▸ by decide), if_pos e]
    · rw [if_neg (e ▸ by decide), if_neg (e ▸ by decide), if_pos e]
    · rw [if_neg e1, if_neg e2, if_neg e3]
  · intro hdu hno
    apply lexAll_error cfg hi
    have hc : c = '_' := by
      cases r with
      | nil => simp [startsDunder] at hdu
      | cons b r' => simp only [startsDunder, Bool.and_eq_true, beq_iff_eq] at hdu; exact hdu.1
    subst hc
    have hlit : isLiteral '_' = false := by decide
    simpa [hdu, symbolAt, hno, hlit] using ruleAt_ident cfg h (tail := []) (by simp) 0

/-- an identifier-shaped word directly followed by `(` is a call token with the
word as its value - whatever the word: an operator word (`and(`), `true(`, or one starting with `__`. -/
theorem func_before_keyword (cfg : LexCfg) {c : Char} {r : List Char} (h : IdentShaped cfg.chars c r)
    (rest : List Char) :
    nextTok cfg (c :: (r ++ '(' :: rest)) 0 = .tok ⟨.func, .text (c :: r), 0⟩ (r.length + 2) := by
  have hi : isIgnored c = false := (ident_prelude cfg h []).2.1
  have hr := ruleAt_ident cfg h (tail := '(' :: rest) (by simpa using cfg.chars.nonword '(' (by decide)) 0
  simp only [List.head?_cons, if_true] at hr
  simp [nextTok, prevWord, scanTok, hi, hr]

example (cfg : LexCfg) : IdentShaped cfg.chars '_' ['_'] :=
  ⟨cfg.chars.underscore_word, cfg.chars.underscore_nondigit, by
    intro x hx; simp at hx; subst hx; exact cfg.chars.underscore_word⟩

/-! ## a concrete configuration (ASCII classes, the default operator table): the hypotheses above are
satisfiable, and the model computes what the real lexer does on a few texts (checked by the kernel) -/

example : NoQuotedRule asciiCfg := noQuotedRule_ofTable _ _ _ _ _ _ _

-- `'a\'b'` spells a'b ; `` `\`` `` is not a token
example : lexAll asciiCfg ['\'', 'a', '\\', '\'', 'b', '\''] = .ok [strTok ['a', '\'', 'b']] := by decide +kernel
example : lexAll asciiCfg ['`', '\\', '`'] = .error (.lexical ['`'] 0) := by rw [asciiCfg_eq]; decide +kernel
-- `1.50 mod x` ; `a->b` (the longer operator first) ; `and(`
example : lexAll asciiCfg ['1', '.', '5', '0', ' ', 'm', 'o', 'd', ' ', 'x'] =
    .ok [⟨.number, .flt ['1', '.', '5', '0'] 0x3FF8000000000000, 0⟩, ⟨.op ['m', 'o', 'd'], .text ['m', 'o', 'd'], 5⟩,
         ⟨.keyword, .text ['x'], 9⟩] := by decide +kernel
example : lexAll asciiCfg ['a', '-', '>', 'b'] =
    .ok [⟨.keyword, .text ['a'], 0⟩, ⟨.op ['-', '>'], .text ['-', '>'], 1⟩, ⟨.keyword, .text ['b'], 3⟩] := by
  rw [asciiCfg_eq]; decide +kernel
example : IdentShaped asciiCfg.chars 'a' ['n', 'd'] := by
  refine ⟨by decide, by decide, ?_⟩
  intro x hx; simp at hx; rcases hx with rfl | rfl <;> decide
example : nextTok asciiCfg ['a', 'n', 'd', '(', ')'] 0 = .tok ⟨.func, .text ['a', 'n', 'd'], 0⟩ 4 := by decide +kernel
-- `__x` ; `'\xzz'` (an ill-formed escape is reported with its text at its position)
example : lexAll asciiCfg ['_', '_', 'x'] = .error (.lexical ['_'] 0) := by rw [asciiCfg_eq]; decide +kernel
example : lexAll asciiCfg [' ', '\'', 'a', '\\', 'x', 'z', 'z', '\''] = .error (.lexical ['\\', 'x', 'z', 'z'] 3) := by
  decide +kernel
example : AllDigits asciiCfg.chars ['0', '4', '2'] := by
  intro d hd; simp at hd; rcases hd with rfl | rfl | rfl <;> decide

end Yaql.Props.C16
