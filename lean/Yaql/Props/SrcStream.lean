import Yaql.Gen.SrcStream
/-!
Equivalence of the definitions translated from the CURRENT yaql source (`Yaql.Gen.SrcStream`, regenerated on every
run by harness/py2lean.py) with the hand-written model - for all inputs.  The streaming operators of queries.py that are plain itertools calls (shared by C13 and C14).
-/
namespace Yaql.Props.SrcStream
open Yaql Yaql.Gen

theorem take_while_src_eq (collection : List Value) (predicate : Value → Bool) :
    SrcStream.take_while collection predicate = Seq.takeWhile predicate collection := by
  simp only [SrcStream.take_while, Seq.takeWhile]

theorem skip_while_src_eq (collection : List Value) (predicate : Value → Bool) :
    SrcStream.skip_while collection predicate = Seq.skipWhile predicate collection := by
  simp only [SrcStream.skip_while, Seq.skipWhile]

theorem skip_src_eq (collection : List Value) (count : Int) :
    SrcStream.skip collection count
      = if Py.isliceOk count then .ok (Seq.skip count.toNat collection) else .error .valueError := by
  simp [SrcStream.skip, Py.islice, Py.isliceStopOnly, Py.isliceOkOpt, Seq.skip]

theorem limit_src_eq (collection : List Value) (count : Int) :
    SrcStream.limit collection count
      = if Py.isliceOk count then .ok (Seq.take count.toNat collection) else .error .valueError := by
  cases h : Py.isliceOk count <;> simp [SrcStream.limit, Py.islice, Py.isliceOkOpt, Seq.take, h]

end Yaql.Props.SrcStream
