import Yaql.Model.ResolveCtx
import Yaql.Props.C17
import Yaql.Props.C09Ctx
import Yaql.Props.C06
/-!
C05 on live contexts: resolution follows the family AS IT IS AT THE MOMENT OF THE CALL.

`Yaql.ResolveCtx.resolveAt` is the code-shaped call on a live context: the walk of
`collect_functions(name, predicate)` over the current cells, then `choose_overload`.

* `collectAtP_refines` - that walk returns, for every shape (plain, multi, linked) and every cell
  table, the kind-filtered overloads of each C17 layer from the nearest outward, empty layers
  dropped, stopping after a layer that is exclusive for the name (C17's `collect_refines` with the
  predicate of `runner.call`).
* `resolveAt_eq_layers` / `resolveIn_eq` - a call on a live context is `Resolve.resolve` (hence, by
  `C05.resolve_eq_spec`, the written rules) applied to the family that the context's layer list
  denotes at that moment.
* `resolve_history_independent` - any two histories (register / delete / create-child sequences, from any
  two starting states, seen from any two contexts) that end in the same visible family - layer by
  layer the same SET of overloads and the same exclusive flag - give the same outcome for every call:
  nothing but the current family matters.
* `register_elsewhere_invisible` / `delete_elsewhere_invisible` - a registration or deletion in a context
  whose cells are not on the chain of `s` (a descendant, a sibling) does not change any call from `s`.
* `family_plain` - seen from a plain context the family is its own cell's overloads and flag, followed by
  the family seen from its parent (so a registration in an ancestor IS seen, see the examples).
-/
namespace Yaql.Props.C05Hist
open Yaql.Context Yaql.ResolveCtx
open Yaql.Props.C17 (layers layersO ownLayer ownLayerL cellLayer)

abbrev RLayer := Yaql.Resolve.Layer

/-- the family of the name `n` that a C17 layer list denotes -/
def famOf (defs : Defs) (n : CName) (ls : List C17.Layer) : List RLayer :=
  ls.map fun l => { fns := (l.funcs n).map defs, exclusive := l.excl n }

/-- rule-shaped reference of the predicate walk -/
def collectSpecP (pred : Fid → Bool) (n : CName) : List C17.Layer → List (List Fid)
  | [] => []
  | l :: ls =>
      let rest := if l.excl n then [] else collectSpecP pred n ls
      let f := (l.funcs n).filter pred
      if f.isEmpty then rest else f :: rest

mutual
theorem collectAtP_refines (pred : Fid → Bool) (cs : Cells) (n : CName) :
    ∀ s, collectAtP pred cs n s = collectSpecP pred n (layers cs s)
  | .plain c p => by
      simp [collectAtP, layers, collectSpecP, cellLayer, collectFromP_refines pred cs n p]
  | .multi ms p => by
      simp [collectAtP, layers, collectSpecP, C17.getFunctionsL_own, collectFromP_refines pred cs n p]
  | .linked t p => by
      simp [collectAtP, layers, collectSpecP, C17.getFunctions_own, collectFromP_refines pred cs n p]
theorem collectFromP_refines (pred : Fid → Bool) (cs : Cells) (n : CName) :
    ∀ o, collectFromP pred cs n o = collectSpecP pred n (layersO cs o)
  | none => by simp [collectFromP, layersO, collectSpecP]
  | some s => by simp [collectFromP, layersO, collectAtP_refines pred cs n s]
end

/-- with the trivial predicate the walk is C17's `collectAt` -/
theorem collectSpecP_true (n : CName) : ∀ ls, collectSpecP (fun _ => true) n ls = C17.collectSpec n ls
  | [] => rfl
  | l :: ls => by
      have hf : (l.funcs n).filter (fun _ => true) = l.funcs n := List.filter_eq_self.mpr (by simp)
      simp only [collectSpecP, C17.collectSpec, collectSpecP_true n ls, hf]

theorem collectAtP_true (cs : Cells) (n : CName) (s : Shape) :
    collectAtP (fun _ => true) cs n s = collectAt cs n s := by
  rw [collectAtP_refines, C17.collectAt_refines, collectSpecP_true]

/-- the kind-filtered walk over identities, mapped to definitions, is `Resolve.collect` of the family -/
theorem collectSpecP_map (defs : Defs) (method : Bool) (n : CName) :
    ∀ ls, (collectSpecP (fun i => Yaql.Resolve.kindOk method (defs i)) n ls).map (·.map defs) =
      Yaql.Resolve.collect method (famOf defs n ls)
  | [] => rfl
  | l :: ls => by
      -- both walks have the same shape; `map defs` commutes with the filter, the emptiness test and the branches
      rw [show famOf defs n (l :: ls) = ⟨(l.funcs n).map defs, l.excl n⟩ :: famOf defs n ls from rfl]
      simp only [collectSpecP, Yaql.Resolve.collect, ← collectSpecP_map defs method n ls, List.filter_map,
        List.isEmpty_map, apply_ite (List.map (List.map defs)), List.map_nil, List.map_cons]
      rfl

/-- a call on a live context resolves as the model of C05 does on the family the context's
    layers denote at that moment -/
theorem resolveAt_eq_layers (L : Yaql.Types.Lattice) (defs : Defs) (cs : Cells) (s : Shape) (name : CName)
    (c : Yaql.Resolve.Call) :
    resolveAt L defs cs s name c =
      Yaql.Resolve.resolve L (famOf defs (rstripUnderscore name) (layers cs s)) c := by
  simp only [resolveAt, Yaql.Resolve.resolve, collectAtP_refines, collectSpecP_map]

/-- the family visible from context `i` of a state -/
def familyIn (defs : Defs) (st : St) (i : Nat) (name : CName) : List RLayer :=
  match st.ctx i with
  | some s => famOf defs (rstripUnderscore name) (layers st.cells s)
  | none => []

theorem resolveIn_eq (L : Yaql.Types.Lattice) (defs : Defs) (st : St) (i : Nat) (name : CName)
    (c : Yaql.Resolve.Call) :
    resolveIn L defs st i name c = Yaql.Resolve.resolve L (familyIn defs st i name) c := by
  unfold resolveIn familyIn
  cases st.ctx i with
  | none => simp [Yaql.Resolve.resolve, Yaql.Resolve.collect]
  | some s => exact resolveAt_eq_layers L defs st.cells s name c

/-- and therefore as the written rules prescribe for that family (C05.resolve_eq_spec) -/
theorem resolveIn_eq_spec (L : Yaql.Types.Lattice) (defs : Defs) (st : St) (i : Nat) (name : CName)
    (c : Yaql.Resolve.Call) :
    resolveIn L defs st i name c = C05.resolveSpec L (familyIn defs st i name) c := by
  rw [resolveIn_eq, C05.resolve_eq_spec]

/-- RESOLUTION IS A FUNCTION OF THE CURRENT FAMILY ONLY: two histories, from any two starting states and
    seen from any two contexts, that end in the same visible family (per layer the same set of overloads,
    in any enumeration order, and the same exclusive flag) give the same outcome for every call -/
theorem resolve_history_independent (L : Yaql.Types.Lattice) (defs : Defs) (st st' : St) (ops ops' : List Op)
    (i i' : Nat) (name : CName) (c : Yaql.Resolve.Call)
    (h : C06.LayersPerm (familyIn defs (run st' ops') i' name) (familyIn defs (run st ops) i name)) :
    resolveIn L defs (run st ops) i name c = resolveIn L defs (run st' ops') i' name c := by
  rw [resolveIn_eq, resolveIn_eq]
  exact C06.perm_invariant L c _ _ h

/-! ## what a later registration can and cannot change -/

mutual
/-- the cells a context reads when its functions are collected.  A linked context and the members of a
    multi context contribute their OWN layer only (`ownCells`), so this is a smaller set than
    `Effects.cellsOf`, which follows the whole chain of a target or member; the `*_congr` lemmas below
    therefore ask for agreement on fewer cells than `C09.layers_proj` does and are not instances of it.
    (From `Props/C09Ctx` this file takes the facts about single cells: `register_local`,
    `foldl_modify_get_ne`, `get_append_empty`.) -/
def cellsOf : Shape → List Nat
  | .plain c p => c :: cellsOfO p
  | .multi ms p => cellsOfL ms ++ cellsOfO p
  | .linked t p => ownCells t ++ cellsOfO p
def cellsOfO : Option Shape → List Nat
  | none => []
  | some s => cellsOf s
def cellsOfL : List Shape → List Nat
  | [] => []
  | m :: ms => ownCells m ++ cellsOfL ms
/-- the cells behind the own (first) layer -/
def ownCells : Shape → List Nat
  | .plain c _ => [c]
  | .multi ms _ => cellsOfL ms
  | .linked t _ => ownCells t
end

mutual
theorem ownLayer_congr (cs cs' : Cells) :
    ∀ s, (∀ c ∈ ownCells s, cs.get c = cs'.get c) → ownLayer cs s = ownLayer cs' s
  | .plain c _ => fun h => congrArg cellLayer (h c (List.mem_singleton_self c))
  | .multi ms _ => ownLayerL_congr cs cs' ms
  | .linked t _ => ownLayer_congr cs cs' t
theorem ownLayerL_congr (cs cs' : Cells) :
    ∀ ms, (∀ c ∈ cellsOfL ms, cs.get c = cs'.get c) → ownLayerL cs ms = ownLayerL cs' ms
  | [] => fun _ => rfl
  | m :: ms => fun h => by
      simp only [ownLayerL]
      rw [ownLayer_congr cs cs' m fun c hc => h c (List.mem_append_left _ hc),
        ownLayerL_congr cs cs' ms fun c hc => h c (List.mem_append_right _ hc)]
end

theorem cellsOf_eq (s : Shape) : cellsOf s = ownCells s ++ cellsOfO s.parent := by
  cases s <;> rfl

theorem layers_congr (cs cs' : Cells) (s : Shape) (h : ∀ c ∈ cellsOf s, cs.get c = cs'.get c) :
    layers cs s = layers cs' s := by
  rw [cellsOf_eq] at h
  rw [C17.layers_eq, C17.layers_eq, ownLayer_congr cs cs' s fun c hc => h c (List.mem_append_left _ hc)]
  congr 1
  cases hp : s.parent with
  | none => rfl
  | some p => exact layers_congr cs cs' p fun c hc => h c (List.mem_append_right _ (by rw [hp]; exact hc))
termination_by s.size
decreasing_by exact C17.size_parent_lt hp

theorem layersO_congr (cs cs' : Cells) :
    ∀ o, (∀ c ∈ cellsOfO o, cs.get c = cs'.get c) → layersO cs o = layersO cs' o
  | none, _ => rfl
  | some s, h => layers_congr cs cs' s h

/-- registering into a context whose written cell is not on the chain of `s` (a descendant of `s`, a
    sibling branch) changes no call made from `s` -/
theorem register_elsewhere_invisible (L : Yaql.Types.Lattice) (defs : Defs) (cs : Cells) (s a : Shape)
    (fname : CName) (fid : Fid) (x : Bool) (name : CName) (c : Yaql.Resolve.Call)
    (h : ∀ w, writeCell a = some w → w ∉ cellsOf s) :
    resolveAt L defs (register cs a fname fid x) s name c = resolveAt L defs cs s name c := by
  rw [resolveAt_eq_layers, resolveAt_eq_layers, layers_congr (register cs a fname fid x) cs s]
  intro k hk
  exact C09.register_local cs a fname fid x k (fun hw => h k hw hk)

/-- the same for `delete_function` -/
theorem delete_elsewhere_invisible (L : Yaql.Types.Lattice) (defs : Defs) (cs : Cells) (s a : Shape)
    (fname : CName) (fid : Fid) (name : CName) (c : Yaql.Resolve.Call)
    (h : ∀ w ∈ delCells a, w ∉ cellsOf s) :
    resolveAt L defs (deleteFunction cs a fname fid) s name c = resolveAt L defs cs s name c := by
  rw [resolveAt_eq_layers, resolveAt_eq_layers, layers_congr (deleteFunction cs a fname fid) cs s]
  intro k hk
  exact C09.foldl_modify_get_ne _ k _ cs (fun hm => h k hm hk)

/-- seen from a plain context the family is its own overloads and flag followed by the family seen from
    its parent: what is registered in an ancestor, whenever it was registered, is part of it -/
theorem family_plain (defs : Defs) (cs : Cells) (c : Nat) (p : Option Shape) (n : CName) :
    famOf defs n (layers cs (.plain c p)) =
      { fns := (cellFuncs (cs.get c) n).map defs, exclusive := (cs.get c).excl.contains n } ::
        famOf defs n (layersO cs p) := by
  simp [famOf, layers, cellLayer]

/-! ## non-vacuity: the three-step histories that a remembered lookup gets wrong -/
namespace Ex
open Yaql.Types Yaql.Resolve Yaql.Props.C05.Ex

/-- `f(x: Base)` is overload 0, `f(x: D)` overload 1, `f(x: str)` overload 2 -/
def defs : Defs := fun i =>
  match i with
  | 0 => fn 0 [pos 'x' 0 (cls 1)]
  | 1 => fn 1 [pos 'x' 0 (cls 4)]
  | _ => fn 2 [pos 'x' 0 (cls 5)]

def callD : Call := { receiver := none, args := [tick 1], kwargs := [] }
def f : CName := ['f']

/-- root <- mid <- leaf -/
def st0 : St := run {} [.root, .child 0, .child 1]

inductive Out where
  | ok (id : Nat)
  | error (e : Err)
deriving DecidableEq

def outcome (st : St) (i : Nat) : Out :=
  match (resolveIn lat defs st i f callD).res with
  | .ok (id, _) => .ok id
  | .error e => .error e

/-- unknown, then registered in the root afterwards: the leaf sees it -/
example : outcome st0 2 = .error .unknown ∧
    outcome (run st0 [.register 0 f 0 false]) 2 = .ok 0 := by decide +kernel

/-- a nearer layer registered after the first call wins; a more specific overload added to an ancestor's
    layer wins inside it; deleting it gives the layer back to the other overload -/
example : outcome (run st0 [.register 0 f 0 false]) 2 = .ok 0 ∧
    outcome (run st0 [.register 0 f 0 false, .register 1 f 1 false]) 2 = .ok 1 ∧
    outcome (run st0 [.register 0 f 0 false, .register 0 f 1 false]) 2 = .ok 1 ∧
    outcome (run st0 [.register 0 f 0 false, .register 0 f 1 false, .delete 0 f 1]) 2 = .ok 0 := by decide +kernel

/-- an exclusive layer registered later hides the outer layers; a registration in a descendant does not
    reach the ancestor -/
example : outcome (run st0 [.register 0 f 0 false, .register 1 f 2 true]) 2 = .error .noMatching ∧
    outcome (run st0 [.register 2 f 0 false]) 1 = .error .unknown := by decide +kernel

/-- two different histories, one visible family, one outcome (`resolve_history_independent`) -/
example : C06.LayersPerm
    (familyIn defs (run st0 [.register 0 f 1 false, .register 0 f 0 false]) 2 f)
    (familyIn defs (run st0 [.register 0 f 0 false, .register 1 f 2 false, .register 0 f 1 false,
      .delete 1 f 2]) 2 f) := by
  refine .cons (.refl _) rfl (.cons (.refl _) rfl (.cons ?_ rfl .nil))
  exact List.Perm.swap _ _ _

end Ex

end Yaql.Props.C05Hist
