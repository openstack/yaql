import Yaql.Model.Regex
/-!
C19 (regex half) - laws of yaql's regex wrappers that hold for EVERY matcher.

`M` is an arbitrary function of type `Matcher P`; nothing is assumed about it (the
iteration of the model only accepts matches that lie at or after the search position and
inside the string, which every search of CPython's `re` satisfies).
-/
namespace Yaql.Props.C19Regex
open Yaql.Strings Yaql.Regex

variable {P : Type} (M : Matcher P) (p : P) (f : Flags) (s : Str)

/-! ### the sequence of matches: one invariant of the iteration (`Chain`), and the fuel -/

/-- `m` is acceptable to a search from `pos` in a string of length `len`, a search that has to
    advance (not to return the empty match at `pos`) when `adv` -/
abbrev Fits (len pos : Nat) (adv : Bool) (m : Match) : Prop :=
  pos ≤ m.whole.start ∧ m.whole.start ≤ m.whole.stop ∧ m.whole.stop ≤ len ∧ (adv = true → pos < m.whole.stop)

theorem step_sane {pos : Nat} {adv : Bool} {m : Match} (h : step M p f s pos adv = some m) :
    Fits s.length pos adv m := by
  unfold step at h
  split at h
  · split at h
    · next hs =>
      cases h
      simp only [Match.sane, Bool.and_eq_true, decide_eq_true_eq] at hs
      obtain ⟨⟨⟨h1, h2⟩, h3⟩, h4⟩ := hs
      refine ⟨h1, h2, h3, fun ha => Nat.lt_of_le_of_ne (Nat.le_trans h1 h2) fun e => ?_⟩
      rw [ha, e, beq_self_eq_true] at h4
      cases h4
    · cases h
  · cases h

/-- a run of matches: each one is acceptable to a search from the end of the one before it
    (from `pos` for the first), a search that had to advance iff that one was empty (iff `adv`
    for the first) -/
def Chain (len : Nat) : Nat → Bool → List Match → Prop
  | _, _, [] => True
  | pos, adv, m :: ms => Fits len pos adv m ∧ Chain len m.whole.stop (m.whole.stop == m.whole.start) ms

/-- what the iteration produces is such a run, whatever the fuel and the limit: the laws of
    order, disjointness and reassembly are facts about runs -/
theorem matchesFrom_chain (fuel : Nat) (lim : Option Nat) (pos : Nat) (adv : Bool) :
    Chain s.length pos adv (matchesFrom M p f s fuel lim pos adv) := by
  fun_induction matchesFrom M p f s fuel lim pos adv with
  | case3 _ _ _ _ _ _ hstep ih => exact ⟨step_sane M p f s hstep, ih⟩
  | _ => trivial

theorem Chain.mem {len pos : Nat} {adv : Bool} {ms : List Match} (h : Chain len pos adv ms)
    {m : Match} (hm : m ∈ ms) : Fits len pos adv m := by
  induction ms generalizing pos adv with
  | nil => cases hm
  | cons m0 ms ih =>
    obtain ⟨h0, ht⟩ := h
    rcases List.mem_cons.mp hm with rfl | hm
    · exact h0
    · have h1 := ih ht hm
      have hle := Nat.le_trans h1.1 h1.2.1
      exact ⟨Nat.le_trans h0.1 (Nat.le_trans h0.2.1 h1.1), h1.2.1, h1.2.2.1,
        fun ha => Nat.lt_of_lt_of_le (h0.2.2.2 ha) hle⟩

theorem Chain.pairwise {len pos : Nat} {adv : Bool} {ms : List Match} (h : Chain len pos adv ms) :
    ms.Pairwise (fun a b => a.whole.stop ≤ b.whole.start ∧ a.whole.start < b.whole.stop) := by
  induction ms generalizing pos adv with
  | nil => exact .nil
  | cons m0 ms ih =>
    obtain ⟨h0, ht⟩ := h
    refine .cons (fun b hb => ?_) (ih ht)
    have hb' := ht.mem hb
    refine ⟨hb'.1, ?_⟩
    by_cases he : m0.whole.stop = m0.whole.start
    · exact he ▸ hb'.2.2.2 (beq_iff_eq.mpr he)
    · exact Nat.lt_of_lt_of_le (Nat.lt_of_le_of_ne h0.2.1 (Ne.symm he)) (Nat.le_trans hb'.1 hb'.2.1)

/-- **searchAll_disjoint_ordered**: the matches that `searchAll` (and `split`, `replace`,
    `replaceBy`) iterate over lie inside the string, come in increasing order, do not overlap,
    and no two of them are the same empty match. -/
theorem searchAll_disjoint_ordered (lim : Option Nat) :
    (∀ m ∈ allMatches M p f s lim, m.whole.start ≤ m.whole.stop ∧ m.whole.stop ≤ s.length) ∧
    (allMatches M p f s lim).Pairwise
      (fun a b => a.whole.stop ≤ b.whole.start ∧ a.whole.start < b.whole.stop) :=
  have h := matchesFrom_chain M p f s (fuelFor s) lim 0 false
  ⟨fun _ hm => ⟨(h.mem hm).2.1, (h.mem hm).2.2.1⟩, h.pairwise⟩

/-- every search of the iteration starts later than the one before it, or at the same place but
    having to advance: `2 * pos + adv` grows, and stays below `2 * s.length + 2` -/
theorem step_key {pos : Nat} {adv : Bool} {m : Match} (h : step M p f s pos adv = some m) :
    2 * pos + adv.toNat < 2 * m.whole.stop + (m.whole.stop == m.whole.start).toNat ∧
      2 * m.whole.stop + (m.whole.stop == m.whole.start).toNat ≤ 2 * s.length + 1 := by
  obtain ⟨h1, h2, h3, h4⟩ := step_sane M p f s h
  refine ⟨?_, Nat.add_le_add (Nat.mul_le_mul_left 2 h3) (Bool.toNat_le _)⟩
  rcases Nat.lt_or_ge pos m.whole.stop with hlt | hge
  · calc 2 * pos + adv.toNat
      _ < 2 * pos + 2 := Nat.add_lt_add_left (Nat.lt_succ_of_le (Bool.toNat_le adv)) _
      _ ≤ 2 * m.whole.stop := Nat.mul_le_mul_left 2 hlt
      _ ≤ _ := Nat.le_add_right _ _
  ·
    cases adv with
    | true => exact absurd (h4 rfl) (Nat.not_lt.mpr hge)
    | false =>
      rw [beq_iff_eq.mpr (Nat.le_antisymm (Nat.le_trans hge h1) h2)]
      exact Nat.lt_succ_of_le (Nat.mul_le_mul_left 2 (Nat.le_trans h1 h2))

/-- the fuel of `allMatches` is never the reason the iteration stops: once it exceeds what is
    left of `2 * s.length + 1`, more fuel gives the same matches -/
theorem matchesFrom_fuel (extra fuel : Nat) (lim : Option Nat) (pos : Nat) (adv : Bool)
    (hf : 2 * s.length + 1 - (2 * pos + adv.toNat) < fuel) :
    matchesFrom M p f s (fuel + extra) lim pos adv = matchesFrom M p f s fuel lim pos adv := by
  induction fuel generalizing lim pos adv with
  | zero => exact absurd hf (Nat.not_lt_zero _)
  | succ n ih =>
    rw [Nat.add_right_comm]
    unfold matchesFrom
    cases more lim with
    | false => rfl
    | true =>
      cases hstep : step M p f s pos adv with
      | none => rfl
      | some m0 =>
        obtain ⟨hk, hb⟩ := step_key M p f s hstep
        exact congrArg (m0 :: ·) (ih _ _ _ (Nat.lt_of_lt_of_le
          (Nat.sub_lt_sub_left (Nat.lt_of_lt_of_le hk hb) hk) (Nat.le_of_lt_succ hf)))

theorem allMatches_fuel (lim : Option Nat) (extra : Nat) :
    matchesFrom M p f s (fuelFor s + extra) lim 0 false = allMatches M p f s lim :=
  matchesFrom_fuel M p f s extra _ lim 0 false
    (Nat.lt_of_le_of_lt (Nat.sub_le _ _) (Nat.lt_add_of_pos_right (k := 2) (by decide)))

/-! ### split -/

theorem drop_split {last a : Nat} (h : last ≤ a) : (s.take a).drop last ++ s.drop a = s.drop last := by
  obtain ⟨d, rfl⟩ := Nat.exists_eq_add_of_le h
  rw [List.drop_take, Nat.add_sub_cancel_left, ← List.drop_drop, List.take_append_drop]

theorem weave_pieces (last : Nat) (ms : List Match) {adv : Bool} (h : Chain s.length last adv ms) :
    weave (pieces s last ms) (ms.map fun m => m.whole.text s) = s.drop last := by
  induction ms generalizing last adv with
  | nil => exact List.append_nil _
  | cons m ms ih =>
    obtain ⟨⟨h1, h2, _⟩, h4⟩ := h
    rw [pieces, List.map_cons, weave, ih _ h4, Span.text, drop_split s h2, drop_split s h1]

/-- the items `split` returns, without the group texts it puts after every piece -/
def dropGroupItems : List (Option Str) → List Match → List (Option Str)
  | l, [] => l
  | [], _ :: _ => []
  | it :: rest, m :: ms => it :: dropGroupItems (rest.drop m.groups.length) ms

theorem splitItems_pieces (last : Nat) (ms : List Match) :
    dropGroupItems (splitItems s last ms) ms = (pieces s last ms).map some := by
  induction ms generalizing last with
  | nil => rfl
  | cons m ms ih =>
    rw [splitItems, List.cons_append, dropGroupItems, List.drop_left' (List.length_map _), ih]
    rfl

/-- **split_matches_reassemble**: `split` cuts the string at the matches found by the same
    iteration as `searchAll` (at most `maxSplit` of them when that is positive, none when it is
    negative); its result is the pieces between the matches, each followed by the texts of the
    match's groups; and interleaving the pieces with the matches gives the string back. -/
theorem split_matches_reassemble (maxSplit : Int) :
    let ms := allMatches M p f s (limOf maxSplit)
    reSplit M p f s maxSplit = splitItems s 0 ms ∧
    dropGroupItems (reSplit M p f s maxSplit) ms = (pieces s 0 ms).map some ∧
    weave (pieces s 0 ms) (ms.map fun m => m.whole.text s) = s := by
  intro ms
  exact ⟨rfl, splitItems_pieces s 0 ms, weave_pieces s 0 ms (matchesFrom_chain M p f s _ _ _ _)⟩

/-- without groups the result of `split` is just the pieces -/
theorem split_no_groups (maxSplit : Int) (h : ∀ m ∈ allMatches M p f s (limOf maxSplit), m.groups = []) :
    reSplit M p f s maxSplit = (pieces s 0 (allMatches M p f s (limOf maxSplit))).map some := by
  unfold reSplit
  generalize allMatches M p f s (limOf maxSplit) = ms at h
  generalize 0 = last
  induction ms generalizing last with
  | nil => rfl
  | cons m ms ih =>
    rw [splitItems, h m List.mem_cons_self, ih fun x hx => h x (List.mem_cons_of_mem _ hx)]
    rfl

/-! ### replace / replaceBy -/

theorem subGo_weave (last : Nat) (prs : List (Match × Str)) :
    subGo s last prs = weave (pieces s last (prs.map Prod.fst)) (prs.map Prod.snd) := by
  induction prs generalizing last with
  | nil => exact (List.append_nil _).symm
  | cons pr prs ih =>
    obtain ⟨m, r⟩ := pr
    rw [subGo, ih]
    rfl

theorem mapE_pairs {g : Match → Except Err (Match × Str)} {t : Match → Except Err Str}
    (hg : ∀ m, g m = match t m with | .ok x => .ok (m, x) | .error e => .error e)
    {ms : List Match} {prs : List (Match × Str)} (h : mapE g ms = .ok prs) :
    prs.map Prod.fst = ms ∧ mapE t ms = .ok (prs.map Prod.snd) := by
  fun_induction mapE g ms generalizing prs with
  | case1 => cases h; exact ⟨rfl, rfl⟩
  | case4 m ms v hv vs hvs ih =>
    cases h
    rw [hg m] at hv
    split at hv
    · next x ht =>
      cases hv
      unfold mapE
      rw [ht, (ih hvs).2]
      exact ⟨congrArg _ (ih hvs).1, rfl⟩
    · cases hv
  | _ => cases h

/-- the common shape of `replace` and `replaceBy`: compute a text `t m` for every match `m`
    (any failure is the failure of the whole), then splice the texts in between the pieces -/
theorem subGo_mapE {g : Match → Except Err (Match × Str)} {t : Match → Except Err Str}
    (hg : ∀ m, g m = match t m with | .ok x => .ok (m, x) | .error e => .error e)
    {ms : List Match} {out : Str}
    (h : (match mapE g ms with
      | .error e => .error e
      | .ok prs => .ok (subGo s 0 prs) : Except Err Str) = .ok out) :
    ∃ texts, mapE t ms = .ok texts ∧ out = weave (pieces s 0 ms) texts := by
  split at h
  · cases h
  · next prs hprs =>
    cases h
    obtain ⟨h1, h2⟩ := mapE_pairs hg hprs
    exact ⟨_, h2, by rw [subGo_weave, h1]⟩

/-- **replace_splice** (template form): when `replace` succeeds its result is the pieces
    between the matches - the same pieces `split` returns - with the expansion of the template
    for each match spliced in between, in order. -/
theorem replace_splice (repl : List TItem) (count : Int) (out : Str)
    (h : reReplace M p f s repl count = .ok out) :
    let ms := allMatches M p f s (limOf count)
    ∃ texts, mapE (fun m => expand s m repl) ms = .ok texts ∧ out = weave (pieces s 0 ms) texts :=
  subGo_mapE s (t := fun m => expand s m repl) (fun m => by cases expand s m repl <;> rfl) h

/-- the same for `replaceBy`: the text for a match is what the selector returns in a context in
    which that match has been published (`null` counting as the empty string) -/
theorem replaceBy_splice (repl : Sel) (count : Int) (ctx : Bindings) (out : Str)
    (h : reReplaceBy M p f s repl count ctx = .ok out) :
    let ms := allMatches M p f s (limOf count)
    ∃ texts, mapE (fun m => match evalSel (publishMatch s m ctx) repl with
        | .error e => .error e
        | .ok v => replText v) ms = .ok texts ∧ out = weave (pieces s 0 ms) texts :=
  subGo_mapE s (fun m => by
    cases evalSel (publishMatch s m ctx) repl with
    | error e => rfl
    | ok v => cases replText v <;> rfl) h

/-- replacing every match by its own text changes nothing -/
theorem replace_identity (lim : Option Nat) :
    subGo s 0 ((allMatches M p f s lim).map fun m => (m, m.whole.text s)) = s := by
  rw [subGo_weave]
  have := weave_pieces s 0 (allMatches M p f s lim) (matchesFrom_chain M p f s _ _ _ _)
  simpa [List.map_map, Function.comp_def] using this

theorem matchesFrom_lim_zero (fuel pos : Nat) (adv : Bool) :
    matchesFrom M p f s fuel (some 0) pos adv = [] := by
  cases fuel <;> rfl

theorem replace_negative_count (repl : List TItem) (count : Int) (hc : count < 0) :
    reReplace M p f s repl count = .ok s := by
  have hl : limOf count = some 0 := by
    rw [limOf, if_neg (Int.ne_of_lt hc), Int.toNat_of_nonpos (Int.le_of_lt hc)]
  unfold reReplace allMatches
  rw [hl, matchesFrom_lim_zero]
  rfl

/-! ### search / searchAll -/

theorem mapE_ok {α β : Type} (g : α → β) (l : List α) : mapE (fun a => .ok (g a)) l = .ok (l.map g) := by
  induction l with
  | nil => rfl
  | cons a l ih => simp [mapE, ih]

/-- without a selector `searchAll` returns the texts of the matches, `search` the text of the
    first one (or `null`) -/
theorem searchAll_texts (ctx : Bindings) :
    searchAll M p f s none ctx = .ok ((allMatches M p f s none).map fun m => .atom (.str (m.whole.text s))) := by
  simp only [searchAll]
  exact mapE_ok _ _

theorem head?_allMatches : (allMatches M p f s none).head? = step M p f s 0 false := by
  unfold allMatches fuelFor matchesFrom
  cases step M p f s 0 false <;> rfl

theorem search_first (sel : Option Sel) (ctx : Bindings) :
    search M p f s sel ctx =
      match (allMatches M p f s none).head? with
      | none => .ok (.atom .null)
      | some m => selectOn s sel ctx m := by
  rw [head?_allMatches]
  rfl

theorem matches_iff_search :
    reMatches M p f s = true ↔ (allMatches M p f s none) ≠ [] := by
  rw [reMatches, ← head?_allMatches, List.isSome_head?]

/-! ### published variables -/

theorem lookup_bind_self {b : Bindings} {k : Key} {r : Rec} : lookup (setVar b k r) k = some r := by
  simp [setVar, lookup]

theorem lookup_bind_ne {b : Bindings} {k k' : Key} {r : Rec} (h : k' ≠ k) :
    lookup (setVar b k' r) k = lookup b k := by
  simp [setVar, lookup, h]

theorem publishNames_frame {m : Match} {l : List (Str × Nat)} {ctx : Bindings} {k : Key}
    (h : ∀ nm gi, (nm, gi) ∈ l → k ≠ .name nm) :
    lookup (publishNames s m l ctx) k = lookup ctx k := by
  fun_induction publishNames s m l ctx with
  | case1 => rfl
  | case2 nm gi l ctx ih =>
    rw [ih fun nm' gi' hm => h nm' gi' (List.mem_cons_of_mem _ hm),
      lookup_bind_ne (h nm gi List.mem_cons_self).symm]

theorem publishNames_get {m : Match} {l : List (Str × Nat)} {ctx : Bindings} {nm : Str} {gi : Nat}
    (hmem : (nm, gi) ∈ l) (huniq : ∀ gi', (nm, gi') ∈ l → gi' = gi) :
    lookup (publishNames s m l ctx) (.name nm) = some (recOf s (groupSpan m gi)) := by
  fun_induction publishNames s m l ctx with
  | case1 => cases hmem
  | case2 nm' gi' l ctx ih =>
    by_cases hl : (nm, gi) ∈ l
    · exact ih hl fun gi' h' => huniq gi' (List.mem_cons_of_mem _ h')
    ·
      rcases List.mem_cons.mp hmem with he | hmem
      · cases he
        rw [publishNames_frame, lookup_bind_self]
        intro nm' gi' h' he
        cases he
        exact hl (huniq gi' (List.mem_cons_of_mem _ h') ▸ h')
      · exact absurd hmem hl

theorem publishGroups_frame {gs : List (Option Span)} {i : Nat} {ctx : Bindings} {k : Key}
    (h : ∀ j, k = .num j → ¬ (i < j ∧ j ≤ i + gs.length)) :
    lookup (publishGroups s gs i ctx) k = lookup ctx k := by
  fun_induction publishGroups s gs i ctx with
  | case1 => rfl
  | case2 g gs i ctx ih =>
    rw [ih fun j hj hi => h j hj ⟨Nat.lt_of_succ_lt hi.1, Nat.add_right_comm i 1 _ ▸ hi.2⟩,
      lookup_bind_ne fun he => h _ he.symm
        ⟨Nat.lt_succ_self i, Nat.add_le_add_left (Nat.le_add_left 1 _) i⟩]

theorem publishGroups_get {gs : List (Option Span)} {i : Nat} {ctx : Bindings} {j : Nat} (h : j < gs.length) :
    lookup (publishGroups s gs i ctx) (.num (i + 1 + j)) = some (recOf s gs[j]) := by
  fun_induction publishGroups s gs i ctx generalizing j with
  | case1 => cases h
  | case2 g gs i ctx ih =>
    cases j with
    | zero =>
      rw [publishGroups_frame s fun j hj hi => Nat.lt_irrefl _ (Key.num.inj hj ▸ hi.1)]
      exact lookup_bind_self
    | succ j =>
      rw [show i + 1 + (j + 1) = i + 1 + 1 + j from (Nat.succ_add _ _).symm]
      exact ih (Nat.lt_of_succ_lt_succ h)

/-- **publish_binds**.  In the context the selector runs in, `$1` is the record of the whole
    match, `$k+1` the record of group `k` (1 <= k <= number of groups), `$name` the record of
    the named group (the names of a pattern being distinct); each record holds
    value/start/end (null, -1, -1 for a group that did not take part); every other variable
    keeps the value it had in the enclosing context. -/
theorem publish_binds (m : Match) (ctx : Bindings) :
    let b := publishMatch s m ctx
    lookup b (.num 1) = some (recOf s (some m.whole)) ∧
    (∀ k (h : k < m.groups.length), lookup b (.num (k + 2)) = some (recOf s m.groups[k])) ∧
    (∀ nm gi, (nm, gi) ∈ m.names → (∀ gi', (nm, gi') ∈ m.names → gi' = gi) →
      lookup b (.name nm) = some (recOf s (groupSpan m gi))) ∧
    lookup b (.num 0) = lookup ctx (.num 0) ∧
    (∀ k, m.groups.length + 1 < k → lookup b (.num k) = lookup ctx (.num k)) ∧
    (∀ nm, (∀ gi, (nm, gi) ∉ m.names) → lookup b (.name nm) = lookup ctx (.name nm)) := by
  -- the three loops of `_publish_match` write `$1`, then `$2 ..`, then the names
  simp only [publishMatch]
  have hnum {c : Bindings} {k : Nat} :
      lookup (publishNames s m m.names c) (.num k) = lookup c (.num k) :=
    publishNames_frame s fun _ _ _ he => Key.noConfusion he
  have hout {c : Bindings} {k : Nat} (hk : ¬ (1 < k ∧ k ≤ 1 + m.groups.length)) :
      lookup (publishGroups s m.groups 1 c) (.num k) = lookup c (.num k) :=
    publishGroups_frame s fun j hj => Key.num.inj hj ▸ hk
  refine ⟨?_, fun k h => ?_, fun nm gi => publishNames_get s, ?_, fun k hk => ?_, fun nm h => ?_⟩
  · rw [hnum, hout fun h => Nat.lt_irrefl 1 h.1, lookup_bind_self]
  · rw [hnum]
    exact Nat.add_comm 2 k ▸ publishGroups_get s h
  · rw [hnum, hout fun h => Nat.not_lt_zero 1 h.1, lookup_bind_ne (by decide)]
  · rw [hnum, hout fun h => Nat.lt_irrefl _ (Nat.lt_of_lt_of_le hk (Nat.add_comm 1 _ ▸ h.2)), lookup_bind_ne]
    intro he
    cases he
    exact Nat.not_succ_le_zero _ (Nat.le_of_succ_le_succ hk)
  · rw [publishNames_frame s (k := .name nm) fun nm' gi' hm he => h gi' (Key.name.inj he ▸ hm),
      publishGroups_frame s fun _ hj => Key.noConfusion hj, lookup_bind_ne fun he => Key.noConfusion he]

/-- the value of a record is the text of its span: `$k.value = s[$k.start : $k.end]` -/
theorem record_value (sp : Span) :
    (recOf s (some sp)).value = some ((s.take (recOf s (some sp)).stop.toNat).drop (recOf s (some sp)).start.toNat) := by
  simp [recOf, Span.text]

/-! ### the statements are not vacuous: a concrete matcher, a concrete run -/

/-- a toy matcher: finds the letter `a` -/
def findA : Matcher Unit := fun _ _ s pos _ =>
  match findUp (fun i => s[i]? == some 'a') pos (s.length - pos) with
  | some i => some { whole := ⟨i, i + 1⟩, groups := [some ⟨i, i + 1⟩], names := [(['n'], 1)] }
  | none => none

example : (allMatches findA () {} "xaba".toList none).map (fun m => (m.whole.start, m.whole.stop)) = [(1, 2), (3, 4)] := by
  decide +kernel
example : reSplit findA () {} "xaba".toList 0 =
    [some ['x'], some ['a'], some ['b'], some ['a'], some []] := by decide +kernel
example : (reReplace findA () {} "xaba".toList [.lit ['<'], .name ['n'], .lit ['>']] 1).toOption = some "x<a>ba".toList := by
  decide +kernel
example : (search findA () {} "xaba".toList
      (some (.list [.field (.name ['n']) .start, .field (.num 2) .value, .var (.num 3)]))).toOption =
    some (.list [.int 1, .str ['a'], .null]) := by decide +kernel

end Yaql.Props.C19Regex
