import Yaql.Model.Interface
import Yaql.Props.C05Hist
import Yaql.Lemmas.C05Lists
/-!
C05 through the host entry point `YaqlInterface` (`yi.name(..)`, `yi.on(obj).name(..)`, the injected
`yaql_interface` hidden parameter).

* `call_eq_spec` - a call through an interface resolves exactly as the written rules prescribe for the
  family its context denotes AT THAT MOMENT and for the interface's OWN receiver (function call without
  one, method call on it otherwise);
* `on_fresh`, `yis_stable`, `history_call_eq_spec` - `on` makes a new interface and never rebinds an
  existing one, so after ANY history of forest changes, interface creations, `on`s and calls through the
  same family, handle `k` still calls with the context and receiver it was made with;
* `irun_erase_calls`, `call_insertion_invisible` - calls leave no trace: a call inserted anywhere in a
  history changes no later (or earlier) outcome;
* `inject_eq_caller` - the interface injected into a function called from context `i` answers every call
  as context `i` itself does (its context is a fresh child of `i`);
* `Ex.stub_cache_wrong` - the contrasting design (per-name stubs shared by the family, bound to the first
  user) resolves `yi.on(x).f()` after `yi.f()` as a FUNCTION call and `yi.f()` after `yi.on(x).f()` as a
  method call on `x`.
-/
namespace Yaql.Props.C05Iface
open Yaql.Types Yaql.Resolve Yaql.ResolveCtx Yaql.Interface
open Yaql.Context (Cells Cell Shape createChild ChildResult rstripUnderscore)
open Yaql.Props.C05Hist (familyIn resolveIn_eq_spec resolveIn_eq resolveAt_eq_layers famOf layers_congr)
open Yaql.Props.C09 (get_append_empty)

/-- **every call through an interface follows the rules for its own kind and receiver** -/
theorem call_eq_spec (L : Lattice) (defs : Defs) (st : St) (y : Yi) (name : CName) (args : List Arg)
    (kw : KwArgs) :
    y.call L defs st name args kw =
      C05.resolveSpec L (famOf defs (rstripUnderscore name) (Yaql.Props.C17.layers st.cells y.ctx))
        { receiver := y.sender, args := args, kwargs := kw } := by
  rw [Yi.call, resolveAt_eq_layers, C05.resolve_eq_spec]

/-- `on` is a new value over the same context; the interface it was derived from is what it was -/
theorem on_fresh (y : Yi) (a b : Yaql.Types.Val) :
    (y.on a).ctx = y.ctx ∧ (y.on a).sender = some a ∧ (y.on a).on b = y.on b := ⟨rfl, rfl, rfl⟩

/-- `yi.on(r).name(..)` is the method call on `r` from the interface's context, whatever receiver
    (or none) `yi` itself has -/
theorem on_call (L : Lattice) (defs : Defs) (st : St) (y : Yi) (r : Yaql.Types.Val) (name : CName) (args : List Arg)
    (kw : KwArgs) :
    (y.on r).call L defs st name args kw =
      C05.resolveSpec L (famOf defs (rstripUnderscore name) (Yaql.Props.C17.layers st.cells y.ctx))
        { receiver := some r, args := args, kwargs := kw } :=
  call_eq_spec L defs st (y.on r) name args kw

/-! ## histories through one interface family -/

theorem yis_prefix (L : Lattice) (defs : Defs) (s : ISt) (op : IOp) :
    ∃ t, (istep L defs s op).1.yis = s.yis ++ t := by
  have same : ∃ t, s.yis = s.yis ++ t := ⟨[], (List.append_nil _).symm⟩
  cases op with
  | ctx o => exact same
  | mk i r =>
      simp only [istep]
      split
      · exact ⟨_, rfl⟩
      · exact same
  | inject i r =>
      simp only [istep]
      split
      · exact same
      · split
        · exact ⟨_, rfl⟩
        · exact ⟨_, rfl⟩
        · exact same
  | on j r =>
      simp only [istep]
      split
      · exact ⟨_, rfl⟩
      · exact same
  | call j n a kw =>
      simp only [istep]
      split <;> exact same

/-- interfaces are never rebound -/
theorem yis_stable (L : Lattice) (defs : Defs) (s : ISt) (op : IOp) (k : Nat) (y : Yi)
    (h : s.yis[k]? = some y) : (istep L defs s op).1.yis[k]? = some y := by
  obtain ⟨t, ht⟩ := yis_prefix L defs s op
  have hk : k < s.yis.length := (List.getElem?_eq_some_iff.1 h).1
  rw [ht, List.getElem?_append_left hk]; exact h

theorem irun_yis_stable (L : Lattice) (defs : Defs) : ∀ (ops : List IOp) (s : ISt) (k : Nat) (y : Yi),
    s.yis[k]? = some y → (irun L defs s ops).yis[k]? = some y
  | [], _, _, _, h => h
  | op :: r, s, k, y, h => by
      simp only [irun, List.foldl_cons]
      exact irun_yis_stable L defs r _ k y (yis_stable L defs s op k y h)

/-- **after any history** - other calls through the same family with other receivers or none, `on`s,
    registrations, new contexts - a call through handle `k` is the call the rules prescribe for the
    context and receiver the handle was MADE with and for the family of that moment -/
theorem history_call_eq_spec (L : Lattice) (defs : Defs) (s : ISt) (ops : List IOp) (k : Nat) (y : Yi)
    (h : s.yis[k]? = some y) (name : CName) (args : List Arg) (kw : KwArgs) :
    (istep L defs (irun L defs s ops) (.call k name args kw)).2 =
      some (C05.resolveSpec L
              (famOf defs (rstripUnderscore name) (Yaql.Props.C17.layers (irun L defs s ops).st.cells y.ctx))
              { receiver := y.sender, args := args, kwargs := kw }) := by
  simp only [istep, irun_yis_stable L defs ops s k y h, call_eq_spec]

def isCall : IOp → Bool
  | .call .. => true
  | _ => false

theorem istep_call_state (L : Lattice) (defs : Defs) (s : ISt) (k : Nat) (n : CName) (a : List Arg) (kw : KwArgs) :
    (istep L defs s (.call k n a kw)).1 = s := by
  simp only [istep]; cases s.yis[k]? <;> rfl

/-- calls leave no trace in the state -/
theorem irun_erase_calls (L : Lattice) (defs : Defs) : ∀ (ops : List IOp) (s : ISt),
    irun L defs s ops = irun L defs s (ops.filter fun o => !isCall o) :=
  Yaql.Lemmas.C05Lists.foldl_filter_of_fixed _ _ fun s op h =>
    match op, h with
    | .call k n a kw, _ => istep_call_state L defs s k n a kw

theorem itranscript_append (L : Lattice) (defs : Defs) : ∀ (a b : List IOp) (s : ISt),
    itranscript L defs s (a ++ b) = itranscript L defs s a ++ itranscript L defs (irun L defs s a) b
  | [], _, _ => by simp [itranscript, irun]
  | op :: r, b, s => by
      simp only [List.cons_append, itranscript, irun, List.foldl_cons]
      cases (istep L defs s op).2 with
      | none => exact itranscript_append L defs r b _
      | some o => simp only [List.cons_append]; rw [itranscript_append L defs r b _]; rfl

/-- **a call inserted anywhere in a history is invisible to every other call** -/
theorem call_insertion_invisible (L : Lattice) (defs : Defs) (s : ISt) (a b : List IOp) (k : Nat) (n : CName)
    (args : List Arg) (kw : KwArgs) :
    itranscript L defs s (a ++ .call k n args kw :: b) =
      itranscript L defs s a ++
        ((istep L defs (irun L defs s a) (.call k n args kw)).2.toList ++
          itranscript L defs (irun L defs s a) b) := by
  rw [itranscript_append]
  congr 1
  simp only [itranscript, istep_call_state]
  cases (istep L defs (irun L defs s a) (.call k n args kw)).2 <;> rfl

/-! ## the injected interface -/

theorem resolve_skip_empty (L : Lattice) (fam : List Layer) (c : Call) :
    resolve L ({ fns := [], exclusive := false } :: fam) c = resolve L fam c := by
  simp [resolve, collect]

theorem cells_get_length (cs : Cells) : cs.get cs.length = ({} : Cell) := by
  unfold Cells.get; simp [List.getD_eq_getElem?_getD]

/-- **the injected `yaql_interface`**: a function called from the context `s` is handed an interface over a
    fresh child of `s`; every call through it resolves as the same call made from `s` itself -/
theorem inject_eq_caller (L : Lattice) (defs : Defs) (cells : Cells) (s s' : Shape) (b : Bool)
    (hc : createChild cells.length s = .ok s' b) (name : CName) (c : Call) :
    resolveAt L defs (cells ++ [({} : Cell)]) s' name c = resolveAt L defs cells s name c := by
  have hs' := C09.createChild_plain _ _ _ _ hc
  subst hs'
  rw [resolveAt_eq_layers, resolveAt_eq_layers, Yaql.Props.C05Hist.family_plain, get_append_empty,
    cells_get_length]
  have hl : Yaql.Props.C17.layers (cells ++ [({} : Cell)]) s = Yaql.Props.C17.layers cells s :=
    layers_congr _ _ s (fun c _ => get_append_empty cells c)
  simp only [Yaql.Props.C17.layersO, hl]
  exact resolve_skip_empty L _ c

/-- in the history model: the interface made by `inject i r` calls as context `i` does with receiver `r` -/
theorem inject_step (L : Lattice) (defs : Defs) (s : ISt) (i : Nat) (r : Option Yaql.Types.Val) (sh c : Shape)
    (hi : s.st.ctx i = some sh) (hc : createChild s.st.cells.length sh = .ok c true) (name : CName)
    (args : List Arg) (kw : KwArgs) :
    (istep L defs (istep L defs s (.inject i r)).1 (.call s.yis.length name args kw)).2 =
      some (resolveIn L defs s.st i name { receiver := r, args := args, kwargs := kw }) := by
  simp only [istep, hi, hc, List.getElem?_append_right (Nat.le_refl _), Nat.sub_self, List.getElem?_cons_zero,
    Yi.call, resolveIn]
  rw [inject_eq_caller L defs s.st.cells sh c true hc]

/-! ## non-vacuity and the contrasting design -/

namespace Ex
open Yaql.Props.C05.Ex

/-- overload 0: the FUNCTION `f(x: Base)`; overload 1: the METHOD `f(self: Base)`; overload 2: the method
    `f(self: str)` -/
def defs : Defs := fun i =>
  match i with
  | 0 => fn 0 [pos 'x' 0 (cls 1)]
  | 1 => { fn 1 [pos 'x' 0 (cls 1)] with isFunction := false, isMethod := true }
  | _ => { fn 2 [pos 'x' 0 (cls 5)] with isFunction := false, isMethod := true }

def fN : CName := ['f']
def st : St := run {} [.root, .register 0 fN 0 false, .register 0 fN 1 false, .register 0 fN 2 false]
def yi : Yi := ⟨.plain 0 none, none⟩
def strVal : Yaql.Types.Val := .obj 5 [] 9

/-- the overload chosen by each call (`none` = a resolution error) -/
def ids (os : List Outcome) : List (Option Nat) :=
  os.map fun o => match o.res with | .ok r => some r.1 | .error _ => none

/-- `yi.f(d)` is the function, `yi.on(d).f()` the method on `d`, `yi.on('s').f()` the string method - in
    any order, through one family (history of `on`s and calls; handles 0 = yi, 1 = yi.on(d), 2 = yi.on('s')) -/
example : ids (itranscript lat defs { st := st }
      [.mk 0 none, .call 0 fN [.value dVal] [], .on 0 dVal, .call 1 fN [] [], .call 0 fN [.value dVal] [],
       .on 1 strVal, .call 2 fN [] [], .call 1 fN [] [], .call 0 fN [.value dVal] []]) =
    [some 0, some 1, some 0, some 2, some 1, some 0] := by decide +kernel

/-- the injected interface (handle 0: context 0, receiver `d`): `yaql_interface.f()` is the method on `d`,
    `yaql_interface.on('s').f()` the string method; through a plain interface on the same context
    (handle 2, made by `.mk`) `f(d)` is still the FUNCTION call -/
example : ids (itranscript lat defs { st := st }
      [.inject 0 (some dVal), .call 0 fN [] [], .on 0 strVal, .call 1 fN [] [], .mk 0 none,
       .call 2 fN [.value dVal] []]) = [some 1, some 2, some 0] := by decide +kernel

/-- **the stub cache is wrong**: the first use of a name through the family decides the kind and the
    receiver of every later use -/
theorem stub_cache_wrong :
    ids (Stub.transcript lat defs { st := st } [(yi, fN, [.value dVal]), (yi.on dVal, fN, [])]) ≠
      [some 0, some 1] ∧
    ids (Stub.transcript lat defs { st := st } [(yi.on dVal, fN, []), (yi.on strVal, fN, [])]) =
      [some 1, some 1] ∧
    ids ([(yi, fN, [.value dVal]), (yi.on dVal, fN, []), (yi.on strVal, fN, [])].map
          fun (y, n, a) => y.call lat defs st n a []) = [some 0, some 1, some 2] := by decide +kernel

end Ex

end Yaql.Props.C05Iface
