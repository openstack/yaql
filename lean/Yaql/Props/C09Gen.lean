import Yaql.Gen.MutFacts
/-!
C09 over the table regenerated from the live repo on every run: `Gen.MutFacts` has one row per
(registered function, payload parameter) - 284 functions today - with the in-place-update facts the AST
scan of `harness/gens/mutfacts.py` found for the object bound to the parameter and for every object
reachable inside it (aliases through assignment, iteration, indexing, yaql helpers and yaql class
methods followed; `list(x) dict(x) set(x) tuple(x) sorted(x) x[:] x.copy()` and comprehensions are new
containers), plus one `<globals>` row per function for writes to module-level state.
-/
namespace Yaql.Props.C09Gen
open Yaql.Gen.MutFacts

/-- rows that are flagged by the scan and are *not* side effects on host data, context or statement -
    each with its justification; each is also exercised dynamically (harness/props/c09.py) -/
def allowed : List (String × String) := [
  -- thenBy / thenByDescending append the secondary key to the OrderingIterable they receive and return it
  -- (`collection.append_field(..)`, `collection.context = context`).  The only way to obtain an
  -- OrderingIterable is orderBy / orderByDescending, which builds a new one per call: the object was
  -- created in the same evaluation, it is never host data and never part of the parsed statement.
  -- Dynamic check: `pool` cases `$.orderBy(..).thenBy(..)` re-evaluated in random order, and the `alias`
  -- sweep of thenBy over every collection position.
  ("thenBy|queries.then_by", "collection"),
  ("thenByDescending|queries.then_by_descending", "collection"),
  -- Yaqlized host objects (outside the property's quantifier of lists, dicts and sets): with the host's
  -- own opt-in `autoYaqlizeResult` setting, the *result* of an attribute / index / method access is
  -- marked yaqlized (`setattr(result, '__yaqlization__', ..)`) - the documented purpose of that setting.
  -- `attr` / `expr` / `engine` / `context` are flagged only because the result is computed from them.  Dynamic check:
  -- `yaqlized` cases - without the opt-in no attribute of any reachable host object changes.
  ("#indexer|yaqlized.indexation", "obj"),
  ("#operator_.|yaqlized.attribution", "obj"),
  ("#operator_.|yaqlized.attribution", "attr"),
  ("#operator_.|yaqlized.op_dot", "receiver"),
  ("#operator_.|yaqlized.op_dot", "engine"),
  ("#operator_.|yaqlized.op_dot", "context"),
  -- op_dot: `kwargs[arg_mappings.get(key, key)] = ..` updates the NEW dict `runner.translate_args` built
  -- for this call (`kw_args = {}`), not the expression; flagged because tuple unpacking of the helper's
  -- result loses the "new container" fact.  Dynamic check: statement pools with yaqlized method calls.
  ("#operator_.|yaqlized.op_dot", "expr")
]

def rowOk (r : Row) : Bool :=
  (!r.mutates && !r.storesAttr && !r.writesGlobal && !r.unreadable
    -- a method the scan cannot classify, called on a value parameter (lazy parameters are expression
    -- objects: calling them is evaluation)
    && (r.kind != .value || !r.unknownCall)
    -- context writes go through the hidden `Context` parameter only: the call's own child context
    -- (`specs.py:308 new_context = context.create_child_context()`)
    && (!r.writesCtx || r.kind == .context))
  || allowed.contains (r.fn, r.param)

/-- **C09Gen.no_param_mutation** (every row of the live registry): no registered function updates in
    place a parameter, anything aliased to it or anything reachable inside it, stores an attribute on
    an object it did not create, writes module-level state, or writes to a context other than through
    its hidden `Context` parameter - except the justified rows of `allowed`. -/
theorem no_param_mutation : ∀ r ∈ rows, rowOk r = true :=
  List.all_eq_true.mp (by decide +kernel)

/-- every allowed row is still needed (a stale entry would hide nothing, but the list stays honest) -/
theorem allowed_all_flagged :
    ∀ a ∈ allowed, (rows.any fun r => r.fn == a.1 && r.param == a.2 && (r.mutates || r.storesAttr)) = true := by
  -- the flags first: comparing strings is what is slow to check
  have h : ∀ a ∈ allowed,
      (rows.any fun r => (r.mutates || r.storesAttr) && (r.fn == a.1 && r.param == a.2)) = true := by
    decide +kernel
  intro a ha
  rw [← h a ha]
  congr; funext r; exact Bool.and_comm _ _

/-- non-vacuity: the table is the real registry - hundreds of rows whose parameter admits a raw host
    container, the context writers, the copy-before-change functions with clean rows, thenBy flagged -/
theorem table_nonvacuous :
    250 ≤ (rows.filter fun r => r.kind == .globals).length ∧
    150 ≤ (rows.filter fun r => r.kind == .value && r.admitsContainer).length ∧
    (rows.any fun r => r.fn == "let|system.let" && r.kind == .context && r.writesCtx) = true ∧
    (rows.any fun r => r.fn == "unpack|system.unpack" && r.kind == .context && r.writesCtx) = true ∧
    (rows.any fun r => r.fn == "def|system.def_" && r.kind == .context && r.writesCtx) = true ∧
    (rows.any fun r => r.fn == "insert|collections.list_insert" && r.param == "collection"
        && r.admitsContainer && !r.mutates) = true ∧
    (rows.any fun r => r.fn == "thenBy|queries.then_by" && r.param == "collection" && r.mutates) = true := by
  -- as in `allowed_all_flagged`: the same tests, the strings last
  have h :
      250 ≤ (rows.filter fun r => r.kind == .globals).length ∧
      150 ≤ (rows.filter fun r => r.kind == .value && r.admitsContainer).length ∧
      (rows.any fun r => r.kind == .context && r.writesCtx && r.fn == "let|system.let") = true ∧
      (rows.any fun r => r.kind == .context && r.writesCtx && r.fn == "unpack|system.unpack") = true ∧
      (rows.any fun r => r.kind == .context && r.writesCtx && r.fn == "def|system.def_") = true ∧
      (rows.any fun r => r.admitsContainer && !r.mutates && r.param == "collection"
          && r.fn == "insert|collections.list_insert") = true ∧
      (rows.any fun r => r.mutates && r.param == "collection" && r.fn == "thenBy|queries.then_by") = true := by
    decide +kernel
  simpa only [Bool.and_comm, Bool.and_left_comm, Bool.and_assoc] using h

end Yaql.Props.C09Gen
