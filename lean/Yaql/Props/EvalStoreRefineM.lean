import Yaql.Props.EvalStoreRefine
/-! Refinement, part 2: the methods (`callMethodS` against `callMethod`): one lemma per shape of payload (a loop over
    the receiver's elements, a fold, a slice, a sort, ...), the overloads in `sim_callMethod`. -/
namespace Yaql.Props.EvalStore
open Yaql Yaql.Value Yaql.Eval Yaql.EvalStore

theorem ObjRel.val {s : St} (v : Value) : ObjRel s (.data (.val v)) (.val v) := ObjRel.data (by intro C h; cases h)
theorem ObjRel.lazy {s : St} (a : VL) (b : Option Err) : ObjRel s (.data (.lazy a b)) (.lazy a b) :=
  ObjRel.data (by intro C h; cases h)
theorem ObjRel.ordered {s : St} (a : VL) (b : Option Err) : ObjRel s (.data (.ordered a b)) (.ordered a b) :=
  ObjRel.data (by intro C h; cases h)

theorem Sim.callPure {Q : St → α → β → Prop} {s0 : St} {c : Nat} {C : Ctx} (hC : CtxRel s0 c C) {x : R α} {y : R β}
    (hxy : ∀ s, ResRel Q s x y) : Sim Q s0 (callPure c x) y := by
  unfold EvalStore.callPure
  have h0 := hxy s0
  induction x, y, h0 using ResRel.byCases with
  | ok a b _ => exact .child hC fun _ _ _ _ => .ret fun s _ => hxy s
  | error e =>
    dsimp only
    split
    · exact .err _
    · exact .child hC fun _ _ _ _ => .err _

theorem plus_fn {s0 : St} {F : Nat} {C : Ctx} (hF : CtxRel s0 F C) (a : Value) : SimFn s0 (plusS F a) (binopV .add a) :=
  fun _ => .child hF fun _ _ _ hDl => .callPure hDl fun _ => .refl _

theorem sim_lazy_or {s0 : St} {o : ObjS} {o' : Obj} (ho : ObjRel s0 o o') (b : Err) :
    Sim ObjRel s0 (if isLazyS o then (fail .outOfDomain : M ObjS) else fail b)
      (if isLazy o' then .error .outOfDomain else .error b) := by
  rw [isLazyS_rel ho]
  exact .ite (fun _ => .err _) fun _ => .err _

theorem child_ite {γ : Type} (c : Prop) [Decidable c] (p : Nat) (A B : Nat → M γ) :
    (childCtx p >>= fun F => if c then A F else B F) = if c then (childCtx p >>= A) else (childCtx p >>= B) := by
  split <;> rfl

section
variable {evS : EvS} {ev : Ev} (hev : SimEv evS ev) {s0 : St} {Ca : Nat} {C : Ctx} (hC : CtxRel s0 Ca C)
include hev hC

/-- what follows sees the value only, so no store in between is named -/
theorem sim_evalV {Q : St → γ → δ → Prop} (e : Expr) {k : Value → M γ} {k' : Value → R δ}
    (h : ∀ v, Sim Q s0 (k v) (k' v)) :
    Sim Q s0 (evS Ca e >>= fun o => liftR (toVS o) >>= k) (ev C e >>= fun o => toV o >>= k') :=
  (hev hC e).bind fun _ _ _ h1 ho => toVS_rel ho ▸ (Sim.lift _).bind_eq fun v => (h v).mono h1

variable {bad : Err} {r : ObjS} {r' : Obj} (hr : ObjRel s0 r r')
include hr

omit hev hC in
theorem sim_iter {k : VL → Option Err → M ObjS} {k' : VL → Option Err → R Obj}
    (h : ∀ xs e, Sim ObjRel s0 (k xs e) (k' xs e)) :
    Sim ObjRel s0 (match toIterS r with | none => fail bad | some (xs, e) => k xs e)
      (match toIter r' with | none => .error bad | some (xs, e) => k' xs e) := by
  rw [toIterS_rel hr]
  cases toIter r' with
  | none => exact .err _
  | some it => exact h it.1 it.2

omit hev in
theorem sim_loop {α : Type} {loopS : Nat → VL → Option Err → M α} {loop : VL → Option Err → R α}
    {g : α → ObjS} {g' : α → Obj}
    (hl : ∀ {s1 F}, CtxRel s1 F C → ∀ xs e, Sim QEq s1 (loopS F xs e) (loop xs e))
    (hg : ∀ s a, ObjRel s (g a) (g' a)) :
    Sim ObjRel s0
      (match toIterS r with
        | none => fail bad
        | some (xs, e) => do let F ← childCtx Ca; let a ← loopS F xs e; pure (g a))
      (match toIter r' with
        | none => .error bad
        | some (xs, e) => do let a ← loop xs e; pure (g' a)) :=
  sim_iter hr fun xs e => .child hC fun _ _ _ hF => (hl hF xs e).bind_eq fun a => .obj (hg _ a)

theorem sim_order (asc : Bool) (l : Expr) :
    Sim ObjRel s0
      (match toIterS r with
        | none => fail bad
        | some (_, some e) => do let _ ← childCtx Ca; pure (ObjS.data (.ordered [] (some e)))
        | some (xs, none) => do
          let F ← childCtx Ca
          let ks ← if xs.length ≤ 1 then pure [] else keysLS (fun x => lamVS evS F l [x]) xs
          let s ← liftR (sortKeyed asc xs ks)
          pure (ObjS.data (.ordered s.1 s.2)))
      (match toIter r' with
        | none => .error bad
        | some (_, some e) => .ok (.ordered [] (some e))
        | some (xs, none) => do
          let ks ← if xs.length ≤ 1 then pure [] else keysL (fun x => lamV ev C l [x]) xs
          let s ← sortKeyed asc xs ks
          pure (.ordered s.1 s.2)) := by
  rw [toIterS_rel hr]
  rcases toIter r' with _ | ⟨xs, _ | er⟩
  · exact .err _
  · refine .child hC fun s1 F _ hF => ?_
    have sort := fun ks => (Sim.lift (s0 := s1) (sortKeyed asc xs ks)).bind_eq fun s => Sim.obj (.ordered s.1 s.2)
    exact .ite (fun _ => Sim.refl.bind_eq sort) fun _ => (sim_keysL (fun x => sim_lamV hev hF l [x]) xs).bind_eq sort
  · exact .child hC fun _ _ _ _ => .obj (.ordered _ _)

omit hev in
/-- `aggregate(f)`, `sum()`: a fold from the first element -/
theorem sim_reduce {fS : Nat → Value → Value → M Value} {f : Value → Value → R Value}
    (hf : ∀ {s1 F}, CtxRel s1 F C → ∀ a, SimFn s1 (fS F a) (f a)) :
    Sim ObjRel s0
      (match toIterS r with
        | none => fail bad
        | some ([], none) => do let _ ← childCtx Ca; fail .type
        | some ([], some e) => do let _ ← childCtx Ca; fail e
        | some (x :: xs, e) => do let F ← childCtx Ca; let v ← foldLS (fS F) x xs e; pure (ObjS.data (.val v)))
      (match toIter r' with
        | none => .error bad
        | some ([], none) => .error .type
        | some ([], some e) => .error e
        | some (x :: xs, e) => do let v ← foldL f x xs e; pure (.val v)) := by
  rw [toIterS_rel hr]
  rcases toIter r' with _ | ⟨_ | ⟨x, xs⟩, e⟩
  · exact .err _
  · cases e <;> exact .child hC fun _ _ _ _ => .err _
  · exact .child hC fun _ _ _ hF => (sim_foldL (hf hF) xs e x).bind_eq fun _ => .obj (.val _)

/-- `aggregate(f, seed)`, `sum(init)`: a fold from an evaluated start value -/
theorem sim_reduceFrom (init : Expr) {fS : Nat → Value → Value → M Value} {f : Value → Value → R Value}
    (hf : ∀ {s1 F}, CtxRel s1 F C → ∀ a, SimFn s1 (fS F a) (f a)) :
    Sim ObjRel s0
      (match toIterS r with
        | none => fail bad
        | some (xs, e) => do
          let io ← evS Ca init
          let i ← liftR (toVS io)
          let F ← childCtx Ca
          let v ← foldLS (fS F) i xs e
          pure (ObjS.data (.val v)))
      (match toIter r' with
        | none => .error bad
        | some (xs, e) => do
          let io ← ev C init
          let i ← toV io
          let v ← foldL f i xs e
          pure (.val v)) :=
  sim_iter hr fun xs e => sim_evalV hev hC init fun i =>
    .child hC fun _ _ _ hF => (sim_foldL (hf hF) xs e i).bind_eq fun _ => .obj (.val _)

/-- `take(n)`, `skip(n)`: `tk` is what is kept of the elements and of the tail -/
theorem sim_slice (n : Expr) (tk : VL → Option Err → Int → VL × Option Err) :
    Sim ObjRel s0
      (match toIterS r with
        | none => fail bad
        | some (xs, e) => do
          let no ← evS Ca n
          match no with
          | .data (.val (.int k)) => do
            let _ ← childCtx Ca
            if k < 0 then fail .value else pure (ObjS.data (.lazy (tk xs e k).1 (tk xs e k).2))
          | .data (.val (.bool _)) => fail .outOfDomain
          | _ => if isLazyS no then fail .outOfDomain else fail bad)
      (match toIter r' with
        | none => .error bad
        | some (xs, e) => do
          let no ← ev C n
          match no with
          | .val (.int k) => if k < 0 then .error .value else pure (.lazy (tk xs e k).1 (tk xs e k).2)
          | .val (.bool _) => .error .outOfDomain
          | _ => if isLazy no then .error .outOfDomain else .error bad) := by
  refine sim_iter hr fun xs e => (hev hC n).bind fun s1 no no' h1 hno => ?_
  induction no, no', hno using ObjRel.byCases with
  | val v =>
    cases v with
    | int k => exact .child (hC.mono h1) fun _ _ _ _ => .ite (fun _ => .err _) fun _ => .obj (.lazy _ _)
    | bool b => exact .err _
    | _ => exact sim_lazy_or (.val _) bad
  | _ => exact .err _

theorem sim_unpack (names : List Expr) :
    Sim ObjRel s0 (callMethodS evS Ca bad r .unpack names) (callMethod ev C bad r' .unpack names) := by
  dsimp only [callMethodS, callMethod]
  refine sim_iter hr fun xs e => .ite (fun _ => .err _) fun _ => (sim_evalList hev hC names).bind_eq fun ns => ?_
  refine .ite (fun _ => .err _) fun _ => ?_
  generalize (List.filterMap (fun v => match v with | .str s => some s | _ => none) ns) = strs
  generalize (if strs.length = 0 || xs.length < strs.length + 1 then e else none) = cond
  have pub : ∀ kvs, Sim ObjRel s0 (childCtx Ca >>= fun F => publishNamed F kvs >>= fun _ => pure (.ctx F))
      (.ok (.ctx ({ vars := bindNamed [] kvs } :: C))) :=
    fun kvs => .child_data hC (DataWrite.publishNamed kvs) fun _ _ _ hX => .obj hX
  cases cond with
  | some er =>
    show Sim ObjRel s0 (childCtx Ca >>= fun F =>
      if strs.length = 0 then (publishNamed F (bindPos 1 xs) >>= fun _ => fail er) else fail er) (.error er)
    rw [child_ite]
    split
    · exact .child_data hC (DataWrite.publishNamed _) fun _ _ _ _ => .err _
    · exact .child hC fun _ _ _ _ => .err _
  | none =>
    rw [child_ite]
    refine .ite (fun _ => pub _) fun _ => ?_
    rw [child_ite]
    exact .ite (fun _ => .child hC fun _ _ _ _ => .err _) fun _ => pub _

/-- **methods**: what the table of `callMethodS` does not list is refused with `bad` by both sides -/
theorem sim_callMethod (f : Fn) (args : List Expr) :
    Sim ObjRel s0 (callMethodS evS Ca bad r f args) (callMethod ev C bad r' f args) := by
  have lamV : ∀ {s1 F}, CtxRel s1 F C → ∀ l, SimFn s1 (fun x => lamVS evS F l [x]) (fun x => lamV ev C l [x]) :=
    fun hF l x => sim_lamV hev hF l [x]
  have lamB : ∀ {s1 F}, CtxRel s1 F C → ∀ l, SimFn s1 (fun x => lamBS evS F l [x]) (fun x => lamB ev C l [x]) :=
    fun hF l x => sim_lamB hev hF l [x]
  have lamV2 : ∀ l {s1 F}, CtxRel s1 F C → ∀ a,
      SimFn s1 (fun b => lamVS evS F l [a, b]) (fun b => Eval.lamV ev C l [a, b]) :=
    fun l _ _ hF a b => sim_lamV hev hF l [a, b]
  cases f with
  | let_ | with_ | def_ | list | dict => exact .err _
  | unpack => exact sim_unpack hev hC hr args
  | select =>
    rcases args with _ | ⟨l, _ | _⟩
    · exact .err _
    · exact sim_loop hC hr (fun hF => sim_mapL (lamV hF l)) fun _ _ => .lazy _ _
    · exact .err _
  | where_ =>
    rcases args with _ | ⟨l, _ | _⟩
    · exact .err _
    · exact sim_loop hC hr (fun hF => sim_filterL (lamB hF l)) fun _ _ => .lazy _ _
    · exact .err _
  | selectMany =>
    rcases args with _ | ⟨l, _ | _⟩
    · exact .err _
    · exact sim_loop hC hr (fun hF => sim_flatMapL (sim_lamMany hev hF l)) fun _ _ => .lazy _ _
    · exact .err _
  | takeWhile =>
    rcases args with _ | ⟨l, _ | _⟩
    · exact .err _
    · exact sim_loop hC hr (fun hF => sim_takeWhileL (lamB hF l)) fun _ _ => .lazy _ _
    · exact .err _
  | skipWhile =>
    rcases args with _ | ⟨l, _ | _⟩
    · exact .err _
    · exact sim_loop hC hr (fun hF => sim_dropWhileL (lamB hF l)) fun _ _ => .lazy _ _
    · exact .err _
  | orderBy =>
    rcases args with _ | ⟨l, _ | _⟩
    · exact .err _
    · exact sim_order hev hC hr true l
    · exact .err _
  | orderByDescending =>
    rcases args with _ | ⟨l, _ | _⟩
    · exact .err _
    · exact sim_order hev hC hr false l
    · exact .err _
  | indexWhere =>
    rcases args with _ | ⟨l, _ | _⟩
    · exact .err _
    · exact sim_loop hC hr (fun hF xs e => sim_findL (lamB hF l) xs e 0) fun _ _ => .val _
    · exact .err _
  | any =>
    rcases args with _ | ⟨l, _ | _⟩
    · exact sim_loop hC hr (fun _ _ _ => .lift _) fun _ _ => .val _
    · exact sim_loop hC hr (fun hF xs e => sim_findL (lamB hF l) xs e 0) fun _ _ => .val _
    · exact .err _
  | all =>
    rcases args with _ | ⟨l, _ | _⟩
    · exact sim_loop hC hr (fun _ _ _ => .lift _) fun _ _ => .val _
    · exact sim_loop hC hr (fun hF xs e => sim_findL (fun x => (lamB hF l x).bind_eq fun _ => .refl) xs e 0)
        fun _ _ => .val _
    · exact .err _
  | toDict =>
    rcases args with _ | ⟨k, _ | ⟨v, _ | _⟩⟩
    · exact .err _
    · exact sim_loop hC hr (fun hF xs e => sim_toDictL (lamV hF k) (fun _ => .refl) xs e []) fun _ _ => .val _
    · exact sim_loop hC hr (fun hF xs e => sim_toDictL (lamV hF k) (lamV hF v) xs e []) fun _ _ => .val _
    · exact .err _
  | aggregate =>
    rcases args with _ | ⟨l, _ | ⟨seed, _ | _⟩⟩
    · exact .err _
    · exact sim_reduce hC hr (lamV2 l)
    · exact sim_reduceFrom hev hC hr seed (lamV2 l)
    · exact .err _
  | sum =>
    rcases args with _ | ⟨init, _ | _⟩
    · exact sim_reduce hC hr plus_fn
    · exact sim_reduceFrom hev hC hr init plus_fn
    · exact .err _
  | first =>
    rcases args with _ | ⟨d, _ | _⟩
    · dsimp only [callMethodS, callMethod]
      rw [toIterS_rel hr]
      rcases toIter r' with _ | ⟨_ | ⟨x, xs⟩, _ | e⟩
      · exact .err _
      · exact .child hC fun _ _ _ _ => .err _
      · exact .child hC fun _ _ _ _ => .err _
      all_goals exact .child hC fun _ _ _ _ => .obj (.val _)
    · refine sim_iter hr fun xs e => (hev hC d).bind fun s1 _ _ h1 hd => .child (hC.mono h1) fun s2 _ h2 _ => ?_
      rcases xs with _ | ⟨x, xs⟩
      · cases e with
        | none => exact .obj (hd.mono h2)
        | some er => exact .err _
      · exact .obj (.val _)
    · exact .err _
  | toList =>
    cases args with
    | cons => exact .err _
    | nil =>
      dsimp only [callMethodS, callMethod]
      rw [toIterS_rel hr]
      cases toIter r' with
      | none => exact .err _
      | some it => exact .child hC fun _ _ _ _ => (Sim.lift _).bind_eq fun _ => .obj (.val _)
  | take =>
    rcases args with _ | ⟨n, _ | _⟩
    · exact .err _
    · exact sim_slice hev hC hr n fun xs e k => (xs.take k.toNat, if k.toNat ≤ xs.length then none else e)
    · exact .err _
  | skip =>
    rcases args with _ | ⟨n, _ | _⟩
    · exact .err _
    · exact sim_slice hev hC hr n fun xs e k => (xs.drop k.toNat, e)
    · exact .err _
  | get =>
    have look : ∀ (d : KV) (kv dv : Value), Sim ObjRel s0
        (childCtx Ca >>= fun _ => if hashable kv then pure (.data (.val ((Seq.dGet d kv).getD dv))) else fail (keyErr kv))
        (if hashable kv then pure (.val ((Seq.dGet d kv).getD dv)) else .error (keyErr kv)) :=
      fun _ _ _ => .child hC fun _ _ _ _ => .ite (fun _ => .obj (.val _)) fun _ => .err _
    rcases args with _ | ⟨k, _ | ⟨dflt, _ | _⟩⟩
    · exact .err _
    · dsimp only [callMethodS, callMethod]
      induction r, r', hr using ObjRel.byCases with
      | val v =>
        cases v with
        | dict d => exact sim_evalV hev hC k fun kv => look d kv .null
        | _ => exact .err _
      | _ => exact .err _
    · dsimp only [callMethodS, callMethod]
      induction r, r', hr using ObjRel.byCases with
      | val v =>
        cases v with
        | dict d => exact sim_evalV hev hC k fun kv => sim_evalV hev hC dflt fun dv => look d kv dv
        | _ => exact .err _
      | _ => exact .err _
    · exact .err _
  | len =>
    cases args with
    | cons => exact .err _
    | nil =>
      dsimp only [callMethodS, callMethod]
      induction r, r', hr using ObjRel.byCases with
      | lazy a b => exact .child hC fun _ _ _ _ => (Sim.lift _).bind_eq fun _ => .obj (.val _)
      | val v =>
        cases v with
        | tuple l | list l | iter l | dict d | str s => exact .child hC fun _ _ _ _ => .obj (.val _)
        | _ => exact .err _
      | _ => exact .err _

end
end Yaql.Props.EvalStore
