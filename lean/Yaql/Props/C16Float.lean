import Yaql.Props.C16
import Yaql.Props.FloatRound
/-!
C16, the value clause of float literals: the double a literal `ddd.ddd` denotes is the decimal rational it spells,
correctly rounded - a statement about the MODEL (`Lexer.literalFloat` = `FloatRound.roundRat digits (10^k)`), which the
harness compares bit for bit with the `Constant.value` of the real lexer/parser.  The rounding itself is inside the
model and proved (`Props/FloatRound.lean`); what is tested, not proved, is that the model agrees with CPython's `float(str)`.
-/
namespace Yaql.Props.C16
open Yaql.Lexer Yaql.Syntax

/-- the decimal rational a literal `a.b` spells: `digits(a b) / 10^|b|` -/
def literalQ (cc : CharCfg) (a b : List Char) : ℚ := (digitsVal cc (a ++ b) : ℚ) / (10 ^ b.length : ℕ)

open Yaql.FloatRound Yaql.Props.FloatRound in
theorem literalFloat_cases (cc : CharCfg) (a b : List Char) :
    (∃ w, roundRat (digitsVal cc (a ++ b) : Nat) (10 ^ b.length) = .ok w ∧ literalFloat cc a b = w) ∨
    (roundRat (digitsVal cc (a ++ b) : Nat) (10 ^ b.length) = .overflow false ∧ literalFloat cc a b = pinfBits) := by
  unfold literalFloat
  rcases roundRat_cases (digitsVal cc (a ++ b) : Nat) (Nat.pow_pos (by decide) : 0 < 10 ^ b.length)
    with ⟨_, e⟩ | ⟨_, e⟩ <;> rw [e]
  · exact Or.inl ⟨_, rfl, rfl⟩
  · rw [decide_eq_false (by omega)]; exact Or.inr ⟨rfl, rfl⟩

open Yaql.FloatRound Yaql.Props.FloatRound in
/-- **the value of a float literal is the correctly rounded decimal rational** (inside the model, proved for all digit
strings): `literalFloat` is `roundRat digits (10^k)` with overflow mapped to `+inf`; so
(1) it is never the "not a rational" stop; (2) it is `+inf` exactly when the decimal is `≥ 2^1024 - 2^970`;
(3) otherwise it is a finite double whose value is at least as near to the decimal as that of any finite double
(a tie goes to the even significand: `FloatRound.roundRat_tie_even`); (4) a decimal that is the value of a finite
double is that double, bit for bit; (5) a longer spelling of the same rational (`1.50` / `1.5`) is the same double;
(6) it is monotone in the decimal. -/
theorem literalFloat_spec (cc : CharCfg) (a b : List Char) :
    roundRat (digitsVal cc (a ++ b) : Nat) (10 ^ b.length) ≠ .zeroDen ∧
    (literalFloat cc a b = pinfBits ↔ (2 ^ 1024 - 2 ^ 970 : ℚ) ≤ literalQ cc a b) ∧
    (literalQ cc a b < (2 ^ 1024 - 2 ^ 970 : ℚ) →
      ∃ z, decode (literalFloat cc a b) = .fin z ∧ ∀ w' z', decode w' = .fin z' →
        |literalQ cc a b - valQ z| ≤ |literalQ cc a b - valQ z'|) ∧
    (∀ w z, decode w = .fin z → literalQ cc a b = valQ z → w ≠ 0x8000000000000000 → literalFloat cc a b = w) ∧
    (∀ a' b', literalQ cc a b = literalQ cc a' b' → literalFloat cc a b = literalFloat cc a' b') ∧
    (∀ a' b', literalQ cc a b ≤ literalQ cc a' b' →
      Ext.le (decode (literalFloat cc a b)) (decode (literalFloat cc a' b')) = true) := by
  have hpos : ∀ k : Nat, 0 < 10 ^ k := fun k => Nat.pow_pos (by decide)
  have hd := hpos b.length
  have hq : ∀ a b : List Char, literalQ cc a b = ((digitsVal cc (a ++ b) : Nat) : Int) / ((10 ^ b.length : ℕ) : ℚ) := by
    intro a b; unfold literalQ; push_cast; rfl
  have hov := roundRat_overflow_iff_rat (digitsVal cc (a ++ b) : Nat) (10 ^ b.length) hd
  rw [decide_eq_false (by omega), abs_of_nonneg (by positivity), ← hq] at hov
  -- the value of `literalFloat` in the extended order is that of the rounding
  have hext : ∀ a b : List Char, decode (literalFloat cc a b) =
      (roundRat (digitsVal cc (a ++ b) : Nat) (10 ^ b.length)).ext := by
    intro a b
    rcases literalFloat_cases cc a b with ⟨w, hr, e⟩ | ⟨hr, e⟩ <;> rw [e, hr]
    · rfl
    · decide
  refine ⟨roundRat_total _ _ hd, ?_, ?_, ?_, ?_, ?_⟩
  · rw [← hov]
    rcases literalFloat_cases cc a b with ⟨w, hr, e⟩ | ⟨hr, e⟩ <;> rw [e, hr]
    · constructor
      · intro hw
        obtain ⟨z, hz⟩ := roundRat_ok_fin hr
        rw [hw, show decode pinfBits = .pinf by decide] at hz
        cases hz
      · intro h; cases h
    · simp
  · intro hlt
    rcases literalFloat_cases cc a b with ⟨w, hr, e⟩ | ⟨hr, e⟩
    · obtain ⟨z, hz, hn⟩ := roundRat_nearest _ _ w hr
      rw [e]
      exact ⟨z, hz, fun w' z' hw' => by rw [hq]; exact hn w' z' hw'⟩
    · exact absurd (hov.mp hr) (not_le.mpr hlt)
  · intro w z hw hqz hnz
    have := roundRat_exact (digitsVal cc (a ++ b) : Nat) (10 ^ b.length) hd w z hw (by rw [← hq]; exact hqz) hnz
    unfold literalFloat; rw [this]
  · intro a' b' he
    have := roundRat_congr_rat (digitsVal cc (a ++ b) : Nat) (digitsVal cc (a' ++ b') : Nat) _ _ hd (hpos b'.length)
      (by rw [← hq, ← hq]; exact he)
    unfold literalFloat; rw [this]
  · intro a' b' hle
    rw [hext, hext]
    exact roundRat_mono_rat _ _ _ _ hd (hpos b'.length) (by rw [← hq, ← hq]; exact hle)

-- `1.50` and `1.5` are the double 1.5; `0.1` is 0x3FB999999999999A; 400 digits before the dot are `inf`
example : literalFloat asciiCfg.chars ['1'] ['5', '0'] = 0x3FF8000000000000 ∧
    literalFloat asciiCfg.chars ['1'] ['5'] = 0x3FF8000000000000 ∧
    literalFloat asciiCfg.chars ['0'] ['1'] = 0x3FB999999999999A ∧
    literalFloat asciiCfg.chars (List.replicate 400 '1') ['5'] = Yaql.FloatRound.pinfBits := by decide +kernel
-- the hypotheses of `literalFloat_spec` (4) are satisfiable: 2.5 is a double
example : Yaql.FloatRound.decode 0x4004000000000000 = .fin (5 * 2 ^ 1073) := by decide +kernel

end Yaql.Props.C16
