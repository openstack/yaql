import Yaql.Model.Parser
/-!
C03, parser level: the parser model is total on every token list and classifies its outcome.

`Yaql.Syntax.parse` is a structurally recursive function (one `step` per token), so termination is
by construction; what is proved here is the classification of the outcome and where a reported
position comes from:

* `parse_total_classified`: for every engine configuration and token list the result is a tree,
  `.grammar none`, or `.grammar (some p)` with `p` the `pos` of a token of the input;
* `error_at_first_rejected_token`: a reported position is the position of the first token the
  machine cannot take, everything before it was taken, and what follows it is irrelevant;
* `error_none_only_at_end`: `.grammar none` is reported only after every token has been taken;
* `step_same`: a step reads of the token its kind and (where the kind carries one) its value; the position only
  goes into the error.  `step_err` is the case of one token, `C02.step_norm` the case of a token and its `norm`.
-/
namespace Yaql.Props.C03Parse
open Yaql.Syntax

def reportAt {α} (t : Token) : Except PErr α → Except PErr α
  | .ok a => .ok a
  | .error _ => errAt t

/-- the kinds whose token value the parser reads -/
def carriesVal : TokKind → Bool
  | .op _ | .lit _ | .indexer | .map | .mapping => false
  | _ => true

section
variable {c : Cfg} {S : List Frame} {v : Ast} {t t' : Token} (hk : t'.kind = t.kind)
include hk

theorem classify_kind : classify c t' = classify c t := by
  simp only [classify, hk]

theorem startsValue_kind : startsValue c t' = startsValue c t := by
  unfold startsValue; rw [hk]

theorem followsValue_kind : followsValue c t' = followsValue c t := by
  unfold followsValue; rw [hk]

theorem bothPrec_kind : bothPrec c t' = bothPrec c t := by
  unfold bothPrec; rw [hk]

theorem resolveAmb_kind (st : St) : resolveAmb c st (some t') = resolveAmb c st (some t) := by
  simp only [resolveAmb, startsValue_kind hk, followsValue_kind hk, bothPrec_kind hk]

-- `close` mentions the token as `t.kind` and as `errAt t` only: with the kinds equal, both sides take the same branch
theorem close_same : close S v t' = reportAt t' (close S v t) := by
  unfold close
  rw [hk]
  repeat' split
  all_goals rfl

theorem stepOperand_same (hv : carriesVal t.kind = true → t'.val = t.val) :
    stepOperand c S t' = reportAt t' (stepOperand c S t) := by
  unfold stepOperand
  rw [hk]
  repeat' split
  all_goals first | rfl | (rw [hv (by simp [carriesVal, *])]; rfl)

theorem stepAfter_same : stepAfter c S v t' = reportAt t' (stepAfter c S v t) := by
  unfold stepAfter
  rw [classify_kind hk]
  split
  · split; split <;> rfl
  · exact close_same hk

theorem step_same (st : St) (hv : carriesVal t.kind = true → t'.val = t.val) :
    step c st t' = reportAt t' (step c st t) := by
  simp only [step, resolveAmb_kind hk]
  split
  · exact stepOperand_same hk hv
  · exact stepAfter_same hk
end

theorem step_err {c : Cfg} {st : St} {t : Token} {e : PErr}
    (h : step c st t = .error e) : e = .grammar (some t.pos) := by
  have := step_same (c := c) (t := t) rfl st (fun _ => rfl)
  rw [h] at this
  injection this with this

theorem finish_err {c : Cfg} {st : St} {e : PErr} (h : finish c st = .error e) : e = .grammar none := by
  simp only [finish] at h
  repeat' split at h
  all_goals first | (simp at h; exact h.symm) | (simp at h)

/-- a failing run fails at a definite token: the prefix before it is accepted, the token is
rejected, and its position is what is reported -/
theorem run_err {c : Cfg} : ∀ (toks : List Token) (st : St) (e : PErr), run c st toks = .error e →
    ∃ pre t post st', toks = pre ++ t :: post ∧ run c st pre = .ok st' ∧
      step c st' t = .error e ∧ e = .grammar (some t.pos)
  | [], st, e, h => by simp [run] at h
  | t :: ts, st, e, h => by
    unfold run at h
    split at h
    · rename_i st' hs
      obtain ⟨pre, t', post, st'', h1, h2, h3, h4⟩ := run_err ts st' e h
      refine ⟨t :: pre, t', post, st'', by simp [h1], ?_, h3, h4⟩
      simp [run, hs, h2]
    · rename_i e' hs
      have : e' = e := by simpa using h
      subst this
      exact ⟨[], t, ts, st, rfl, rfl, hs, step_err hs⟩

theorem run_append {c : Cfg} : ∀ (a b : List Token) (st : St),
    run c st (a ++ b) = (match run c st a with | .ok st' => run c st' b | .error e => .error e)
  | [], b, st => by simp [run]
  | t :: a, b, st => by
    simp only [List.cons_append, run]
    cases step c st t with
    | ok st' => simpa using run_append a b st'
    | error e => simp

theorem parse_total_classified (c : Cfg) (toks : List Token) :
    (∃ t, parse c toks = .ok t) ∨ parse c toks = .error (.grammar none) ∨
    (∃ p, parse c toks = .error (.grammar (some p)) ∧ p ∈ toks.map (·.pos)) := by
  cases h : run c {} toks with
  | ok st =>
    cases hf : finish c st with
    | ok t => exact .inl ⟨t, by simp [parse, h, hf]⟩
    | error e => exact .inr (.inl (by simp [parse, h, hf, finish_err hf]))
  | error e =>
    obtain ⟨pre, t, post, st', h1, _, _, h4⟩ := run_err toks {} e h
    refine .inr (.inr ⟨t.pos, by simp [parse, h, h4], ?_⟩)
    simp [h1]

theorem error_at_first_rejected_token (c : Cfg) (toks : List Token) (p : Nat)
    (h : parse c toks = .error (.grammar (some p))) :
    ∃ pre t post st, toks = pre ++ t :: post ∧ t.pos = p ∧ run c {} pre = .ok st ∧
      (∃ e, step c st t = .error e) ∧
      ∀ post', parse c (pre ++ t :: post') = .error (.grammar (some p)) := by
  cases hr : run c {} toks with
  | ok st =>
    cases hf : finish c st with
    | ok t => simp [parse, hr, hf] at h
    | error e => simp [parse, hr, hf, finish_err hf] at h
  | error e =>
    simp only [parse, hr] at h
    obtain ⟨pre, t, post, st', h1, h2, h3, h4⟩ := run_err toks {} e hr
    have he : e = .grammar (some p) := by simpa using h
    have hp : t.pos = p := by rw [h4] at he; simpa using he
    refine ⟨pre, t, post, st', h1, hp, h2, ⟨e, h3⟩, ?_⟩
    intro post'
    simp [parse, run_append, h2, run, h3, he]

theorem error_none_only_at_end (c : Cfg) (toks : List Token) (h : parse c toks = .error (.grammar none)) :
    ∃ st, run c {} toks = .ok st ∧ finish c st = .error (.grammar none) := by
  cases hr : run c {} toks with
  | ok st => simp only [parse, hr] at h; exact ⟨st, rfl, h⟩
  | error e =>
    simp only [parse, hr] at h
    obtain ⟨_, t, _, _, _, _, _, h4⟩ := run_err toks {} e hr
    rw [h4] at h; simp at h

/-- non-vacuity: all three outcomes occur (default-like table with one binary operator `+`) -/
def demoCfg : Cfg :=
  ⟨[(['+'], ⟨0, 1, ['O', 'P', '_', 'B'], none⟩)], [(true, [['O', 'P', '_', 'B']]), (true, [[',']])], false⟩

example : parse demoCfg [⟨.number, .int 1, 0⟩, ⟨.op ['+'], .none, 2⟩, ⟨.number, .int 2, 4⟩] =
    .ok (.binary ['+'] none (.const .number (.int 1)) (.const .number (.int 2))) := by rfl
example : parse demoCfg [⟨.number, .int 1, 0⟩, ⟨.op ['+'], .none, 2⟩] = .error (.grammar none) := by rfl
example : parse demoCfg [⟨.number, .int 1, 0⟩, ⟨.number, .int 2, 2⟩] = .error (.grammar (some 2)) := by rfl

end Yaql.Props.C03Parse
