import Yaql.Model.Strings
/-!
C19 (string half) - the functions of strings.py agree with their documented meaning.

Every theorem is about the code-shaped model `Yaql.Strings` (same index arithmetic as
strings.py, Python `str` methods modelled on `List Char`) and characterises its result by
a specification that does not mention the implementation: occurrences, windows, pieces.
-/
namespace Yaql.Props.C19
open Yaql.Strings

def Occurs (s sub : Str) (i : Nat) : Prop := sub <+: s.drop i

theorem occursAt_iff {s sub : Str} {i : Nat} : occursAt s sub i = true ↔ Occurs s sub i :=
  List.isPrefixOf_iff_prefix

theorem occursAt_false_iff {s sub : Str} {i : Nat} : occursAt s sub i = false ↔ ¬ Occurs s sub i := by
  rw [← occursAt_iff, Bool.not_eq_true]

/-- an occurrence is a decomposition of the string -/
theorem occurs_iff_append {s sub : Str} {i : Nat} :
    Occurs s sub i ↔ ∃ t, s = s.take i ++ sub ++ t := by
  refine exists_congr fun t => ?_
  rw [List.append_assoc, ← List.append_right_inj (s.take i), List.take_append_drop, eq_comm]

theorem findUp_eq_find? (p : Nat → Bool) (lo n : Nat) : findUp p lo n = (List.range' lo n).find? p := by
  induction n generalizing lo with
  | zero => rfl
  | succ n ih => rw [findUp, List.range'_succ, List.find?_cons, ih]; cases p lo <;> rfl

theorem findUp_some {p : Nat → Bool} {lo n r : Nat} :
    findUp p lo n = some r ↔ lo ≤ r ∧ r < lo + n ∧ p r = true ∧ ∀ j, lo ≤ j → j < r → p j = false := by
  simp only [findUp_eq_find?, List.find?_range'_eq_some, List.mem_range'_1, Bool.not_eq_true']
  exact ⟨fun ⟨h3, ⟨h1, h2⟩, h4⟩ => ⟨h1, h2, h3, h4⟩, fun ⟨h1, h2, h3, h4⟩ => ⟨h3, ⟨h1, h2⟩, h4⟩⟩

theorem findUp_none {p : Nat → Bool} {lo n : Nat} :
    findUp p lo n = none ↔ ∀ j, lo ≤ j → j < lo + n → p j = false := by
  simp only [findUp_eq_find?, List.find?_range'_eq_none, Bool.not_eq_true']

theorem findDown_none {p : Nat → Bool} {lo n : Nat} :
    findDown p lo n = none ↔ ∀ j, lo ≤ j → j < lo + n → p j = false := by
  fun_induction findDown p lo n with
  | case1 => exact ⟨fun _ j h1 h2 => absurd h2 (Nat.not_lt.mpr h1), fun _ => rfl⟩
  | case2 n h =>
    exact ⟨fun hh => (nomatch hh),
      fun hh => nomatch h.symm.trans (hh (lo + n) (Nat.le_add_right _ _) (Nat.lt_succ_self _))⟩
  | case3 n h ih =>
    rw [ih]
    exact ⟨fun hh j hj1 hj2 =>
        (Nat.eq_or_lt_of_le (Nat.le_of_lt_succ hj2)).elim (· ▸ Bool.eq_false_iff.mpr h) (hh j hj1),
      fun hh j hj1 hj2 => hh j hj1 (Nat.lt_succ_of_lt hj2)⟩

theorem findDown_some {p : Nat → Bool} {lo n r : Nat} :
    findDown p lo n = some r ↔ lo ≤ r ∧ r < lo + n ∧ p r = true ∧ ∀ j, r < j → j < lo + n → p j = false := by
  fun_induction findDown p lo n with
  | case1 => exact ⟨fun h => (nomatch h), fun ⟨h1, h2, _⟩ => absurd h2 (Nat.not_lt.mpr h1)⟩
  | case2 n h =>
    rw [Option.some.injEq]
    constructor
    · rintro rfl
      exact ⟨Nat.le_add_right _ _, Nat.lt_succ_self _, h, fun j h1 h2 => absurd h2 (Nat.not_lt.mpr h1)⟩
    · rintro ⟨_, h2, _, h4⟩
      exact (Nat.eq_or_lt_of_le (Nat.le_of_lt_succ h2)).elim Eq.symm
        fun hlt => nomatch h.symm.trans (h4 (lo + n) hlt (Nat.lt_succ_self _))
  | case3 n h ih =>
    rw [ih]
    constructor
    · rintro ⟨h1, h2, h3, h4⟩
      exact ⟨h1, Nat.lt_succ_of_lt h2, h3, fun j hj1 hj2 =>
        (Nat.eq_or_lt_of_le (Nat.le_of_lt_succ hj2)).elim (· ▸ Bool.eq_false_iff.mpr h) (h4 j hj1)⟩
    · rintro ⟨h1, h2, h3, h4⟩
      refine ⟨h1, (Nat.eq_or_lt_of_le (Nat.le_of_lt_succ h2)).elim (fun e => ?_) id, h3,
        fun j hj1 hj2 => h4 j hj1 (Nat.lt_succ_of_lt hj2)⟩
      subst e; exact absurd h3 h

/-! ### indexOf / lastIndexOf: Python `find` / `rfind` on a clamped window -/

/-- `r` is the first occurrence of `sub` lying wholly inside the window `[a, b)` -/
def FirstIn (s sub : Str) (a b r : Nat) : Prop :=
  a ≤ r ∧ r + sub.length ≤ b ∧ Occurs s sub r ∧ ∀ j, a ≤ j → j < r → ¬ Occurs s sub j
/-- `r` is the last occurrence of `sub` lying wholly inside the window `[a, b)` -/
def LastIn (s sub : Str) (a b r : Nat) : Prop :=
  a ≤ r ∧ r + sub.length ≤ b ∧ Occurs s sub r ∧ ∀ j, r < j → j + sub.length ≤ b → ¬ Occurs s sub j
/-- no occurrence of `sub` lies wholly inside the window `[a, b)` -/
def NoneIn (s sub : Str) (a b : Nat) : Prop :=
  ∀ j, a ≤ j → j + sub.length ≤ b → ¬ Occurs s sub j

theorem optInt_spec {o : Option Nat} {Q : Nat → Prop} {N : Prop}
    (hs : ∀ r, o = some r ↔ Q r) (hn : o = none ↔ N) :
    (∀ r : Nat, optInt o = (r : Int) ↔ Q r) ∧ (optInt o = -1 ↔ N) ∧ (optInt o = -1 ∨ 0 ≤ optInt o) := by
  cases o with
  | none =>
    exact ⟨fun r => ⟨fun h => absurd h (by simp only [optInt]; omega), fun h => nomatch (hs r).mpr h⟩,
      ⟨fun _ => hn.mp rfl, fun _ => rfl⟩, .inl rfl⟩
  | some i =>
    refine ⟨fun r => ?_, ⟨fun h => absurd h (by simp only [optInt]; omega), fun h => nomatch hn.mpr h⟩,
      .inr (Int.natCast_nonneg i)⟩
    rw [← hs r, Option.some.injEq]; exact Int.natCast_inj

theorem adjStart_nonneg (len : Nat) (b : Int) : 0 ≤ adjStart len b := by
  unfold adjStart; split
  · split
    · exact Int.le_refl 0
    · next h => exact Int.not_lt.mp h
  · next h => exact Int.not_lt.mp h
theorem adjStop_le (len : Nat) (e : Int) : adjStop len e ≤ len := by
  unfold adjStop; split
  · exact Int.le_refl _
  · next h1 =>
    split
    · split
      · exact Int.natCast_nonneg len
      · omega
    · exact Int.not_lt.mp h1

theorem lt_candidates {a b L j : Nat} (h : a ≤ j) : j < a + candidates a b L ↔ j + L ≤ b := by
  unfold candidates; omega

theorem findUp_firstIn (s sub : Str) (a b r : Nat) :
    findUp (occursAt s sub) a (candidates a b sub.length) = some r ↔ FirstIn s sub a b r := by
  simp only [findUp_some, FirstIn, occursAt_iff, occursAt_false_iff]
  exact and_congr_right fun h => and_congr_left' (lt_candidates h)

theorem findDown_lastIn (s sub : Str) (a b r : Nat) :
    findDown (occursAt s sub) a (candidates a b sub.length) = some r ↔ LastIn s sub a b r := by
  simp only [findDown_some, LastIn, occursAt_iff, occursAt_false_iff]
  exact and_congr_right fun h => and_congr (lt_candidates h) (and_congr_right fun _ => forall_congr' fun j =>
    imp_congr_right fun hj => imp_congr_left (lt_candidates (Nat.le_trans h (Nat.le_of_lt hj))))

theorem find_noneIn (s sub : Str) (a b : Nat) :
    (∀ j, a ≤ j → j < a + candidates a b sub.length → occursAt s sub j = false) ↔ NoneIn s sub a b := by
  simp only [NoneIn, occursAt_false_iff]
  exact forall_congr' fun j => imp_congr_right fun h => imp_congr_left (lt_candidates h)

theorem pyFind_spec (s sub : Str) (start stop : Int) {a b : Nat}
    (ha : adjStart s.length start = a) (hb : adjStop s.length stop = b) :
    (∀ r : Nat, pyFind s sub start stop = (r : Int) ↔ FirstIn s sub a b r) ∧
    (pyFind s sub start stop = -1 ↔ NoneIn s sub a b) ∧
    (pyFind s sub start stop = -1 ∨ 0 ≤ pyFind s sub start stop) := by
  unfold pyFind
  simp only [ha, hb, Int.toNat_natCast]
  exact optInt_spec (findUp_firstIn s sub a b) (findUp_none.trans (find_noneIn s sub a b))

theorem pyRfind_spec (s sub : Str) (start stop : Int) {a b : Nat}
    (ha : adjStart s.length start = a) (hb : adjStop s.length stop = b) :
    (∀ r : Nat, pyRfind s sub start stop = (r : Int) ↔ LastIn s sub a b r) ∧
    (pyRfind s sub start stop = -1 ↔ NoneIn s sub a b) ∧
    (pyRfind s sub start stop = -1 ∨ 0 ≤ pyRfind s sub start stop) := by
  unfold pyRfind
  simp only [ha, hb, Int.toNat_natCast]
  exact optInt_spec (findDown_lastIn s sub a b) (findDown_none.trans (find_noneIn s sub a b))

/-- start of the search window: a negative `start` counts from the end -/
def winLo (len : Nat) (start : Int) : Nat := (if start < 0 then start + len else start).toNat
/-- end of the search window of the 4-argument forms: `length` characters from the start,
    a negative `length` meaning "to the end of the string" -/
def winHi (len : Nat) (start length : Int) : Nat :=
  if length < 0 then len else min len (winLo len start + length.toNat)

theorem normStart_eq {len : Nat} {start : Int} (h : -(len : Int) ≤ start) :
    (if start < 0 then start + len else start) = (winLo len start : Nat) :=
  (Int.toNat_of_nonneg (by split <;> omega)).symm

theorem adjStart_natCast (len b : Nat) : adjStart len b = b :=
  if_neg (Int.not_lt.mpr (Int.natCast_nonneg b))

theorem adjStop_natCast (len e : Nat) : adjStop len e = (min len e : Nat) := by
  unfold adjStop
  by_cases h : len < e
  · rw [if_pos (Int.ofNat_lt.mpr h), Nat.min_eq_left (Nat.le_of_lt h)]
  · rw [if_neg (mt Int.ofNat_lt.mp h), if_neg (Int.not_lt.mpr (Int.natCast_nonneg e)),
      Nat.min_eq_right (Nat.not_lt.mp h)]

/-- the window `indexOf4`/`lastIndexOf4` hand to `find`/`rfind`, after CPython's clamping -/
theorem win_adj (len : Nat) (start length : Int) (h : -(len : Int) ≤ start) :
    let st := if start < 0 then start + len else start
    let ln := if length < 0 then (len : Int) - st else length
    adjStart len st = winLo len start ∧ adjStop len (st + ln) = winHi len start length := by
  intro st ln
  have hst : st = (winLo len start : Nat) := normStart_eq h
  refine ⟨(congrArg (adjStart len) hst).trans (adjStart_natCast len _), ?_⟩
  unfold winHi
  by_cases hl : length < 0
  · have e : st + ln = len := by simp only [ln, if_pos hl]; omega
    rw [if_pos hl, e, adjStop_natCast, Nat.min_self]
  · have e : ln = (length.toNat : Nat) := (if_neg hl).trans (Int.toNat_of_nonneg (Int.not_lt.mp hl)).symm
    rw [if_neg hl, e, hst, ← Int.natCast_add, adjStop_natCast]

/-- **indexOf_spec** (4-argument form).  For `start >= -len(s)` the result is the first
    occurrence of `sub` lying wholly inside the window that begins at the normalised start and
    is `length` characters long (negative `length`: up to the end), and -1 iff there is none. -/
theorem indexOf_spec (s sub : Str) (start length : Int) (h : -(s.length : Int) ≤ start) :
    let a := winLo s.length start
    let b := winHi s.length start length
    (∀ r : Nat, indexOf4 s sub start length = (r : Int) ↔ FirstIn s sub a b r) ∧
    (indexOf4 s sub start length = -1 ↔ NoneIn s sub a b) ∧
    (indexOf4 s sub start length = -1 ∨ 0 ≤ indexOf4 s sub start length) :=
  have hw := win_adj s.length start length h
  pyFind_spec s sub _ _ hw.1 hw.2

/-- **lastIndexOf_spec** (4-argument form): dual of `indexOf_spec`, the last occurrence -/
theorem lastIndexOf_spec (s sub : Str) (start length : Int) (h : -(s.length : Int) ≤ start) :
    let a := winLo s.length start
    let b := winHi s.length start length
    (∀ r : Nat, lastIndexOf4 s sub start length = (r : Int) ↔ LastIn s sub a b r) ∧
    (lastIndexOf4 s sub start length = -1 ↔ NoneIn s sub a b) ∧
    (lastIndexOf4 s sub start length = -1 ∨ 0 ≤ lastIndexOf4 s sub start length) :=
  have hw := win_adj s.length start length h
  pyRfind_spec s sub _ _ hw.1 hw.2

theorem adjStop_length (len : Nat) : adjStop len len = len := by
  rw [adjStop_natCast, Nat.min_self]

/-- 2-argument forms: the window runs from the (clamped) start to the end of the string -/
theorem indexOf_spec2 (s sub : Str) (start : Int) :
    let a := (adjStart s.length start).toNat
    (∀ r : Nat, indexOf s sub start = (r : Int) ↔ FirstIn s sub a s.length r) ∧
    (indexOf s sub start = -1 ↔ NoneIn s sub a s.length) ∧
    (indexOf s sub start = -1 ∨ 0 ≤ indexOf s sub start) :=
  pyFind_spec s sub start s.length (Int.toNat_of_nonneg (adjStart_nonneg _ _)).symm (adjStop_length _)

theorem lastIndexOf_spec2 (s sub : Str) (start : Int) :
    let a := (adjStart s.length start).toNat
    (∀ r : Nat, lastIndexOf s sub start = (r : Int) ↔ LastIn s sub a s.length r) ∧
    (lastIndexOf s sub start = -1 ↔ NoneIn s sub a s.length) ∧
    (lastIndexOf s sub start = -1 ∨ 0 ≤ lastIndexOf s sub start) :=
  pyRfind_spec s sub start s.length (Int.toNat_of_nonneg (adjStart_nonneg _ _)).symm (adjStop_length _)


/-! ### substring: a slice with non-negative bounds -/

theorem clampIdx_nonneg (len : Nat) (i : Int) (h : 0 ≤ i) : clampIdx len i = min i.toNat len :=
  if_neg (Int.not_lt.mpr h)

theorem pySlice_nat (s : Str) (a b : Nat) : pySlice s a b = (s.drop a).take (b - a) := by
  unfold pySlice
  rw [clampIdx_nonneg _ _ (Int.natCast_nonneg a), clampIdx_nonneg _ _ (Int.natCast_nonneg b),
    Int.toNat_natCast, Int.toNat_natCast, ← List.take_eq_take_min, List.drop_take]
  by_cases h : a ≤ s.length
  · rw [Nat.min_eq_left h]
  · have h' := Nat.le_of_lt (Nat.not_le.mp h)
    rw [Nat.min_eq_right h', List.drop_length, List.drop_eq_nil_of_le h', List.take_nil, List.take_nil]

/-- **substring_spec**.  For `start >= -len(s)` and any `length`, `substring` drops the
    characters before the normalised start and keeps `length` of the rest - all of the
    rest when `length` is negative. -/
theorem substring_spec (s : Str) (start length : Int) (h : -(s.length : Int) ≤ start) :
    substring s start length =
      (s.drop (winLo s.length start)).take (if length < 0 then s.length else length.toNat) := by
  have hln : (if length < 0 then (s.length : Int) else length) =
      ((if length < 0 then s.length else length.toNat : Nat) : Int) := by
    split <;> omega
  unfold substring
  simp only [normStart_eq h, hln]
  rw [← Int.natCast_add, pySlice_nat, Nat.add_sub_cancel_left]

/-- the result never reaches outside the string: it is a contiguous part of it -/
theorem substring_infix (s : Str) (start length : Int) : substring s start length <:+: s := by
  simp only [substring, pySlice]
  exact List.IsInfix.trans (List.drop_suffix _ _).isInfix (List.take_prefix _ _).isInfix

/-! ### split / join -/

theorem splitGo_skip (sep : Str) (s : Str) (skip : Nat) (k : Option Nat) (cur : Str) :
    splitGo sep s skip k cur = splitGo sep (s.drop skip) 0 k cur := by
  induction s generalizing skip with
  | nil => cases skip <;> rfl
  | cons c cs ih =>
    cases skip with
    | zero => rfl
    | succ n => exact ih n

theorem splitGo_ne_nil (sep : Str) (s : Str) (skip : Nat) (k : Option Nat) (cur : Str) :
    splitGo sep s skip k cur ≠ [] := by
  fun_induction splitGo sep s skip k cur with
  | case1 | case3 => exact List.cons_ne_nil _ _
  | case2 _ _ _ _ _ ih | case4 _ _ _ _ _ ih => exact ih

theorem join_cons (sep p : Str) (l : List Str) (h : l ≠ []) : join sep (p :: l) = p ++ sep ++ join sep l := by
  cases l with
  | nil => exact absurd rfl h
  | cons q r => rfl

theorem join_append_singleton (sep p : Str) (l : List Str) (h : l ≠ []) :
    join sep (l ++ [p]) = join sep l ++ sep ++ p := by
  induction l with
  | nil => exact absurd rfl h
  | cons a l ih =>
    cases l with
    | nil => rfl
    | cons b l =>
      rw [List.cons_append, join_cons sep a (b :: l ++ [p]) (List.cons_ne_nil _ _), ih (List.cons_ne_nil _ _),
        join_cons sep a (b :: l) (List.cons_ne_nil _ _)]
      simp only [List.append_assoc]

theorem drop_length_cons {sep : Str} (hsep : sep ≠ []) (c : Char) (cs : Str) :
    (c :: cs).drop sep.length = cs.drop (sep.length - 1) := by
  cases sep with
  | nil => exact absurd rfl hsep
  | cons d ds => rfl

/-- `skip`: the characters of the separator just emitted that are still to be skipped -/
theorem join_splitGo (sep : Str) (hsep : sep ≠ []) (s : Str) (skip : Nat) (k : Option Nat) (cur : Str) :
    join sep (splitGo sep s skip k cur) = cur.reverse ++ s.drop skip := by
  fun_induction splitGo sep s skip k cur with
  | case1 => rw [List.drop_nil, List.append_nil]; rfl
  | case2 _ _ _ _ _ ih => exact ih
  | case3 c cs k cur hc ih =>
    rw [join_cons _ _ _ (splitGo_ne_nil _ _ _ _ _), ih, ← drop_length_cons hsep c, List.reverse_nil,
      List.nil_append, List.append_assoc,
      List.prefix_iff_eq_append.mp (List.isPrefixOf_iff_prefix.mp (Bool.and_eq_true_iff.mp hc).2)]
    rfl
  | case4 c cs k cur _ ih => rw [ih, List.reverse_cons, List.append_assoc]; rfl

/-- **split_join**: for a non-empty separator, joining what `split` returns (with any
    limit on the number of splits) with the separator gives the string back. -/
theorem split_join (s sep : Str) (k : Option Nat) (hsep : sep ≠ []) :
    join sep (splitSep s sep k) = s :=
  join_splitGo sep hsep s 0 k []

/-- the same through yaql's `split` with an explicit separator -/
theorem split_join_yaql (cfg : Cfg) (s sep : Str) (m : Int) (hsep : sep ≠ []) :
    ∃ l, split cfg s (some sep) m = .ok l ∧ join sep l = s := by
  cases sep with
  | nil => exact absurd rfl hsep
  | cons d ds => exact ⟨_, rfl, split_join s (d :: ds) _ (by simp)⟩

theorem splitGo_scan (sep : Str) (s : Str) (k : Option Nat) (cur : Str) (i : Nat)
    (h : more k = false ∨ ∀ j, j < i → ¬ Occurs s sep j) :
    splitGo sep s 0 k cur = splitGo sep (s.drop i) 0 k ((s.take i).reverse ++ cur) := by
  induction i generalizing s cur with
  | zero => rfl
  | succ i ih =>
    cases s with
    | nil => rfl
    | cons c cs =>
      have hc : (more k && sep.isPrefixOf (c :: cs)) = false :=
        h.elim (fun h => by rw [h, Bool.false_and])
          fun h => by rw [show sep.isPrefixOf (c :: cs) = false from occursAt_false_iff.mpr (h 0 i.succ_pos),
            Bool.and_false]
      rw [splitGo, hc, if_neg Bool.false_ne_true,
        ih cs (c :: cur) (h.imp_right fun h j hj => h (j + 1) (Nat.succ_lt_succ hj)),
        List.take_succ_cons, List.reverse_cons, List.append_assoc]
      rfl

theorem splitGo_no_occ (sep : Str) (s : Str) (k : Option Nat) (cur : Str)
    (h : more k = false ∨ ∀ j, ¬ Occurs s sep j) : splitGo sep s 0 k cur = [cur.reverse ++ s] := by
  rw [splitGo_scan sep s k cur s.length (h.imp_right fun h j _ => h j), List.drop_length, List.take_length,
    splitGo, List.reverse_append, List.reverse_reverse]

theorem splitGo_first_occ (sep : Str) (hsep : sep ≠ []) (s : Str) (k : Option Nat) (cur : Str) (i : Nat)
    (hk : more k = true) (hocc : Occurs s sep i) (hfirst : ∀ j, j < i → ¬ Occurs s sep j) :
    splitGo sep s 0 k cur =
      (cur.reverse ++ s.take i) :: splitGo sep (s.drop (i + sep.length)) 0 (decr k) [] := by
  rw [splitGo_scan sep s k cur i (.inr hfirst), ← List.drop_drop]
  unfold Occurs at hocc
  generalize s.drop i = t at hocc ⊢
  cases t with
  | nil => exact absurd (List.prefix_nil.mp hocc) hsep
  | cons c cs =>
    rw [splitGo, hk, List.isPrefixOf_iff_prefix.mpr hocc, Bool.true_and, if_pos rfl, splitGo_skip,
      drop_length_cons hsep, List.reverse_append, List.reverse_reverse]

/-- `sep` does not occur in `p ++ sep` before its final position: `p` is separator-free
    and no occurrence straddles the border between `p` and a following separator -/
def NoEarly (sep p : Str) : Prop := ∀ j, j < p.length → ¬ Occurs (p ++ sep) sep j

theorem occurs_append {sep x rest : Str} {j : Nat} (h : j + sep.length ≤ x.length) :
    Occurs (x ++ rest) sep j ↔ Occurs x sep j := by
  unfold Occurs
  rw [List.drop_append_of_le_length (Nat.le_of_add_right_le h)]
  exact ⟨fun h1 => List.prefix_of_prefix_length_le h1 (List.prefix_append _ _)
      (by rw [List.length_drop]; omega), fun h1 => h1.trans (List.prefix_append _ _)⟩

theorem NoEarly.no_occ {sep p : Str} (h : NoEarly sep p) (hsep : sep ≠ []) (j : Nat) : ¬ Occurs p sep j := by
  intro hocc
  have hlen : sep.length ≤ (p.drop j).length := hocc.length_le
  have hpos := List.length_pos_iff.mpr hsep
  rw [List.length_drop] at hlen
  exact h j (by omega) ((occurs_append (by omega)).mpr hocc)

theorem NoEarly.first {sep p : Str} (h : NoEarly sep p) (rest : Str) :
    Occurs (p ++ sep ++ rest) sep p.length ∧ ∀ j, j < p.length → ¬ Occurs (p ++ sep ++ rest) sep j := by
  refine ⟨?_, fun j hj hocc => h j hj ((occurs_append ?_).mp hocc)⟩
  · unfold Occurs
    rw [List.append_assoc, List.drop_left]
    exact List.prefix_append _ _
  · rw [List.length_append]; omega

/-- **join_split**: splitting (without limit) the join of a non-empty list of pieces gives the
    pieces back, provided no piece lets the separator start before the piece's end. -/
theorem join_split (sep : Str) (hsep : sep ≠ []) (pieces : List Str) (hne : pieces ≠ [])
    (hp : ∀ p ∈ pieces, NoEarly sep p) :
    splitSep (join sep pieces) sep none = pieces := by
  induction pieces with
  | nil => exact absurd rfl hne
  | cons p l ih =>
    have hp1 := hp p List.mem_cons_self
    cases l with
    | nil => exact splitGo_no_occ sep p none [] (.inr (hp1.no_occ hsep))
    | cons q r =>
      have ⟨h1, h2⟩ := hp1.first (join sep (q :: r))
      have := ih (List.cons_ne_nil _ _) fun x hx => hp x (List.mem_cons_of_mem _ hx)
      unfold splitSep at this ⊢
      rw [join_cons _ _ _ (List.cons_ne_nil _ _), splitGo_first_occ sep hsep _ none [] p.length rfl h1 h2]
      simp only [List.append_assoc, ← List.drop_drop, List.drop_left, List.take_left]
      exact congrArg (List.cons p) this

/-- for a one-character separator "separator-free" is all that is needed -/
theorem noEarly_single (c : Char) (p : Str) (h : c ∉ p) : NoEarly [c] p := by
  intro j hj hocc
  unfold Occurs at hocc
  rw [List.drop_append_of_le_length (Nat.le_of_lt hj), ← List.getElem_cons_drop hj] at hocc
  exact h ((List.cons_prefix_cons.mp hocc).1 ▸ List.getElem_mem hj)

theorem join_split_char (c : Char) (pieces : List Str) (hne : pieces ≠ []) (hp : ∀ p ∈ pieces, c ∉ p) :
    splitSep (join [c] pieces) [c] none = pieces :=
  join_split [c] (by simp) pieces hne (fun p h => noEarly_single c p (hp p h))

/-- `rsplit` is `split` read from the right, so the same law holds -/
theorem rsplit_join (s sep : Str) (k : Option Nat) (hsep : sep ≠ []) :
    join sep (rsplitSep s sep k) = s := by
  have hrev : ∀ (l : List Str), join sep ((l.map List.reverse).reverse) = (join sep.reverse l).reverse := by
    intro l
    induction l with
    | nil => rfl
    | cons p l ih =>
      cases l with
      | nil => rfl
      | cons q r =>
        rw [List.map_cons, List.reverse_cons, join_append_singleton _ _ _ (by simp), ih,
          join_cons _ _ _ (List.cons_ne_nil _ _)]
        simp only [List.reverse_append, List.reverse_reverse, List.append_assoc]
  rw [rsplitSep, hrev, split_join _ _ _ (by simpa using hsep), List.reverse_reverse]

/-! ### trim / norm / isEmpty -/

theorem dropWhile_eq_nil {α : Type} {p : α → Bool} {l : List α} : l.dropWhile p = [] ↔ ∀ x ∈ l, p x = true := by
  induction l with
  | nil => exact ⟨fun _ _ h => (nomatch h), fun _ => rfl⟩
  | cons c cs ih =>
    by_cases h : p c = true
    · rw [List.dropWhile_cons_of_pos h, ih, List.forall_mem_cons]; exact (and_iff_right h).symm
    · rw [List.dropWhile_cons_of_neg h]
      exact ⟨fun e => (nomatch e), fun hh => absurd (hh c List.mem_cons_self) h⟩

theorem mem_takeWhile {α : Type} {p : α → Bool} {l : List α} {c : α} (h : c ∈ l.takeWhile p) : p c = true :=
  List.all_eq_true.mp List.all_takeWhile c h

theorem head?_dropWhile {α : Type} {p : α → Bool} {l : List α} {c : α} (h : c ∈ (l.dropWhile p).head?) :
    p c = false := by
  have := List.head?_dropWhile_not p l
  rw [Option.mem_def.mp h] at this
  simpa using this

theorem dropWhile_fix {α : Type} {p : α → Bool} {l : List α} (h : ∀ c ∈ l.head?, p c = false) :
    l.dropWhile p = l := by
  cases l with
  | nil => rfl
  | cons c cs => exact List.dropWhile_cons_of_neg (Bool.eq_false_iff.mp (h c rfl))

theorem dropWhile_idem {α : Type} (p : α → Bool) (l : List α) : (l.dropWhile p).dropWhile p = l.dropWhile p :=
  dropWhile_fix fun _ => head?_dropWhile

theorem lstrip_idem (p : Char → Bool) (s : Str) : lstripBy p (lstripBy p s) = lstripBy p s :=
  dropWhile_idem p s

theorem rstrip_idem (p : Char → Bool) (s : Str) : rstripBy p (rstripBy p s) = rstripBy p s := by
  simp [rstripBy, dropWhile_idem]

theorem rstrip_prefix (p : Char → Bool) (t : Str) : rstripBy p t <+: t := by
  have h := List.reverse_prefix.mpr (List.dropWhile_suffix p (l := t.reverse))
  rwa [List.reverse_reverse] at h

theorem head?_of_prefix {α : Type} {r t : List α} {c : α} (hp : r <+: t) (h : c ∈ r.head?) : c ∈ t.head? := by
  obtain ⟨u, rfl⟩ := hp
  cases r with
  | nil => cases h
  | cons d r => exact h

/-- stripping on the right does not uncover anything to strip on the left -/
theorem lstrip_rstrip (p : Char → Bool) (s : Str) :
    lstripBy p (rstripBy p (lstripBy p s)) = rstripBy p (lstripBy p s) :=
  dropWhile_fix fun _ hc => head?_dropWhile (head?_of_prefix (rstrip_prefix p _) hc)

/-- **trim_idem**: trimming twice is trimming once (all three variants, any `chars`) -/
theorem trim_idem (cfg : Cfg) (s : Str) (chars : Option Str) :
    trim cfg (trim cfg s chars) chars = trim cfg s chars ∧
    trimLeft cfg (trimLeft cfg s chars) chars = trimLeft cfg s chars ∧
    trimRight cfg (trimRight cfg s chars) chars = trimRight cfg s chars := by
  refine ⟨?_, lstrip_idem _ _, rstrip_idem _ _⟩
  simp only [trim, stripBy]
  rw [lstrip_rstrip, rstrip_idem]

theorem stripBy_eq_nil (p : Char → Bool) (s : Str) : stripBy p s = [] ↔ ∀ c ∈ s, p c = true := by
  unfold stripBy rstripBy lstripBy
  rw [List.reverse_eq_nil_iff, dropWhile_eq_nil]
  simp only [List.mem_reverse]
  rw [← dropWhile_eq_nil, dropWhile_idem, dropWhile_eq_nil]

/-- what `trim` removes and what it leaves: the string is `pre ++ trim s ++ suf` with
    `pre`, `suf` made of trimmed characters only, and the result neither begins nor ends
    with such a character -/
theorem trim_spec (cfg : Cfg) (s : Str) (chars : Option Str) :
    let p := stripClass cfg chars
    let t := trim cfg s chars
    ∃ pre suf, s = pre ++ t ++ suf ∧ (∀ c ∈ pre, p c = true) ∧ (∀ c ∈ suf, p c = true) ∧
      (∀ c ∈ t.head?, p c = false) ∧ (∀ c ∈ t.getLast?, p c = false) := by
  intro p t
  let l := s.dropWhile p
  have ht : t = (l.reverse.dropWhile p).reverse := rfl
  refine ⟨s.takeWhile p, (l.reverse.takeWhile p).reverse, ?_, fun c hc => mem_takeWhile hc,
    fun c hc => mem_takeWhile (List.mem_reverse.mp hc),
    fun c hc => head?_dropWhile (head?_of_prefix (rstrip_prefix p (lstripBy p s)) hc), fun c hc => ?_⟩
  · rw [ht, List.append_assoc, ← List.reverse_append, List.takeWhile_append_dropWhile, List.reverse_reverse]
    exact List.takeWhile_append_dropWhile.symm
  · rw [ht, List.getLast?_reverse] at hc
    exact head?_dropWhile hc

theorem norm_some (cfg : Cfg) (t : Str) (chars : Option Str) :
    norm cfg (some t) chars = if trim cfg t chars = [] then none else some (trim cfg t chars) := by
  unfold norm trim
  simp only [List.isEmpty_iff]

/-- **norm_none_iff_empty**: `norm` answers `null` exactly for `null` and for strings made
    of trimmed characters only, i.e. exactly when `isEmpty` (with trimming) answers true;
    otherwise it answers the trimmed string. -/
theorem norm_none_iff_empty (cfg : Cfg) (s : Option Str) (chars : Option Str) :
    (norm cfg s chars = none ↔ isEmpty cfg s true chars = true) ∧
    (norm cfg s chars = none ↔ ∀ t, s = some t → ∀ c ∈ t, stripClass cfg chars c = true) ∧
    (∀ v, norm cfg s chars = some v → ∃ t, s = some t ∧ v = trim cfg t chars ∧ v ≠ []) := by
  cases s with
  | none => exact ⟨⟨fun _ => rfl, fun _ => rfl⟩, ⟨fun _ _ h => (nomatch h), fun _ => rfl⟩, fun _ h => nomatch h⟩
  | some t =>
    have key : trim cfg t chars = [] ↔ ∀ c ∈ t, stripClass cfg chars c = true := stripBy_eq_nil _ t
    have hn : norm cfg (some t) chars = none ↔ trim cfg t chars = [] := by
      rw [norm_some]
      split
      · next h => exact ⟨fun _ => h, fun _ => rfl⟩
      · next h => exact ⟨fun e => (nomatch e), fun e => absurd e h⟩
    refine ⟨hn.trans List.isEmpty_iff.symm,
      hn.trans (key.trans ⟨fun h _ e => Option.some.inj e ▸ h, fun h => h t rfl⟩), fun v hv => ?_⟩
    rw [norm_some] at hv
    split at hv
    · cases hv
    · next h => cases hv; exact ⟨t, rfl, rfl, h⟩

/-- **isEmpty_iff**: `null` is empty; with trimming a string is empty iff all its characters are
    trimmed ones, without trimming iff it is `''` -/
theorem isEmpty_iff (cfg : Cfg) (chars : Option Str) :
    isEmpty cfg none true chars = true ∧ isEmpty cfg none false chars = true ∧
    (∀ t, isEmpty cfg (some t) true chars = true ↔ ∀ c ∈ t, stripClass cfg chars c = true) ∧
    (∀ t, isEmpty cfg (some t) false chars = true ↔ t = []) := by
  refine ⟨rfl, rfl, ?_, ?_⟩
  · intro t
    simp only [isEmpty, if_true, List.isEmpty_iff]
    exact stripBy_eq_nil _ _
  · intro t
    simp [isEmpty]

/-! ### replace: `new.join(s.split(old))` -/

theorem pyReplace_cons (old new : Str) (hold : old ≠ []) (s : Str) (k : Option Nat) :
    pyReplace s old new k = replaceGo old new s 0 k := by
  cases old with
  | nil => exact absurd rfl hold
  | cons d ds => rfl

/-- the loops of `replace` and `split` take the same steps: where one emits `new`, the other
    closes a piece -/
theorem replaceGo_eq_join_splitGo (old new : Str) (s : Str) (skip : Nat) (k : Option Nat) (cur : Str) :
    cur.reverse ++ replaceGo old new s skip k = join new (splitGo old s skip k cur) := by
  fun_induction splitGo old s skip k cur with
  | case1 => rw [replaceGo, List.append_nil]; rfl
  | case2 _ _ _ _ _ ih => exact ih
  | case3 c cs k cur hc ih =>
    rw [replaceGo, if_pos hc, join_cons _ _ _ (splitGo_ne_nil _ _ _ _ _), ← ih, List.reverse_nil,
      List.nil_append, List.append_assoc]
  | case4 c cs k cur hc ih => rw [replaceGo, if_neg hc, ← ih, List.reverse_cons, List.append_assoc]; rfl

theorem replace_eq_join_split (s old new : Str) (k : Option Nat) (hold : old ≠ []) :
    pyReplace s old new k = join new (splitSep s old k) := by
  rw [pyReplace_cons old new hold]
  exact replaceGo_eq_join_splitGo old new s 0 k []

theorem replace_no_occ (s old new : Str) (k : Option Nat) (hold : old ≠ [])
    (h : more k = false ∨ ∀ j, ¬ Occurs s old j) : pyReplace s old new k = s := by
  rw [replace_eq_join_split s old new k hold, splitSep, splitGo_no_occ old s k [] h]; rfl

theorem replace_first_occ (s old new : Str) (k : Option Nat) (i : Nat) (hold : old ≠ [])
    (hk : more k = true) (hocc : Occurs s old i) (hfirst : ∀ j, j < i → ¬ Occurs s old j) :
    pyReplace s old new k = s.take i ++ new ++ pyReplace (s.drop (i + old.length)) old new (decr k) := by
  rw [replace_eq_join_split _ old new _ hold, replace_eq_join_split _ old new _ hold, splitSep,
    splitGo_first_occ old hold s k [] i hk hocc hfirst, join_cons _ _ _ (splitGo_ne_nil _ _ _ _ _)]
  rfl

theorem more_limitOf {count : Int} (h : count ≠ 0) : more (limitOf count) = true := by
  unfold limitOf
  split
  · rfl
  · rcases h' : count.toNat with _ | n
    · omega
    · rfl

theorem decr_limitOf {count : Int} (h : count ≠ 0) :
    decr (limitOf count) = limitOf (if count < 0 then count else count - 1) := by
  unfold limitOf
  by_cases hneg : count < 0
  · simp only [if_pos hneg]; rfl
  · simp only [if_neg hneg, if_neg (show ¬ count - 1 < 0 by omega)]
    exact congrArg some (Int.toNat_sub' count 1).symm

/-- **replace_count**.  For a non-empty `old`: `count = 0` changes nothing; a string without
    an occurrence is unchanged; otherwise the FIRST occurrence (at `i`) is replaced and the
    same is done to the rest of the string AFTER that occurrence (non-overlapping, left to
    right) with one replacement less when `count` is positive and without limit when it is
    negative. -/
theorem replace_count (s old new : Str) (hold : old ≠ []) :
    replace s old new 0 = s ∧
    (∀ count, (∀ j, ¬ Occurs s old j) → replace s old new count = s) ∧
    (∀ count i, count ≠ 0 → Occurs s old i → (∀ j, j < i → ¬ Occurs s old j) →
      replace s old new count =
        s.take i ++ new ++ replace (s.drop (i + old.length)) old new (if count < 0 then count else count - 1)) := by
  refine ⟨replace_no_occ s old new _ hold (.inl rfl), fun count h => replace_no_occ s old new _ hold (.inr h),
    fun count i hc hocc hfirst => ?_⟩
  unfold replace
  rw [replace_first_occ s old new _ i hold (more_limitOf hc) hocc hfirst, decr_limitOf hc]

/-- the empty `old`: `new` goes in front of every character and at the end -/
theorem replace_empty_all (s new : Str) : pyReplace s [] new none = new ++ s.flatMap (fun c => c :: new) := by
  simp only [pyReplace]
  induction s with
  | nil => simp [interleave, more]
  | cons c cs ih => simp [interleave, more, decr, ih]

/-- **replace_dict_sequential**: the dict form applies the pairs one after the other, in
    insertion order, each to the result of the previous replacement -/
theorem replace_dict_sequential (s : Str) (count : Int) :
    replaceDict s [] count = s ∧
    (∀ k v rest, replaceDict s ((k, v) :: rest) count =
      replaceDict (replace s (strOf k) (strOf v) count) rest count) ∧
    (∀ l1 l2, replaceDict s (l1 ++ l2) count = replaceDict (replaceDict s l1 count) l2 count) := by
  refine ⟨rfl, fun _ _ _ => rfl, fun l1 l2 => ?_⟩
  simp [replaceDict, List.foldl_append]

/-- the order of the pairs matters (docstring example of `replace_with_dict`) -/
theorem replace_dict_order_matters :
    replaceDict "abc ab abc".toList [(.str "abc".toList, .str "xx".toList), (.str "ab".toList, .str "yy".toList)] (-1)
      = "xx yy xx".toList ∧
    replaceDict "abc ab abc".toList [(.str "ab".toList, .str "yy".toList), (.str "abc".toList, .str "xx".toList)] (-1)
      = "yyc yy yyc".toList ∧
    replaceDict "abc ab abc".toList [(.str "ab".toList, .str "yy".toList), (.str "abc".toList, .str "xx".toList)] 1
      = "yyc ab xx".toList := by
  decide +kernel

/-- **starts_ends**: some listed prefix (suffix) begins (ends) the string; none for the empty list -/
theorem starts_ends (s : Str) (ps : List Str) :
    (startsWith s ps = true ↔ ∃ p ∈ ps, ∃ t, s = p ++ t) ∧
    (endsWith s ps = true ↔ ∃ p ∈ ps, ∃ t, s = t ++ p) := by
  simp only [startsWith, endsWith, List.any_eq_true, List.isPrefixOf_iff_prefix, List.isSuffixOf_iff_suffix,
    List.IsPrefix, List.IsSuffix, eq_comm (a := s), and_self]

/-- `in`: some occurrence anywhere in the string -/
theorem isIn_iff (l r : Str) : isIn l r = true ↔ ∃ i, i ≤ r.length ∧ Occurs r l i := by
  simp only [isIn, findUp_eq_find?, List.find?_isSome, List.mem_range'_1, occursAt_iff]
  exact exists_congr fun i => and_congr_left' (by omega)

/-! ### the hypotheses are satisfiable, the functions compute: concrete instances -/

section examples
def S (s : String) : Str := s.toList

example : splitSep (S "a,b,,c") (S ",") none = [S "a", S "b", S "", S "c"] := by decide +kernel
example : splitSep (S "aaa") (S "aa") none = [S "", S "a"] ∧ rsplitSep (S "aaa") (S "aa") none = [S "a", S ""] := by decide +kernel
example : splitSep (S "a,b,,c") (S ",") (some 2) = [S "a", S "b", S ",c"] := by decide +kernel
/-- `join_split` needs more than "no piece contains the separator": with separator `aa` the pieces
    `a`, `` are separator-free, yet splitting their join gives other pieces -/
example : splitSep (join (S "aa") [S "a", S ""]) (S "aa") none = [S "", S "a"] := by decide +kernel
example : NoEarly (S ", ") (S "ab") := by
  unfold NoEarly Occurs; decide +kernel
example : substring (S "abcd") (-3) 2 = S "bc" ∧ substring (S "abcd") 1 (-1) = S "bcd" ∧
    substring (S "abcd") 6 1 = S "" := by decide +kernel
example : indexOf4 (S "cabcdab") (S "ab") (-6) 2 = 1 ∧ indexOf4 (S "cabcdab") (S "ab") 2 (-1) = 5 ∧
    indexOf4 (S "cabcdab") (S "ab") 2 3 = -1 ∧ lastIndexOf4 (S "cabcdbc") (S "bc") 2 5 = 5 := by decide +kernel
example : FirstIn (S "cabcdab") (S "ab") 1 3 1 := by
  refine ⟨by omega, by simp [S], by simp [Occurs, S], fun j h1 h2 => by omega⟩
example : replace (S "aaaa") (S "aa") (S "b") 1 = S "baa" ∧ replace (S "aaaa") (S "aa") (S "b") (-1) = S "bb" ∧
    replace (S "abc") [] (S "-") 2 = S "-a-bc" := by decide +kernel
example : startsWith (S "abcd") [S "xx", S "ab"] = true ∧ endsWith (S "abcd") [] = false := by decide +kernel
end examples

end Yaql.Props.C19
