import Yaql.Gen.SrcResolve
import Yaql.Lemmas.PyPrelude
import Yaql.Lemmas.PyLoops
import Yaql.Lemmas.PyLoopsResolve
import Yaql.Props.C05
/-!
Equivalence of the definitions translated from the CURRENT yaql source (`Yaql.Gen.SrcResolve`, regenerated on every
run by harness/py2lean.py) with the hand-written model - for all inputs.

`_is_specialization_of(mapping1, mapping2)` walks the positional parameters of the two mappings with `zip`
and then the keyword parameters of `mapping1`, looking each keyword up BY KEY in `mapping2`
(`kwargs_mapping2[key]`, a `KeyError` when missing).  The model `Resolve.isSpecM` zips the two keyword lists
positionally.  The two agree when both mappings bind the same keyword names in the same order and the
names are pairwise distinct - which is the case in `runner.py`, where both mappings come from the kwargs of
one call.  Without keyword arguments no hypothesis is needed.
-/
namespace Yaql.Props.SrcResolve
open Yaql Yaql.Gen Yaql.Lemmas.PyLoops Yaql.Lemmas.PyLoopsResolve
open Yaql.Types Yaql.Resolve

/-- does the loop of `_is_specialization_of` leave with `return False` on these type pairs? -/
def specExit (L : Lattice) (ps : List (PTy × PTy)) : Bool :=
  ps.any fun p => isSpecializationOf L p.2 p.1

theorem specLoop_cons (L : Lattice) (p : PTy × PTy) (r : List (PTy × PTy)) (res : Bool) :
    specLoop L (p :: r) res =
      if isSpecializationOf L p.2 p.1 then false
      else if isSpecializationOf L p.1 p.2 then specLoop L r true
      else specLoop L r res := by
  cases p; rfl

theorem specExit_eq (L : Lattice) (ps : List (PTy × PTy)) :
    specExit L ps = !ps.all (fun p => !specializes L p.2 p.1) := by
  simp [specExit, specializes, List.all_eq_not_any_not]

/-- the model answers `false` when the source leaves with `return False` -/
theorem specLoop_of_exit (L : Lattice) (ps : List (PTy × PTy)) (res : Bool) (h : specExit L ps = true) :
    specLoop L ps res = false := by
  rw [specExit_eq, Bool.not_eq_true'] at h
  rw [C05.specLoop_eq, h, Bool.false_and]

/-- the model's single loop over the concatenated pairs is the two loops of the source one after the other -/
theorem specLoop_append (L : Lattice) (xs ys : List (PTy × PTy)) (res : Bool) :
    specLoop L (xs ++ ys) res
      = if specExit L xs then false else specLoop L ys (specLoop L xs res) := by
  rw [specExit_eq]
  simp only [C05.specLoop_eq, List.all_append, List.any_append]
  cases xs.all (fun p => !specializes L p.2 p.1) <;> simp [Bool.or_assoc]

/-- one loop of `_is_specialization_of` for an abstract body `f` that compares the pair of types `pr x` -/
theorem spec_go (L : Lattice) (f : Bool → α → Py.Step Bool (Except Py.Err Bool)) (pr : α → PTy × PTy)
    (xs : List α)
    (hf : ∀ s x, x ∈ xs → f s x =
      if isSpecializationOf L (pr x).2 (pr x).1 then .ret (.ok false)
      else .next (if isSpecializationOf L (pr x).1 (pr x).2 then true else s))
    (s : Bool) :
    Py.forLoop xs s f
      = if specExit L (xs.map pr) then .ret (.ok false) else .done (specLoop L (xs.map pr) s) := by
  induction xs generalizing s with
  | nil => simp [specExit, specLoop]
  | cons x xs ih =>
    have ih' := fun s => ih (fun s y hy => hf s y (List.mem_cons_of_mem _ hy)) s
    rw [Lemmas.PyPrelude.forLoop_cons, hf s x List.mem_cons_self]
    simp only [List.map_cons, specLoop_cons, specExit, List.any_cons] at ih' ⊢
    by_cases h1 : isSpecializationOf L (pr x).2 (pr x).1 = true
    · simp [h1]
    · by_cases h2 : isSpecializationOf L (pr x).1 (pr x).2 = true <;> simp [h1, h2, ih']

/-- `_is_specialization_of` of the source is the model's `isSpecM` whenever the two mappings bind the same
    keyword names in the same order, pairwise distinct (both come from the kwargs of one call) -/
theorem is_specialization_of_src_eq (L : Yaql.Types.Lattice)
    (mapping1 mapping2 : (List Yaql.Resolve.Param) × (List ((List Char) × Yaql.Resolve.Param)))
    (hkeys : mapping1.2.map (·.1) = mapping2.2.map (·.1)) (hnodup : (mapping1.2.map (·.1)).Nodup) :
    Yaql.Gen.SrcResolve.is_specialization_of L mapping1 mapping2
      = .ok (Yaql.Resolve.isSpecM L ⟨mapping1.1, mapping1.2⟩ ⟨mapping2.1, mapping2.2⟩) := by
  obtain ⟨pos1, kw1⟩ := mapping1
  obtain ⟨pos2, kw2⟩ := mapping2
  simp only [] at hkeys hnodup
  have hnodup2 : (kw2.map (·.1)).Nodup := hkeys ▸ hnodup
  -- the lookup `kwargs_mapping2[key]` succeeds for every key of `kwargs_mapping1`
  have hlk : ∀ x ∈ kw1, Py.dictIndex kw2 x.1 = .ok ((Py.dictGet? kw2 x.1).getD x.2) := by
    intro x hx
    obtain ⟨v, hv⟩ := dictGet?_isSome_of_keys_eq kw1 kw2 hkeys hnodup2 x hx
    simp [Py.dictIndex, hv]
  unfold SrcResolve.is_specialization_of isSpecM Mapping.typePairs
  simp only []
  rw [spec_go L _ (fun p => (p.1.ty, p.2.ty)) _ (by py_body), specLoop_append]
  by_cases h1 : specExit L ((pos1.zip pos2).map fun p => (p.1.ty, p.2.ty)) = true
  · simp only [h1, ↓reduceIte]
  · simp only [h1, Bool.false_eq_true, ↓reduceIte]
    rw [spec_go L _ (fun x => (x.2.ty, ((Py.dictGet? kw2 x.1).getD x.2).ty)) _
      (by intro s x hx; simp only [hlk x hx] <;> py_body)]
    have hz : (kw1.zip kw2).map (fun p => (p.1.2.ty, p.2.2.ty))
        = kw1.map (fun x => (x.2.ty, ((Py.dictGet? kw2 x.1).getD x.2).ty)) :=
      map_zip_of_map_eq (fun x => Py.dictGet? kw2 x.1) (fun y => some y.2)
        (fun x o => (x.2.ty, (o.getD x.2).ty)) kw1 kw2
        (map_dictGet?_of_keys_eq kw1 kw2 hkeys hnodup2)
    rw [hz]
    by_cases h2 : specExit L (kw1.map fun x => (x.2.ty, ((Py.dictGet? kw2 x.1).getD x.2).ty)) = true
    · simp only [h2, ↓reduceIte, specLoop_of_exit L _ _ h2]
    · simp only [h2, Bool.false_eq_true, ↓reduceIte]

/-- without keyword arguments in `mapping1` the second loop of the source does not run and no hypothesis is
    needed (whatever `mapping2` binds by keyword) -/
theorem is_specialization_of_src_eq_nokw (L : Yaql.Types.Lattice)
    (mapping1 mapping2 : (List Yaql.Resolve.Param) × (List ((List Char) × Yaql.Resolve.Param)))
    (hkw : mapping1.2 = []) :
    Yaql.Gen.SrcResolve.is_specialization_of L mapping1 mapping2
      = .ok (Yaql.Resolve.isSpecM L ⟨mapping1.1, mapping1.2⟩ ⟨mapping2.1, mapping2.2⟩) := by
  obtain ⟨pos1, kw1⟩ := mapping1
  obtain ⟨pos2, kw2⟩ := mapping2
  simp only [] at hkw
  subst hkw
  unfold SrcResolve.is_specialization_of isSpecM Mapping.typePairs
  simp only []
  rw [spec_go L _ (fun p => (p.1.ty, p.2.ty)) _ (by py_body)]
  by_cases h1 : specExit L ((pos1.zip pos2).map fun p => (p.1.ty, p.2.ty)) = true
  · simp [h1, specLoop_of_exit L _ _ h1]
  · simp [h1]

end Yaql.Props.SrcResolve
