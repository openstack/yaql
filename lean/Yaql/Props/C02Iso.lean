import Yaql.Model.Parser
import Yaql.Props.C02Order
import Yaql.Props.C02Levels
/-!
C02: from ply levels back to the operator list.  `WF` (Props/C02.lean) is phrased with the levels of
the generated tuple; these theorems say what those levels mean in terms of the groups of the
operator list the host configured.
-/
namespace Yaql.Props.C02Iso
open Yaql.OpTable Yaql.Syntax Yaql.Props.C02Order Yaql.Props.C02Levels Yaql.Props.C02Table

/-- ply's shift/reduce decision between an open rule and a following token is a function of their
dictionary keys: reduce iff the rule's key is emitted earlier (binds tighter), or the keys are equal
and the row is `'left'` -/
theorem reduce_by_key (d : PDict) (hdis : NamesDisjoint d) (kr kt : PKey) (nsr nst : List Str) (nr nt : Str)
    (h1 : d.get? kr = some nsr) (h2 : d.get? kt = some nst) (hn1 : nr ∈ nsr) (hn2 : nt ∈ nst)
    (hb1 : 1 ≤ kr.1 ∧ kr.1 ≤ d.length) (hb2 : 1 ≤ kt.1 ∧ kt.1 ≤ d.length) :
    reduceOver (lookupPrec (precedenceOf d) nr) (lookupPrec (precedenceOf d) nt) = true ↔
      tighterKey kr kt ∨ (kr = kt ∧ kr.2 = true) := by
  obtain ⟨a1, _, a3, a4⟩ := ply_order_iso d hdis kr kt nsr nst nr nt h1 h2 hn1 hn2 hb1 hb2
  simp only [reduceOver, Bool.or_eq_true, decide_eq_true_eq, Bool.and_eq_true, beq_iff_eq]
  rw [a3, a4, a1]
  constructor
  · rintro (h | ⟨h, h'⟩)
    · exact .inl h
    · exact .inr ⟨h.symm, h'⟩
  · rintro (h | ⟨h, h'⟩)
    · exact .inl h
    · exact .inr ⟨h.symm, h'⟩

/-- **the table decides**: unless the rule sits in the `'r'` row and the token in the `'l'` row of
one and the same group (a group mixing right-associative binaries or suffix operators with
left-associative binaries - not homogeneous), ply reduces exactly when the token's group is looser
than the rule's, or it is the same group and the token is a left-associative binary operator.  In
particular a prefix operator that shares a group with right-associative binaries (keys `(g,'l')` and
`(g,'r')`) behaves as "same level, right-associative": the r-before-l split is harmless. -/
theorem reduce_by_group (d : PDict) (hdis : NamesDisjoint d) (kr kt : PKey) (nsr nst : List Str) (nr nt : Str)
    (h1 : d.get? kr = some nsr) (h2 : d.get? kt = some nst) (hn1 : nr ∈ nsr) (hn2 : nt ∈ nst)
    (hb1 : 1 ≤ kr.1 ∧ kr.1 ≤ d.length) (hb2 : 1 ≤ kt.1 ∧ kt.1 ≤ d.length)
    (hhom : ¬ (kr.1 = kt.1 ∧ kr.2 = false ∧ kt.2 = true)) :
    reduceOver (lookupPrec (precedenceOf d) nr) (lookupPrec (precedenceOf d) nt) = true ↔
      kr.1 < kt.1 ∨ (kr.1 = kt.1 ∧ kt.2 = true) := by
  rw [reduce_by_key d hdis kr kt nsr nst nr nt h1 h2 hn1 hn2 hb1 hb2]
  obtain ⟨gr, sr⟩ := kr
  obtain ⟨gt, st⟩ := kt
  simp only [tighterKey] at *
  constructor
  · rintro ((h | ⟨h, h', h''⟩) | ⟨h, h'⟩)
    · exact .inl h
    · exact absurd ⟨h, h', h''⟩ hhom
    · injection h with e1 e2; exact .inr ⟨e1, by rw [← e2]; exact h'⟩
  · rintro (h | ⟨h, h'⟩)
    · exact .inl (.inl h)
    · subst h h'
      cases sr
      · exact absurd ⟨rfl, rfl, rfl⟩ hhom
      · exact .inr ⟨rfl, rfl⟩

/-- for a populated operator list every key of the dictionary is within the loop's range - the side
condition of `ply_order_iso` / `reduce_by_group` holds for every operator of the table -/
theorem keys_in_range (ops : OpList) (tab : Table) (hpop : Populated ops) (h : buildOperatorTable ops = .ok tab)
    (k : PKey) (ns : List Str) (hk : (funcsOf tab).pdict.get? k = some ns) :
    1 ≤ k.1 ∧ k.1 ≤ (funcsOf tab).pdict.length := by
  exact (levels_contiguous ops tab hpop h).2 k ⟨ns, mem_of_pget _ _ _ hk⟩

end Yaql.Props.C02Iso
