import Yaql.Gen.LimitFacts
import Yaql.Gen.Sizes
import Yaql.Props.C08
/-!
C08 over the tables regenerated from the live repo on every run:
`Gen.LimitFacts` (every registered function x payload parameter: declared type class and AST use facts;
every lambda whose result a payload consumes) and `Gen.Sizes` (`sys.getsizeof` constants).
-/
namespace Yaql.Props.C08Gen
open Yaql.Gen.LimitFacts Yaql.Limits

/-! ## every consumer of a lazy sequence is limited -/

/-- parameters that admit a lazy sequence, are not of a limiting type, and are handed to code the AST
    walker classifies as iterating / opaque - each justified -/
def allowedParams : List (String × String) := [
  -- `#finalize(obj)`: handed to utils.convert_output_data, which iterates nothing except through the
  -- `#iter` limiter (model: Convert.convOut; theorem C08.finalize_bounded; swept dynamically)
  ("#finalize|yaql._setup_context.<locals>.finalize", "obj")
]

/-- parameters whose *elements* are iterated by the payload - each justified -/
def allowedNested : List (String × String) := [
  -- dict(items): `it = iter(t); key = next(it); value = next(it)` - exactly two pulls per element
  ("dict|collections.dict__", "items")
]

/-- lambdas whose result is iterated by the payload without `limit_iterable` - each justified -/
def allowedProducers : List (String × String) := [
  -- selectMany: `yield from inner` - every item pulled from the producer's result is yielded at once, so
  -- the limiter of whoever consumes selectMany's result counts it (pulls <= N + 1)
  ("selectMany|queries.select_many", "selector")
]

def paramOk (r : ParamRow) : Bool :=
  (r.ty == .limiting || r.ty == .noLazy || !(r.iterates || r.escapes) || allowedParams.contains (r.fn, r.param))
  && (!r.nested || allowedNested.contains (r.fn, r.param))

/-- **C08Gen.consumers_limited** (full, every row of the live registry): every registered parameter that
    admits a lazy sequence and is iterated (or escapes the walker) is of a limiting type, and no payload
    iterates the elements of a parameter unlimited.  The rows `list_:*`, `set_:*`, `flatten:collection` are
    the ones whose payloads iterate nested lazy sequences: they pass because those payloads apply the
    iterator limit to the nested sequences too (/repo fb14b78). -/
theorem consumers_limited : ∀ r ∈ params, paramOk r = true :=
  List.all_eq_true.mp (by decide +kernel)

/-- no payload iterates (or hands to opaque code) the result of a lambda / producer it calls, except through
    `utils.limit_iterable` (`consumed` = some use of the result iterates it un-limited) -/
theorem producers_limited :
    ∀ r ∈ producers, r.consumed = false ∨ (r.fn, r.lam) ∈ allowedProducers := by
  decide +kernel

/-- non-vacuity: the table is the real registry - it has the limiting rows the sweep relies on, the `len` row
    with its `collection` of a limiting type (`len(sequence())` must stop at `limitIterators`, /repo 8898385),
    the `generateMany` producer limited (its result goes into `deque.extend`, /repo 7b573f4), and lambdas
    that are not consumed -/
theorem table_nonvacuous :
    50 ≤ (params.filter fun r => r.ty == .limiting && r.iterates).length ∧
    50 ≤ (params.filter fun r => r.ty == .admitsLazy).length ∧
    (params.any fun r => r.fn == "len|queries.count_" && r.param == "collection" && r.ty == .limiting) = true ∧
    (producers.any fun r => r.fn == "generateMany|queries.generate_many" && r.limited) = true ∧
    (params.any fun r => r.fn == "list|collections.list_" && r.param == "*" && r.ty == .admitsLazy && !r.iterates) = true ∧
    (params.any fun r => r.fn == "flatten|collections.flatten" && r.ty == .limiting && !r.nested) = true ∧
    30 ≤ producers.length := by
  -- the same tests with the strings last: comparing strings is what is slow to check
  have h :
      50 ≤ (params.filter fun r => r.ty == .limiting && r.iterates).length ∧
      50 ≤ (params.filter fun r => r.ty == .admitsLazy).length ∧
      (params.any fun r => r.ty == .limiting && r.param == "collection" && r.fn == "len|queries.count_") = true ∧
      (producers.any fun r => r.limited && r.fn == "generateMany|queries.generate_many") = true ∧
      (params.any fun r => r.ty == .admitsLazy && !r.iterates && r.param == "*" && r.fn == "list|collections.list_") = true ∧
      (params.any fun r => r.ty == .limiting && !r.nested && r.fn == "flatten|collections.flatten") = true ∧
      30 ≤ producers.length := by
    decide +kernel
  simpa only [Bool.and_comm, Bool.and_left_comm, Bool.and_assoc] using h

/-! ## the size constants of the running CPython -/

/-- the hypotheses of `C08.repeat_estimate_safe(_str)` hold for the running interpreter -/
theorem sizes_ok :
    Yaql.Gen.Sizes.cfg.tupleHdr ≤ Yaql.Gen.Sizes.cfg.listHdr ∧
    (Yaql.Gen.Sizes.cfg.strAscii ≤ Yaql.Gen.Sizes.cfg.strLatin1 ∧
     Yaql.Gen.Sizes.cfg.strAscii ≤ Yaql.Gen.Sizes.cfg.strUcs2 ∧
     Yaql.Gen.Sizes.cfg.strAscii ≤ Yaql.Gen.Sizes.cfg.strUcs4) ∧
    0 < Yaql.Gen.Sizes.cfg.ptr ∧ 0 < Yaql.Gen.Sizes.cfg.fdictOverhead := by
  decide +kernel

/-- before /repo ccc0ee2 `sys.getsizeof` of a FrozenDict was the bare wrapper: the 36952-byte table of
    `range(1000).aggregate($1.set($2, $2), {})` passed a quota of 1000; measured as now it is refused -/
theorem frozen_dict_unmeasured_old :
    limitMemory 1000 [(1, Yaql.Gen.Sizes.cfg.fdictOverhead)] = true ∧
    limitMemory 1000 [(1, Yaql.Gen.Sizes.cfg.fdictSize 36952)] = false := by
  decide +kernel

/-- **C08.repeat_estimate_safe** for the running interpreter: `left * k` that passes the check fits the quota -/
theorem repeat_estimate_safe_now (Q : Int) (hq : 0 < Q) (kind : SeqK) (n : Nat) (k : Int) (hk : 1 ≤ k)
    (h : listByIntCheck Yaql.Gen.Sizes.cfg Q kind n k = true) :
    ((Yaql.Gen.Sizes.cfg.seqSize kind (repLen n k) : Nat) : Int) ≤ Q :=
  C08.repeat_estimate_safe _ sizes_ok.1 Q hq kind n k hk h

theorem repeat_estimate_safe_str_now (Q : Int) (hq : 0 < Q) (cls : StrClass) (n : Nat) (k : Int) (hk : 1 ≤ k)
    (h : stringByIntCheck Yaql.Gen.Sizes.cfg Q cls n k = true) :
    ((Yaql.Gen.Sizes.cfg.strSize cls (repLen n k) : Nat) : Int) ≤ Q :=
  C08.repeat_estimate_safe_str _ sizes_ok.2.1 Q hq cls n k hk h

/-- the estimate before fix 1e67e83 (`[]` header) was unsafe: `[1] * 10^10` passed a quota of 100000 although
    the result needs 8 * 10^10 bytes; the current estimate refuses it -/
theorem repeat_estimate_unsafe_old :
    listByIntCheckOld Yaql.Gen.Sizes.cfg 100000 .tuple 1 10000000000 = true ∧
    (100000 : Int) < (Yaql.Gen.Sizes.cfg.seqSize .tuple (repLen 1 10000000000) : Nat) ∧
    listByIntCheck Yaql.Gen.Sizes.cfg 100000 .tuple 1 10000000000 = false ∧
    stringByIntCheck Yaql.Gen.Sizes.cfg 100000 .ascii 1 10000000000 = false := by
  decide +kernel

end Yaql.Props.C08Gen
