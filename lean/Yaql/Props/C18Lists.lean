import Yaql.Model.SharedList
import Yaql.Props.C18
/-!
C18 for raw mutable host values shared through the prepared context (`Model/SharedList.lean`):
`orderBy` over a Python list the host stored in the shared context.

* the code (`sorted(collection, ..)`: a private copy) only READS the shared list, so the generic
  isolation theorem applies: every schedule, any number of threads, any programs - the shared values
  are unchanged and every finished thread returned `den`, an explicit function of the initial shared
  values and its own program (`lists_isolated`, `lists_results`);
* sorting the shared object where it is (`list.sort`) interferes: a concurrent reader sees the list
  CPython emptied for the duration of the sort, and the shared context stays sorted
  (`inplace_sort_interferes`, `inplace_sort_changes_shared_alone`); restoring the original order at the
  end repairs only the second half (`inplace_restore_unchanged_alone`, `inplace_restore_interferes`).
-/
namespace Yaql.Props.C18
open Yaql.Sched Yaql.SharedList

theorem den_emit (s : Shared) (p : PState) (o : Out) :
    den s (emit p o) = p.outs ++ o :: p.prog.map (evalOp s) :=
  List.append_assoc ..

theorem stepsLeft_emit (s : Shared) (p : PState) (o : Out) :
    stepsLeft s (emit p o) = progCost s p.prog :=
  Nat.zero_add _

/-- what a step from the shared lists `s` must establish about its result `x`, for a thread `p0`
    whose operation in progress returns `o` in fewer than `n` more steps: the shared lists as they
    are, the denotation of `p0` after `o`, and fewer than `n` steps of the operation left -/
def Keeps (s : Shared) (p0 : PState) (o : Out) (n : Nat) (x : Shared × PState) : Prop :=
  x.1 = s ∧ den s x.2 = p0.outs ++ o :: p0.prog.map (evalOp s) ∧
    stepsLeft s x.2 < n + progCost s p0.prog

theorem Keeps.emit (s : Shared) (p0 : PState) (o : Out) {n : Nat} (hn : 0 < n) :
    Keeps s p0 o n (s, emit p0 o) :=
  ⟨rfl, den_emit .., stepsLeft_emit s p0 o ▸ Nat.lt_add_of_pos_left hn⟩

theorem Keeps.pend (s : Shared) (p0 : PState) (st : Sorting) {n : Nat} (hn : st.left + 1 < n) :
    Keeps s p0 (.rows (SharedObjs.sortRows [(st.sel, st.asc)] st.items)) n (s, { p0 with pend := some st }) :=
  ⟨rfl, rfl, Nat.add_lt_add_right hn _⟩

/-- first segment of `sorted(collection, ..)` -/
theorem start_copy (s : Shared) (p0 : PState) (v : Nat) (sel : SharedObjs.Sel) (asc : Bool) :
    Keeps s p0 (evalOp s (.sortBy v sel asc)) (opCost s (.sortBy v sel asc))
      (start .copy s p0 v sel asc) := by
  simp only [evalOp, opCost]
  unfold start
  cases s[v]? with
  | none => exact .emit s p0 _ (Nat.succ_pos _)
  | some items =>
      simp only
      split
      · exact .emit s p0 _ (Nat.succ_pos _)
      · next h =>
          exact .pend s p0 ⟨v, sel, asc, items, items.length - 1⟩
            (Nat.succ_lt_succ (Nat.sub_lt (Nat.zero_lt_of_lt (Nat.lt_of_not_le h)) Nat.one_pos))

theorem copy_step (s s' : Shared) (p p' : PState)
    (h : (machine .copy).step s p = .inl (s', p')) :
    s' = s ∧ den s p' = den s p ∧ stepsLeft s p' < stepsLeft s p := by
  obtain ⟨prog, pend, outs⟩ := p
  cases pend with
  | some st =>
      simp only [machine, SharedList.step] at h
      split at h
      · cases h
        exact Keeps.emit s ⟨prog, none, outs⟩ _ (Nat.succ_pos st.left)
      · next h0 =>
          cases h
          exact Keeps.pend s ⟨prog, none, outs⟩ { st with left := st.left - 1 }
            (Nat.succ_lt_succ (Nat.sub_lt (Nat.pos_of_ne_zero h0) Nat.one_pos))
  | none =>
      cases prog with
      | nil => cases h
      | cons op rest =>
          have k : Keeps s ⟨rest, none, outs⟩ (evalOp s op) (opCost s op) (s', p') := by
            cases op with
            | read v => cases h; exact .emit _ _ _ Nat.one_pos
            | sortBy v sel asc => exact Sum.inl.inj h ▸ start_copy s _ v sel asc
          exact ⟨k.1, k.2.1, Nat.lt_of_lt_of_eq k.2.2 (Nat.zero_add _).symm⟩

theorem copy_readOnly : ReadOnly (machine .copy) (fun _ => True) :=
  fun s p s' p' _ h => ⟨(copy_step s s' p p' h).1, trivial⟩

/-- **C18 for shared host lists (isolation).**  With the copying sort: any number of threads, any
    programs of sorts and reads over the shared lists, EVERY schedule - the shared lists are what they
    were, and every finished thread returned its (unique) solo result. -/
theorem lists_isolated (s0 : Shared) (ps : List PState) (sched : List Nat) :
    (run (machine .copy) ⟨s0, ps.map .running⟩ sched).shared = s0 ∧
    ∀ (i : Nat) (r : List Out),
      (run (machine .copy) ⟨s0, ps.map .running⟩ sched).threads[i]? = some (Thread.done r) →
      ∃ t, (ps.map (Thread.running (R := List Out)))[i]? = some t ∧
        SoloResult (machine .copy) s0 t r ∧ ∀ r', SoloResult (machine .copy) s0 t r' → r' = r :=
  isolation (machine .copy) (fun _ => True) copy_readOnly ⟨s0, ps.map .running⟩
    (TInv.running fun _ _ => trivial) sched

/-! ## the solo result is `den` -/

theorem copy_done_den (s : Shared) (p : PState) (r : List Out)
    (h : (machine .copy).step s p = .inr r) : r = den s p := by
  obtain ⟨prog, pend, outs⟩ := p
  cases pend with
  | some st =>
      simp only [machine, SharedList.step] at h
      split at h <;> cases h
  | none =>
      cases prog with
      | nil => exact (Sum.inr.inj h).symm.trans (List.append_nil _).symm
      | cons op rest => cases op <;> cases h

theorem lists_solo_is_den (s : Shared) (p : PState) :
    SoloResult (machine .copy) s (.running p) (den s p) :=
  solo_of_denotation (machine .copy) (· = s) (fun _ => True) (den s) (stepsLeft s)
    (fun s1 p s' p' hs _ hst => by
      subst hs
      exact ⟨(copy_step _ s' p p' hst).1, trivial, (copy_step _ s' p p' hst).2⟩)
    (fun s1 p r hs _ hst => hs ▸ copy_done_den s1 p r hst) _ s p (Nat.lt_succ_self _) rfl trivial

/-- **the results are schedule-independent and explicit**: every finished thread returned `den` of the
    INITIAL shared values and its own program - per operation the rows of the variable, sorted for a
    `sortBy` (`SharedList.evalOp`) -/
theorem lists_results (s0 : Shared) (ps : List PState) (sched : List Nat) (i : Nat) (r : List Out)
    (h : (run (machine .copy) ⟨s0, ps.map .running⟩ sched).threads[i]? = some (Thread.done r)) :
    ∃ p, ps[i]? = some p ∧ r = den s0 p :=
  finished_eq (machine .copy) s0 ps (den s0) (fun p _ => lists_solo_is_den s0 p) i r
    ((lists_isolated s0 ps sched).2 i r h)

/-- a program that has not started returns, per operation, `evalOp` of the initial shared values -/
theorem lists_results_fresh (s0 : Shared) (progs : List (List Op)) (sched : List Nat) (i : Nat) (r : List Out)
    (h : (run (machine .copy) ⟨s0, (progs.map fun pr => ({ prog := pr } : PState)).map .running⟩ sched).threads[i]?
      = some (Thread.done r)) :
    ∃ pr, progs[i]? = some pr ∧ r = pr.map (evalOp s0) := by
  obtain ⟨p, hp, hr⟩ := lists_results s0 _ sched i r h
  obtain ⟨pr, hpr, rfl⟩ := Option.map_eq_some_iff.mp (List.getElem?_map .. ▸ hp)
  exact ⟨pr, hpr, hr.trans (List.nil_append _)⟩

/-! ## non-vacuity and the negative witnesses -/

/-- `$hosts = [(4,0), (1,0), (3,0), (2,0)]`; thread 0 sorts it, thread 1 reads it -/
def exShared : Shared := [[(4, 0), (1, 0), (3, 0), (2, 0)]]
def exSorter : PState := { prog := [.sortBy 0 .fst true] }
def exReader : PState := { prog := [.read 0] }
def exSys : Sys Shared PState (List Out) := ⟨exShared, [.running exSorter, .running exReader]⟩

/-- the reader runs while the sorter is between two key-selector calls -/
def exSched : List Nat := [0, 0, 1, 1, 0, 0, 0, 0]

/-- the code: both threads finish with their solo results, the shared list is untouched -/
example : (run (machine .copy) exSys exSched).shared = exShared ∧
    results (run (machine .copy) exSys exSched) =
      [some [.rows [(1, 0), (2, 0), (3, 0), (4, 0)]], some [.rows [(4, 0), (1, 0), (3, 0), (2, 0)]]] := by decide +kernel

example : den exShared exSorter = [.rows [(1, 0), (2, 0), (3, 0), (4, 0)]] ∧
    den exShared exReader = [.rows [(4, 0), (1, 0), (3, 0), (2, 0)]] := by decide +kernel

/-- **in-place sort of a shared list interferes**: under `exSched` the reader returns the EMPTY list
    (alone: the four rows), and the shared context holds the sorted list afterwards -/
theorem inplace_sort_interferes :
    results (run (machine .inPlace) exSys exSched) =
      [some [.rows [(1, 0), (2, 0), (3, 0), (4, 0)]], some [.rows []]] ∧
    soloResult? (machine .inPlace) 8 exShared (.running exReader) = some [.rows [(4, 0), (1, 0), (3, 0), (2, 0)]] ∧
    (run (machine .inPlace) exSys exSched).shared = [[(1, 0), (2, 0), (3, 0), (4, 0)]] ∧
    (run (machine .inPlace) exSys exSched).shared ≠ exShared := by decide +kernel

/-- no second thread is needed for the second clause of the property: ONE evaluation leaves the
    shared context changed -/
theorem inplace_sort_changes_shared_alone :
    (soloIter (machine .inPlace) 6 (exShared, .running exSorter)).2 = .done [.rows [(1, 0), (2, 0), (3, 0), (4, 0)]] ∧
    (soloIter (machine .inPlace) 6 (exShared, .running exSorter)).1 ≠ exShared := by decide +kernel

/-- restoring the original order at the end repairs the context after a lone evaluation ... -/
theorem inplace_restore_unchanged_alone :
    (soloIter (machine .inPlaceRestore) 6 (exShared, .running exSorter)) =
      (exShared, .done [.rows [(1, 0), (2, 0), (3, 0), (4, 0)]]) := by decide +kernel

/-- ... but not what a concurrent reader sees while the sort is running -/
theorem inplace_restore_interferes :
    results (run (machine .inPlaceRestore) exSys exSched) =
      [some [.rows [(1, 0), (2, 0), (3, 0), (4, 0)]], some [.rows []]] ∧
    (run (machine .inPlaceRestore) exSys exSched).shared = exShared := by decide +kernel

/-- two concurrent in-place sorts of the same list: the second one finds the emptied list and returns
    no rows at all -/
theorem inplace_two_sorters_interfere :
    results (run (machine .inPlace) ⟨exShared, [.running exSorter, .running exSorter]⟩ [0, 0, 1, 1, 0, 0, 0, 0]) =
      [some [.rows [(1, 0), (2, 0), (3, 0), (4, 0)]], some [.rows []]] := by decide +kernel

end Yaql.Props.C18
