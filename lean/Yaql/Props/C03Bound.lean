import Yaql.Props.C03
/-!
C03, boundary-size tokens in every syntactic position.

A grammar error is raised as `YaqlGrammarException(expr, value, position)`, whose constructor FORMATS the
value of the offending token into the message.  So "parsing is total" also needs: whatever token the lexer
hands to the parser - wherever in the text it stands, whether the grammar expects a value there or not -
carries a value that can be turned into text.  The one conversion the interpreter refuses is `str()` of an
integer with more than `sys.get_int_max_str_digits()` digits.  `tokens_printable`: every integer a token
carries is below `10 ^ maxDigits` (numerals beyond the limit never become tokens: they stop the lexer with
`YaqlLexicalException` at their first character, `over_limit_numeral_stops`).
-/
namespace Yaql.Props.C03Bound
open Yaql.Lexer Yaql.Syntax Yaql.Parse Yaql.Props.C03Lex Yaql.Props.C03

/-- the value can be formatted into an error message under the interpreter's digit limit (`0` = no limit) -/
def Printable (limit : Nat) : TokVal → Prop
  | .int n => limit = 0 ∨ n < 10 ^ limit
  | _ => True

theorem foldl_digits_lt (cc : CharCfg) : ∀ (ds : List Char) (a : Nat), (∀ d ∈ ds, cc.isDigit d = true) →
    ds.foldl (fun a d => 10 * a + cc.digitVal d) a + 1 ≤ (a + 1) * 10 ^ ds.length
  | [], a, _ => by simp
  | d :: r, a, h => by
      have hd : cc.digitVal d < 10 := cc.digit_lt d (h d (by simp))
      have ih := foldl_digits_lt cc r (10 * a + cc.digitVal d) (fun x hx => h x (by simp [hx]))
      simp only [List.foldl_cons, List.length_cons]
      have h1 : (10 * a + cc.digitVal d + 1) * 10 ^ r.length ≤ (10 * (a + 1)) * 10 ^ r.length :=
        Nat.mul_le_mul_right _ (by omega)
      have h2 : (10 * (a + 1)) * 10 ^ r.length = (a + 1) * 10 ^ (r.length + 1) := by
        rw [Nat.pow_succ, Nat.mul_comm 10 (a + 1), Nat.mul_assoc, Nat.mul_comm 10 (10 ^ r.length)]
      exact Nat.le_trans ih (Nat.le_trans h1 (Nat.le_of_eq h2))

/-- a string of `n` digits denotes a number below `10 ^ n` -/
theorem digitsVal_lt (cc : CharCfg) (ds : List Char) (h : ∀ d ∈ ds, cc.isDigit d = true) :
    digitsVal cc ds < 10 ^ ds.length := by
  have := foldl_digits_lt cc ds 0 h
  simp only [digitsVal]
  omega

theorem convNumber_printable (cfg : LexCfg) (m : NumMatch) (pos : Nat) (t : Token) (len : Nat)
    (hd : ∀ d ∈ m.int, cfg.chars.isDigit d = true) (h : convNumber cfg m pos = .tok t len) :
    Printable cfg.maxDigits t.val := by
  rcases (conversions_total cfg).1 m pos with ⟨_, hlim, hc⟩ | ⟨d2, _, hc⟩ | ⟨_, _, _, hc⟩
  · rw [hc] at h
    injection h with h1 _
    subst h1
    simp only [Printable]
    by_cases h0 : cfg.maxDigits = 0
    · exact Or.inl h0
    · refine Or.inr ?_
      have hle : m.int.length ≤ cfg.maxDigits := by
        cases Nat.lt_or_ge cfg.maxDigits m.int.length with
        | inl hlt => exact absurd ⟨h0, hlt⟩ hlim
        | inr hge => exact hge
      exact Nat.lt_of_lt_of_le (digitsVal_lt cfg.chars m.int hd) (Nat.pow_le_pow_right (by omega) hle)
  · rw [hc] at h
    injection h with h1 _
    subst h1
    simp [Printable]
  · rw [hc] at h; cases h

/-- **a numeral beyond the digit limit never becomes a token** - wherever it stands -/
theorem over_limit_numeral_stops (cfg : LexCfg) (m : NumMatch) (pos : Nat)
    (hf : m.frac = none) (h0 : cfg.maxDigits ≠ 0) (hl : cfg.maxDigits < m.int.length) :
    convNumber cfg m pos = .err (.lexical m.int pos) := by
  rcases (conversions_total cfg).1 m pos with ⟨_, hlim, _⟩ | ⟨d2, hd, _⟩ | ⟨_, _, _, hc⟩
  · exact absurd ⟨h0, hl⟩ hlim
  · rw [hf] at hd; cases hd
  · exact hc

theorem classifyKeyword_printable (cfg : LexCfg) (w : List Char) (pos limit : Nat) :
    Printable limit (classifyKeyword cfg w pos).val := by
  fun_cases classifyKeyword cfg w pos <;> trivial

/-- only NUMBER makes integer tokens -/
theorem ruleAt_printable (cfg : LexCfg) (pw : Bool) (c : Char) (r : List Char) (pos : Nat) (t : Token) (len : Nat) :
    ruleAt cfg pw (c :: r) pos = .tok t len → Printable cfg.maxDigits t.val := by
  refine ruleAt_cases (P := fun m => m = .tok t len → Printable cfg.maxDigits t.val) cfg pw c r pos ?_ ?_ ?_ ?_ ?_ ?_ ?_
  · intro h; cases h; trivial
  · intro m hm h
    refine convNumber_printable cfg m pos t len (fun d hd => ?_) h
    rw [(matchNumber_spec cfg.chars hm).1] at hd
    exact mem_takeWhile_true hd
  · intro w _ h; cases h; trivial
  · intro w _ h; cases h; exact classifyKeyword_printable cfg _ pos _
  · intro s _ h
    unfold quotedTok at h
    split at h
    · cases h; trivial
    · cases h
  · intro s _ h; cases h; trivial
  · intro h
    unfold symbolAt at h
    split at h
    · cases h; trivial
    · split at h
      · cases h; trivial
      · cases h

/-- **every token the parser is ever given can be printed** - for every text, every operator table and
    every position of the token in the text: the integer it carries (if any) has at most `maxDigits` digits -/
theorem tokens_printable (lc : LexCfg) (text : List Char) (t : Token)
    (h : t ∈ (lexPrefix lc text).1) : Printable lc.maxDigits t.val := by
  obtain ⟨i, pw, len, hi, hr⟩ := lexPrefixGo_origin lc text 0 false 0 t h
  rw [List.drop_eq_getElem_cons hi] at hr
  exact ruleAt_printable lc pw _ _ _ t len hr

/-- **the offending token of a grammar error can be formatted into the message**: when `engine(text)`
    ends in a grammar error at position `p` and the lexer stops nowhere in the text (`hnl`: then the interleaved
    run is the batch parser on all tokens), the token standing at `p` is one the lexer produced from this
    text and its value is printable - so building `YaqlGrammarException(text, value, p)` cannot fail on it -/
theorem grammar_error_value_printable (lc : LexCfg) (pc : Cfg) (text : List Char) (p : Nat)
    (hnl : (lexPrefix lc text).2 = none)
    (h : parseText lc pc text = .grammar (some p)) :
    ∃ t ∈ (lexPrefix lc text).1, t.pos = p ∧ Printable lc.maxDigits t.val := by
  have hall : lexAll lc text = .ok (lexPrefix lc text).1 := by
    apply (lexPrefix_ok lc text _).mpr
    cases hp : lexPrefix lc text with
    | mk a b => rw [hp] at hnl; simp only at hnl; subst hnl; rfl
  have hp := parseText_eq_parse lc pc text _ hall
  rw [h] at hp
  cases hq : parse pc (lexPrefix lc text).1 with
  | ok tr => rw [hq] at hp; cases hp
  | error e =>
      cases e with
      | grammar q =>
          rw [hq] at hp
          simp only [Outcome.grammar.injEq] at hp
          subst hp
          obtain ⟨pre, t, post, _, h1, h2, _, _, _⟩ :=
            Yaql.Props.C03Parse.error_at_first_rejected_token pc _ p hq
          have hmem : t ∈ (lexPrefix lc text).1 := by rw [h1]; simp
          exact ⟨t, hmem, h2, tokens_printable lc text t hmem⟩

/-- non-vacuity: with a limit of 3 digits, `1 999` is a grammar error AT the numeral, whose value prints;
    `1 9999` stops the lexer at the numeral instead (never a token) -/
example : (lexPrefix { asciiCfg with maxDigits := 3 } ['1', ' ', '9', '9', '9']).1.map (·.val) =
    [.int 1, .int 999] := by decide
example : lexPrefix { asciiCfg with maxDigits := 3 } ['1', ' ', '9', '9', '9', '9'] =
    ([⟨.number, .int 1, 0⟩], some (.lexical ['9', '9', '9', '9'] 2)) := by decide

end Yaql.Props.C03Bound
