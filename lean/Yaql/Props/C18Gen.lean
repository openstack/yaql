import Yaql.Gen.SharedWrites
/-!
C18 over the table of write sites regenerated from the live repo on every run
(`harness/gens/sharedwrites.py`: AST walk over `yaql/__init__.py`, `yaql/language/*.py`,
`yaql/standard_library/*.py`; every assignment to an attribute / item of an object the function
did not create itself, every mutating container call on such an object, every `global` write).

The classification column is computed by the generator's rules; a write no rule explains is
`unknown`.  The theorem says there is none - except the sites listed here with their justification.
A new write site therefore breaks this file, and the check then aims its schedule search at it.
-/
namespace Yaql.Props.C18Gen
open Yaql.Gen.SharedWrites

/-- unexplained by the rules, justified by hand (key = file, function, target; no line numbers) -/
def allowed : List (String × String × String) := [
  -- `FunctionDefinition.set_parameter` fills `self.parameters` of the definition it is called on.  Evaluation
  -- reaches it only through `get_function_definition` (from `Context.register_function(callable)`, i.e. `def`
  -- and the `#finalize` fallback of `Statement.__call__`), which calls it on the `.clone()` it has just made;
  -- the decorators of `specs` call it at import time.  Dynamic side: the deep snapshot of every shared
  -- FunctionDefinition (name, flags, parameters) is compared before/after every schedule.
  ("language/specs.py", "FunctionDefinition.set_parameter", "self.parameters[name.name]"),
  ("language/specs.py", "FunctionDefinition.set_parameter", "self.parameters[arg_name]"),
  -- the decorator `specs.name(..)`: writes the definition attached to the python function being decorated;
  -- evaluation reaches it only from `def_`, which applies it to the `wrapper` it has just defined
  ("language/specs.py", "name.wrapper", "fd.name")
]

def rowOk (r : Row) : Bool :=
  r.cls != .unknown || allowed.contains (r.file, r.func, r.target)

/-- **C18Gen.no_shared_writes**: every write site of the live yaql sources is in an allowed class -
    constructor-time, ply callback on the per-parse token / production, code evaluation cannot reach,
    the context API (called by evaluation on contexts it created), an evaluation-private lazy object,
    a closure cell of the creating call, part of a fresh object, or an idempotent cache. -/
theorem no_shared_writes : ∀ r ∈ rows, rowOk r = true :=
  List.all_eq_true.mp (by decide +kernel)

/-- the sites evaluation can reach and that write something older than the call are exactly of the
    kinds the model covers: context API / items (`Model/Context`, C09/C17), the lazy objects and the
    closure cell of `memorize` (`SharedObjs.Obj`), the idempotent caches (`SharedObjs.Cache`) -/
theorem reachable_sites_modelled :
    ∀ r ∈ rows, r.reach = true →
      r.cls = .ctor ∨ r.cls = .plyCallback ∨ r.cls = .contextApi ∨ r.cls = .contextItem ∨
      r.cls = .evalPrivateObject ∨ r.cls = .closureCell ∨ r.cls = .freshDerived ∨
      r.cls = .idempotentCache ∨ allowed.contains (r.file, r.func, r.target) = true := by
  decide +kernel

def has (file func target : String) (cls : WClass) : Bool :=
  rows.any fun r => r.file == file && r.func == func && r.target == target && r.cls == cls

/-- the same tests, the class first and the file last: comparing strings is what is slow to check -/
theorem has_eq (file func target : String) (cls : WClass) :
    has file func target cls =
      rows.any fun r => r.cls == cls && (r.target == target && (r.func == func && r.file == file)) := by
  unfold has
  congr; funext r
  simp only [Bool.and_comm, Bool.and_left_comm]

/-- non-vacuity: the table is the real code - it contains the sites the property names, in the class
    the model gives them: `FrozenDict.__hash__` writes `self._hash` once, when the hash is complete (an
    idempotent cache; a hash accumulated in `self._hash` would be two `unknown` rows - /repo ff43db8 guards
    against a second thread reading it half-built), the three `yaql.eval` caches, the stateful lazy
    objects (`OrderingIterable.sorted/order`, `then_by`'s `collection.context`,
    `GroupAggregator._failure_info/allow_fallback`, `RememberingIterator.index`, `yielded`),
    `Statement.evaluate` writing `$` into the context it was given - and the lazy classes have no
    instance reachable from a prepared context, a parsed statement or an engine. -/
theorem table_nonvacuous :
    has "language/utils.py" "FrozenDict.__hash__" "self._hash" .idempotentCache = true ∧
    has "__init__.py" "eval" "_cached_engine" .idempotentCache = true ∧
    has "__init__.py" "eval" "_cached_expressions[expression]" .idempotentCache = true ∧
    has "__init__.py" "eval" "_default_context" .idempotentCache = true ∧
    has "standard_library/queries.py" "OrderingIterable.do_sort" "outer_self.sorted" .evalPrivateObject = true ∧
    has "standard_library/queries.py" "OrderingIterable.append_field" "self.order" .evalPrivateObject = true ∧
    has "standard_library/queries.py" "then_by" "collection.context" .evalPrivateObject = true ∧
    has "standard_library/queries.py" "GroupAggregator.__call__" "self._failure_info" .evalPrivateObject = true ∧
    has "standard_library/queries.py" "GroupAggregator.__call__" "self.allow_fallback" .evalPrivateObject = true ∧
    has "language/utils.py" "memorize.RememberingIterator.__next__" "self.index" .evalPrivateObject = true ∧
    has "language/utils.py" "memorize.RememberingIterator.__next__" "yielded" .closureCell = true ∧
    has "language/expressions.py" "Statement.evaluate" "context['$']" .contextItem = true ∧
    has "language/contexts.py" "Context.__setitem__" "self._data[self._normalize_name(name)]" .contextApi = true ∧
    privateKinds.contains "OrderingIterable" = true ∧ privateKinds.contains "GroupAggregator" = true ∧
    sharedKinds.contains "FrozenDict" = true ∧ sharedKinds.contains "FunctionDefinition" = true ∧
    sharedKinds.contains "Statement" = true ∧ sharedKinds.contains "Context" = true ∧
    sharedKinds.contains "OrderingIterable" = false ∧ sharedKinds.contains "RememberingIterator" = false ∧
    100 ≤ rows.length := by
  simp only [has_eq]
  decide +kernel

end Yaql.Props.C18Gen
