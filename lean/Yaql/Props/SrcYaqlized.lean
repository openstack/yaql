import Yaql.Gen.SrcYaqlized
import Yaql.Lemmas.PyPrelude
import Yaql.Props.C07
/-!
Equivalence of the definitions translated from the CURRENT source of `yaql/standard_library/yaqlized.py`
(`Yaql.Gen.SrcYaqlized`, regenerated on every run by harness/py2lean.py) with the hand-written model
`Yaql.Yaqlized` of C07 - for all inputs.
-/
namespace Yaql.Props.SrcYaqlized
open Yaql Yaql.Yaqlized Yaql.Gen

theorem match_name_to_entry_src_eq (name : List Char) (entry : Entry) :
    SrcYaqlized.match_name_to_entry name entry = Entry.matchesName entry name := by
  cases entry with
  | str s =>
    by_cases h : name = s <;>
      simp [SrcYaqlized.match_name_to_entry, Entry.matchesName, PyYq.eqName, PyYq.isRegex, PyYq.search,
        PyYq.isCallable, PyYq.call, h]
  | regex r =>
    simp [SrcYaqlized.match_name_to_entry, Entry.matchesName, PyYq.eqName, PyYq.isRegex, PyYq.search,
      PyYq.isCallable, PyYq.call]
  | table t =>
    simp [SrcYaqlized.match_name_to_entry, Entry.matchesName, PyYq.eqName, PyYq.isRegex, PyYq.search,
      PyYq.isCallable, PyYq.call]

/-- the translated matcher is the matcher of the `EntryLike Entry` instance -/
theorem match_fun_eq (name : List Char) :
    (fun e => SrcYaqlized.match_name_to_entry name e) = fun e => EntryLike.matchesName e name := by
  funext e
  exact match_name_to_entry_src_eq name e

theorem startsUnderscore_eq (name : List Char) :
    List.isPrefixOf ['_'] name = startsUnderscore name := by
  cases name with
  | nil => rfl
  | cons c r =>
    by_cases h : c = '_'
    · subst h
      simp [startsUnderscore, List.isPrefixOf]
    · have h' : ¬ '_' = c := fun e => h e.symm
      simp [startsUnderscore, List.isPrefixOf, h, h']

/-- for any exception class: the outcome of the model, with that class in place of the model's -/
theorem validate_name_any (name : List Char) (settings : Settings Entry) (e : Py.Err) :
    SrcYaqlized.validate_name name settings e
      = (match validateName .keyError settings name with | .ok u => .ok u | .error _ => .error e) := by
  unfold SrcYaqlized.validate_name validateName
  simp only [startsUnderscore_eq, match_name_to_entry_src_eq, Lemmas.PyPrelude.forLoop_ret_if, anyMatch]
  by_cases hu : startsUnderscore name = true
  · simp [hu]
  · by_cases hw : settings.whitelist = []
    · by_cases hb : settings.blacklist = []
      · simp [hu, hw, hb, EntryLike.matchesName]
      · by_cases hany : (settings.blacklist.any fun e => Entry.matchesName e name) = true <;>
          simp [hu, hw, hb, hany, EntryLike.matchesName]
    · by_cases hany : (settings.whitelist.any fun e => Entry.matchesName e name) = true <;>
        simp [hu, hw, hany, EntryLike.matchesName]

/-- `_validate_name` with the exception class of the model inside the translator's error enum -/
theorem validate_name_lift (name : List Char) (settings : Settings Entry) (exc : Yaqlized.Err) :
    SrcYaqlized.validate_name name settings (PyYq.liftErrClass exc)
      = PyYq.liftErr (validateName exc settings name) := by
  rw [validate_name_any, Props.C07.validateName_eq, Props.C07.validateName_eq]
  cases allowed settings name <;> rfl

theorem validate_name_src_eq (name : List Char) (settings : Settings Entry) (exception_cls : Py.Err) :
    SrcYaqlized.validate_name name settings exception_cls
      = match exception_cls with
        | .keyError => PyYq.liftErr (validateName .keyError settings name)
        | .attributeError => PyYq.liftErr (validateName .attributeError settings name)
        | e => (match validateName .keyError settings name with | .ok u => .ok u | .error _ => .error e) := by
  cases exception_cls
  case keyError => exact validate_name_lift name settings .keyError
  case attributeError => exact validate_name_lift name settings .attributeError
  all_goals exact validate_name_any name settings _

theorem lookup_eq_dictGet (n : Name) (d : List (Name × RemapTarget)) :
    Py.dictGet? d n = lookup n d := by
  induction d with
  | nil => rfl
  | cons p rest ih =>
    obtain ⟨k, v⟩ := p
    rw [Lemmas.PyPrelude.dictGet?_cons]
    simp [lookup, ih]

theorem remap_name_src_eq (name : List Char) (settings : Settings Entry) :
    SrcYaqlized.remap_name name settings = remapName settings name := by
  simp [SrcYaqlized.remap_name, remapName, Py.dictGetD, lookup_eq_dictGet]

end Yaql.Props.SrcYaqlized
