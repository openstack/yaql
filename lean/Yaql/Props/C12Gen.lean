import Yaql.Gen.Registry
import Yaql.Gen.RegistryConv
/-!
C12 over the generated registry: every registered definition has a well-formed parameter
table (so `C12.spelling_*` apply to the whole library) and its aliases follow the naming
convention unless given explicitly.  Re-proved by the kernel against what the code says now.
-/
namespace Yaql.Props.C12Gen
open Yaql.Registry Yaql.Gen.Registry Yaql.Naming Yaql.Gen.RegistryConv

/-- every registered definition satisfies `wfDef` (`Model/RegistryRow.lean`), the hypothesis of `C12.spelling_*` -/
theorem registry_wf : registry.all (fun d => wfDef (d.params.map RParam.toParam)) = true := by
  decide +kernel

/-- aliases are the convention translation (trailing underscores stripped, snake_case -> camelCase)
    of the python parameter names unless an explicit alias was given -/
theorem alias_convention : registry.all (fun d => d.params.all aliasOk) = true := by
  decide +kernel

/-- for every parameter of every registered definition the side conditions of
    `C12.spelling_kw_move` / `C12.spelling_default_move` hold (own slot below the visible count, no
    other parameter with the same slot or the same keyword name) -/
theorem registry_moves_ok : registry.all (fun d => movesOk (d.params.map RParam.toParam)) = true := by
  decide +kernel

/-- no `*` parameter of a registered definition has a default (the side condition of
    `C12.mapArgs_of_getDelegate` / `C12.spelling_mapArgs_agree`), and some definitions have `*` / `**` -/
theorem registry_star_no_default :
    registry.all (fun d => (d.params.map RParam.toParam).all fun p => !p.isStar || p.default.isNone) = true ∧
    registry.any (fun d => (Yaql.Resolve.starParam (d.params.map RParam.toParam)).isSome) = true ∧
    registry.any (fun d => (Yaql.Resolve.starStarParam (d.params.map RParam.toParam)).isSome) = true := by
  decide +kernel

/-- the table is not empty and has definitions of every kind -/
theorem registry_kinds :
    registry.length > 200 ∧
    registry.any (fun d => d.isFunction && !d.isMethod) = true ∧
    registry.any (fun d => d.isMethod && !d.isFunction) = true ∧
    registry.any (fun d => d.isFunction && d.isMethod) = true ∧
    registry.any (fun d => d.params.any (fun p => p.hidden && p.position.isSome)) = true ∧
    registry.any (fun d => d.params.any (·.explicitAlias)) = true ∧
    registry.any (fun d => d.params.any (fun p => !p.explicitAlias && p.alias != some p.name)) = true := by
  decide +kernel

/-! ### every naming convention

`convRows`: the same definitions as found in contexts with `CamelCaseConvention`, with `PythonConvention` and
without a convention, created in several orders (camel first, python first, none first, re-created) in
fresh interpreters. -/

/-- `f c`, with the convention taken from the row once: left as `r.conv` inside the test of a parameter
    it is slow to check -/
def convCases {α} (c : Option Conv) (f : Option Conv → α) : α :=
  match c with
  | none => f none
  | some .camel => f (some .camel)
  | some .python => f (some .python)

theorem convCases_eq {α} (c : Option Conv) (f : Option Conv → α) : convCases c f = f c := by
  rcases c with _ | _ | _ <;> rfl

/-- in a context of EACH convention every definition is registered under the name, and every parameter is
    passed under the alias, that this convention gives to what the source text declares - whatever was
    registered before in the same interpreter -/
theorem alias_convention_each : convRows.all rowOk = true := by
  have h : convRows.all (fun r => convCases r.conv fun c =>
      (match registeredName c r.regAs r.declName r.pyName with
       | .ok n => n == r.regName
       | .error _ => false) && r.params.all (paramOk c)) = true := by decide +kernel
  simp only [convCases_eq] at h
  exact h

/-- the alias found in the definition, or the python name: what `alias_convention_each` shows the keyword
    name to be, without converting anything -/
def seenName (p : CParam) : Yaql.Types.Name := (normAlias p.seenAlias).getD p.name

theorem keywordName_of_paramOk {c : Option Conv} {p : CParam} (h : paramOk c p = true) :
    keywordName c p.declAlias p.name = seenName p := by
  rw [keywordName, ← eq_of_beq h, seenName]

theorem keywordName_seen {r : CRow} (hr : r ∈ convRows) {p : CParam} (hp : p ∈ r.params) :
    keywordName r.conv p.declAlias p.name = seenName p := by
  have h := List.all_eq_true.mp alias_convention_each r hr
  rw [rowOk, Bool.and_eq_true] at h
  exact keywordName_of_paramOk (List.all_eq_true.mp h.2 p hp)

/-- the names arguments are passed by are keywords under each convention, so `call(name, args, kwargs)`
    does not filter them out (`C12.call_keywords_pass`) -/
theorem keyword_names_are_keywords :
    convRows.all (fun r => r.params.all fun p =>
      p.hidden || p.star || isKeyword (keywordName r.conv p.declAlias p.name)) = true := by
  -- conversions were evaluated once, in `alias_convention_each`: here the names found are tested
  have h : convRows.all (fun r => r.params.all fun p => p.hidden || p.star || isKeyword (seenName p)) = true := by
    decide +kernel
  simp only [List.all_eq_true] at h ⊢
  intro r hr p hp
  rw [keywordName_seen hr hp]; exact h r hr p hp

/-- converting an already converted name again changes nothing, for every name the library promises
    (function names and keyword names, under the convention of their context) -/
theorem registered_names_converted :
    convRows.all (fun r =>
      (match convertFunctionName r.regName r.conv with
       | .ok n => r.regAs.isSome || n == r.regName
       | .error _ => false) &&
      r.params.all fun p =>
        p.declAlias.isSome || r.conv.isNone ||
          convertParameterName (keywordName r.conv p.declAlias p.name) r.conv == keywordName r.conv p.declAlias p.name) = true := by
  have h : convRows.all (fun r => convCases r.conv fun c =>
      (match convertFunctionName r.regName c with
       | .ok n => r.regAs.isSome || n == r.regName
       | .error _ => false) &&
      r.params.all fun p =>
        p.declAlias.isSome || c.isNone || convertParameterName (seenName p) c == seenName p) = true := by
    decide +kernel
  simp only [convCases_eq, List.all_eq_true, Bool.and_eq_true] at h ⊢
  intro r hr
  refine ⟨(h r hr).1, fun p hp => ?_⟩
  rw [keywordName_seen hr hp]; exact (h r hr).2 p hp

/-- the table has contexts of all three kinds, and the conventions really differ on it -/
theorem conv_rows_kinds :
    convRows.length > 600 ∧
    convRows.any (fun r => r.conv == some .camel && r.params.any fun p => p.seenAlias != some p.name && p.declAlias.isNone) = true ∧
    convRows.any (fun r => r.conv == some .python && r.params.any fun p =>
      p.seenAlias == some p.name && toCamel p.name != p.name) = true ∧
    convRows.any (fun r => r.conv == some .python && r.params.any fun p =>
      p.seenAlias != some p.name && p.seenAlias.isSome && p.declAlias.isNone) = true ∧
    convRows.any (fun r => r.conv == none && r.params.any fun p => p.seenAlias.isNone) = true ∧
    convRows.any (fun r => r.conv == none && r.params.any fun p => p.seenAlias.isSome) = true ∧
    convRows.any (fun r => r.regAs.isSome) = true ∧
    convRows.any (fun r => r.declName.isNone && r.regAs.isNone && r.conv == some .camel && toCamel r.pyName != r.pyName) = true ∧
    convRows.any (fun r => r.declName.isNone && r.regAs.isNone && r.conv == some .python && toCamel r.regName != r.regName) = true := by
  decide +kernel

end Yaql.Props.C12Gen
