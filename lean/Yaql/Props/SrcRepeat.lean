import Yaql.Gen.SrcRepeat
import Yaql.Props.SrcLimits
/-!
Equivalence of the definitions translated from the CURRENT yaql source (`Yaql.Gen.SrcRepeat`, regenerated on every
run by harness/py2lean.py) with the hand-written model - for all inputs.  Sequence repetition with its memory estimate (collections.py; shared by C13 and C08).
-/
namespace Yaql.Props.SrcRepeat
open Yaql Yaql.Gen

theorem list_by_int_src_eq (sizes : Limits.SizeCfg) (kind : Limits.SeqK) (left : List Value) (right engine : Int) :
    SrcRepeat.list_by_int sizes kind left right engine
      = if Limits.listByIntCheck sizes engine kind left.length right then .ok (Seq.listByInt left right)
        else .error (.other 1) := by
  unfold SrcRepeat.list_by_int Limits.listByIntCheck
  rw [SrcLimits.limit_memory_usage_src_eq]
  cases Limits.limitMemory engine [(-right + 1, sizes.tupleHdr), (right, sizes.seqSize kind left.length)] <;>
    simp [Py.repeat_, Seq.listByInt]

theorem int_by_list_src_eq (sizes : Limits.SizeCfg) (kind : Limits.SeqK) (left : Int) (right : List Value) (engine : Int) :
    SrcRepeat.int_by_list sizes kind left right engine
      = if Limits.listByIntCheck sizes engine kind right.length left then .ok (Seq.listByInt right left)
        else .error (.other 1) := by
  unfold SrcRepeat.int_by_list
  exact list_by_int_src_eq ..

end Yaql.Props.SrcRepeat
