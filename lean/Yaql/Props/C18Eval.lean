import Yaql.Props.C04
import Yaql.Props.C18
/-!
# C18 instantiated with the reference evaluator of C04 (`Model/Eval.lean`)

`Yaql.Eval.eval` is purely functional: a context is an immutable chain of frames (`Ctx = List Frame`,
head = the context itself) and an evaluation returns a value, not a store.  So the abstract,
store-based `C18.eval_writes_private` (whose `Frame` hypothesis speaks about a mutable cell store, the
shape of the real `contexts.py`) has no cell store to be instantiated with here; instead the evaluator
itself is turned into a `Sched` machine:

* shared component = the prepared context chain (the statements are part of each thread's program,
  they are immutable values as well);
* private state of a thread = its program: a list of statements, each with the child frame the host
  made for it (holding the thread's `$`) and its fuel; plus the results so far;
* one step = one statement evaluated in `child :: shared` (the statement-level granularity; the
  dispatch-level interleaving is what the harness explores on the real code).

`ReadOnly` then holds by construction, and `C04.frame` adds what a thread can get back: a context
it is handed consists of new frames on a suffix of `child :: shared` - the shared frames occur in it
unmodified (`frame_root`: the root of the prepared chain stays at the bottom).
-/
namespace Yaql.Props.C18
open Yaql.Sched Yaql.Eval

/-- one statement of a thread: fuel, the child frame the host created for it, the parsed statement -/
structure Job where
  fuel  : Nat
  child : Yaql.Eval.Frame
  expr  : Expr

structure EvalState where
  jobs : List Job
  outs : List (R Obj) := []

/-- the `Sched` machine of the reference evaluator over a shared prepared context chain -/
def refMachine : Machine Ctx EvalState (List (R Obj)) where
  step := fun shared p =>
    match p.jobs with
    | [] => .inr p.outs
    | j :: rest => .inl (shared, { jobs := rest, outs := p.outs ++ [eval j.fuel (j.child :: shared) j.expr] })

/-- every step of the reference evaluator's machine leaves the shared chain as it is -/
theorem refMachine_readOnly : ReadOnly refMachine (fun _ => True) := by
  intro s p s' p' _ h
  simp only [refMachine] at h
  cases hj : p.jobs with
  | nil => simp [hj] at h
  | cons j rest =>
      simp only [hj, Sum.inl.injEq, Prod.mk.injEq] at h
      exact ⟨h.1.symm, trivial⟩

/-- what a thread computes alone: every statement evaluated in its own child of the shared chain -/
def refDen (shared : Ctx) (p : EvalState) : List (R Obj) :=
  p.outs ++ p.jobs.map fun j => eval j.fuel (j.child :: shared) j.expr

theorem refMachine_solo (shared : Ctx) : ∀ (jobs : List Job) (outs : List (R Obj)),
    SoloResult refMachine shared (.running { jobs := jobs, outs := outs }) (refDen shared { jobs := jobs, outs := outs })
  | [], outs => ⟨1, by simp [soloIter, stepThread, refMachine, refDen]⟩
  | j :: rest, outs => by
      obtain ⟨n, hn⟩ := refMachine_solo shared rest (outs ++ [eval j.fuel (j.child :: shared) j.expr])
      refine ⟨n + 1, ?_⟩
      rw [soloIter_succ]
      have : stepThread refMachine shared (.running { jobs := j :: rest, outs := outs }) =
          (shared, .running { jobs := rest, outs := outs ++ [eval j.fuel (j.child :: shared) j.expr] }) := by
        simp [stepThread, refMachine]
      simp only [this]
      rw [hn]
      simp [refDen]

/-- **C18 for the reference evaluator.**  Any number of threads, each evaluating any list of statements
    in children of ONE shared prepared chain, under EVERY schedule: the shared chain is unchanged and every
    finished thread returned, statement by statement, exactly `eval fuel (child :: shared) expr`. -/
theorem eval_model_isolated (shared : Ctx) (progs : List EvalState) (sched : List Nat) :
    (run refMachine ⟨shared, progs.map .running⟩ sched).shared = shared ∧
    ∀ (i : Nat) (r : List (R Obj)),
      (run refMachine ⟨shared, progs.map .running⟩ sched).threads[i]? = some (Thread.done r) →
      ∃ p, progs[i]? = some p ∧ r = refDen shared p := by
  have hinv : ∀ t ∈ progs.map (Thread.running (R := List (R Obj))), TInv (fun _ : EvalState => True) t := by
    intro t _
    cases t <;> trivial
  obtain ⟨h1, h2⟩ := isolation refMachine (fun _ => True) refMachine_readOnly ⟨shared, progs.map .running⟩ hinv sched
  refine ⟨h1, fun i r hi => ?_⟩
  obtain ⟨t, ht, _, huniq⟩ := h2 i r hi
  simp only [List.getElem?_map] at ht
  cases hp : progs[i]? with
  | none => simp [hp] at ht
  | some p =>
      simp only [hp, Option.map_some, Option.some.injEq] at ht
      subst ht
      exact ⟨p, rfl, (huniq _ (refMachine_solo shared p.jobs p.outs)).symm⟩

/-- ... and a context a statement hands back to its thread (`let`, `with`, `def`, `unpack`) is made of new
    frames on a suffix of `child :: shared`; the root of the prepared chain stays at its bottom (`C04.frame`,
    `C04.frame_root`): nothing of the shared chain is replaced or rewritten, it can only be referred to. -/
theorem eval_model_returns_framed (shared : Ctx) (j : Job) (C' : Ctx)
    (h : eval j.fuel (j.child :: shared) j.expr = .ok (.ctx C')) :
    Yaql.Props.C04.Extends (j.child :: shared) C' ∧
    ∀ root, (j.child :: shared).getLast? = some root → C'.getLast? = some root :=
  ⟨Yaql.Props.C04.frame j.fuel _ j.expr C' h,
   fun root hroot => Yaql.Props.C04.frame_root j.fuel _ j.expr C' root h hroot⟩

/-- non-vacuity: two threads over a shared chain holding `$x = 7`, one of them gets a context back -/
example :
    let shared : Ctx := [{ vars := [(['$', 'x'], .int 7)] }]
    let p0 : EvalState := { jobs := [⟨5, { vars := [(['$', '1'], .int 1)] }, .var ['x']⟩] }
    let p1 : EvalState := { jobs := [⟨5, { vars := [(['$', '1'], .int 2)] },
        .call .let_ [] [(.kw ['a'], .lit (.int 1))]⟩] }
    (results (run refMachine ⟨shared, [.running p0, .running p1]⟩ [1, 0, 0, 1])).map (Option.map List.length) =
      [some 1, some 1] := by
  decide

end Yaql.Props.C18
