import Yaql.Props.C16
/-!
C16 - texts that ANOTHER literal syntax (JSON, Python) reads differently are read by yaql's own rules.

General facts (every configuration) and kernel-checked instances on the ASCII configuration with the default operator
table: `NaN` / `Infinity` / `None` / `True` are keywords that denote their own text, an exponent does not continue a
number (`1e5` is a lexical error at its first digit), neither do `_`, a radix letter or a suffix, `\/` is
no escape (the backslash stays), a leading `+` / `-` is an operator token of its own.
-/
namespace Yaql.Props.C16Foreign
open Yaql.Lexer Yaql.Syntax Yaql.Props.C16

/-- `/` starts no escape: `\/` is kept as two characters by the decoder, in every configuration, at every offset,
whatever follows -/
theorem slash_is_no_escape (cfg : LexCfg) (b off : Nat) (rest : List Char) :
    decodeGo cfg b 0 off ('\\' :: '/' :: rest) = consOk '\\' (consOk '/' (decodeGo cfg b 0 (off + 2) rest)) :=
  (unknown_escape_kept cfg b off).1 '/' rest (by decide)

/-- a word that is a number or constant in another syntax is, unless the table makes it an operator, the keyword
constant of its own text (instance of `C16.keywords`) -/
theorem foreign_word_is_keyword (cfg : LexCfg) {c : Char} {r : List Char} (h : IdentShaped cfg.chars c r)
    (hd : startsDunder (c :: r) = false) (hop : c :: r ∉ cfg.opWords)
    (h1 : c :: r ≠ kwTrue) (h2 : c :: r ≠ kwFalse) (h3 : c :: r ≠ kwNull) :
    lexAll cfg (c :: r) = .ok [⟨.keyword, .text (c :: r), 0⟩] :=
  (((keywords cfg h).1 hd).2 hop).2.2.2 h1 h2 h3

/-! ### instances, checked by the kernel -/

example : lexAll asciiCfg ['N', 'a', 'N'] = .ok [⟨.keyword, .text ['N', 'a', 'N'], 0⟩] := by decide +kernel
example : lexAll asciiCfg ['I', 'n', 'f', 'i', 'n', 'i', 't', 'y'] =
    .ok [⟨.keyword, .text ['I', 'n', 'f', 'i', 'n', 'i', 't', 'y'], 0⟩] := by decide +kernel
example : lexAll asciiCfg ['N', 'o', 'n', 'e'] = .ok [⟨.keyword, .text ['N', 'o', 'n', 'e'], 0⟩] := by decide +kernel
example : lexAll asciiCfg ['T', 'r', 'u', 'e'] = .ok [⟨.keyword, .text ['T', 'r', 'u', 'e'], 0⟩] := by decide +kernel
example : lexAll asciiCfg ['t', 'r', 'u', 'e'] = .ok [⟨.true_, .none, 0⟩] := by decide +kernel

/-- `1e5`, `1E5`: digits that run into a letter are no number (`\\b` behind the digits), and no other rule starts at a
digit: a lexical error at the first digit (`1.5e3`: `1` and `.` are read, the error is at `5`) -/
theorem exponent_is_no_number :
    lexAll asciiCfg ['1', 'e', '5'] = .error (.lexical ['1'] 0) ∧
    lexAll asciiCfg ['1', 'E', '5'] = .error (.lexical ['1'] 0) ∧
    lexAll asciiCfg ['1', '.', '5', 'e', '3'] = .error (.lexical ['5'] 2) := by
  rw [asciiCfg_eq]; decide +kernel

/-- `0x10`, `1_000`, `1L`: the same -/
theorem radix_separator_suffix_are_no_number :
    lexAll asciiCfg ['0', 'x', '1', '0'] = .error (.lexical ['0'] 0) ∧
    lexAll asciiCfg ['1', '_', '0', '0', '0'] = .error (.lexical ['1'] 0) ∧
    lexAll asciiCfg ['1', 'L'] = .error (.lexical ['1'] 0) := by
  rw [asciiCfg_eq]; decide +kernel

/-- `"a\/b"` keeps its backslash (JSON drops it) -/
theorem json_slash_escape_kept :
    lexAll asciiCfg ['"', 'a', '\\', '/', 'b', '"'] = .ok [strTok ['a', '\\', '/', 'b']] := by decide +kernel

/-- `-Infinity`, `+1`: the sign is an operator token, not part of a literal -/
theorem sign_is_an_operator :
    lexAll asciiCfg ['-', 'I', 'n', 'f'] = .ok [⟨.op ['-'], .text ['-'], 0⟩, ⟨.keyword, .text ['I', 'n', 'f'], 1⟩] ∧
    lexAll asciiCfg ['+', '1'] = .ok [⟨.op ['+'], .text ['+'], 0⟩, ⟨.number, .int 1, 1⟩] := by
  rw [asciiCfg_eq]; decide +kernel

end Yaql.Props.C16Foreign
