import Yaql.Props.C13Bind
/-!
C13, option-dependent behaviour: what the collection functions and the finaliser do under the options of the engine a
statement belongs to (`Opts` of Model/SeqRun.lean: yaql.iterableDicts, convertTuplesToLists, convertSetsToLists,
convertInputData, limitIterators).  The check sends one text through several members of an engine family (base engine,
`engine.copy(options)`, `engine(text, options)`) and compares each result, type-strictly, with the model under THAT
member's options.
-/
namespace Yaql.Props.C13Opts
open Yaql Yaql.Value Yaql.Seq

/-! ### yaql.iterableDicts -/

/-- a dictionary is accepted by a parameter declared `Iterable()` exactly under `yaql.iterableDicts` -/
theorem dict_iterable_iff (opts : Opts) (ord : Bool) (d : KV) :
    ((Obj.val (dict d)).iterable? opts ord).isSome = opts.iterableDicts := by
  cases h : opts.iterableDicts <;> simp [Obj.iterable?, h]

/-- ... and then it is the collection of its keys, in the dictionary's order -/
theorem dict_iterates_keys (opts : Opts) (ord : Bool) (d : KV) (h : opts.iterableDicts = true) (hl : opts.limit = none) :
    (Obj.val (dict d)).iterable? opts ord = some (.ok ⟨dictKeys d, none⟩) := by
  simp [Obj.iterable?, h, limitSized, hl]

/-- without the option every collection method rejects it: `where` / `select` / `first` ... raise NoMatchingMethod -/
theorem dict_not_iterable (opts : Opts) (d : KV) (h : opts.iterableDicts = false) :
    (Obj.val (dict d)).it opts = .error .noMethod := by
  simp [Obj.it, Obj.iterable?, h, badReceiver]

/-- the option matters for dictionaries only -/
theorem iterableDicts_only_dicts (opts : Opts) (b ord : Bool) (o : Obj)
    (ho : ∀ d, o ≠ .val (dict d) ∧ o ≠ .mdict d) :
    o.iterable? { opts with iterableDicts := b } ord = o.iterable? opts ord := by
  cases o with
  | val v =>
    cases v with
    | dict d => exact absurd rfl (ho d).1
    | _ => rfl
  | mdict d => exact absurd rfl (ho d).2
  | view k d => cases k <;> rfl
  | _ => rfl

/-! ### yaql.limitIterators -/

theorem limitTo_length (n : Nat) (s : LSeq) : (s.limitTo n).items.length ≤ n := by
  unfold LSeq.limitTo
  split
  · simp; omega
  · omega

theorem limitTo_prefix (n : Nat) (s : LSeq) : (s.limitTo n).items = s.items.take n := by
  unfold LSeq.limitTo
  split
  · rfl
  · rw [List.take_of_length_le (by omega)]

theorem limitTo_small (n : Nat) (s : LSeq) (h : s.items.length ≤ n) : s.limitTo n = s := by
  simp [LSeq.limitTo]; omega

/-- the limiter raises only when the collection really is longer than the limit, and then after exactly `n` elements -/
theorem limitTo_raises_iff (n : Nat) (s : LSeq) :
    (s.limitTo n).err = some .tooLarge ∧ (s.limitTo n).items.length = n ↔
      s.items.length > n ∨ (s.err = some .tooLarge ∧ s.items.length = n) := by
  unfold LSeq.limitTo
  split
  · rename_i h
    simp [h]
    omega
  · rename_i h
    simp [h]

theorem limitSized_ok_iff (opts : Opts) (l : VL) :
    (∃ s, limitSized opts l = .ok s) ↔ overLimit opts l.length = false := by
  unfold limitSized overLimit
  cases opts.limit with
  | none => simp
  | some n => by_cases h : l.length > n <;> simp [h]

/-! ### the finaliser under the options -/

mutual
/-- no generator and - when `strict` - no tuple anywhere in the value -/
def plain (strict : Bool) : Value → Bool
  | iter _ => false
  | tuple l => !strict && plainL strict l
  | list l | Value.set l => plainL strict l
  | dict d => plainP strict d
  | _ => true
def plainL (strict : Bool) : List Value → Bool
  | [] => true
  | x :: xs => plain strict x && plainL strict xs
def plainP (strict : Bool) : List (Value × Value) → Bool
  | [] => true
  | (k, v) :: r => plain strict k && plain strict v && plainP strict r
end

theorem bind_pure_ok {α β : Type} {x : R α} {g : α → β} {b : β} (h : (x >>= fun a => pure (g a)) = .ok b) :
    ∃ a, x = .ok a ∧ b = g a := by
  obtain ⟨a, ha, h⟩ := R.bind_ok h
  cases h
  exact ⟨a, ha, rfl⟩

theorem finL_cons_ok {opts : Opts} {x : Value} {xs r : List Value} (h : finL opts (x :: xs) = .ok r) :
    ∃ x' r', finV opts x = .ok x' ∧ finL opts xs = .ok r' ∧ r = x' :: r' := by
  rw [finL] at h
  obtain ⟨x', hx, h⟩ := R.bind_ok h
  obtain ⟨r', hr, rfl⟩ := bind_pure_ok h
  exact ⟨x', r', hx, hr, rfl⟩

theorem finL_length (opts : Opts) : ∀ (l r : List Value), finL opts l = .ok r → r.length = l.length
  | [], r, h => by cases h; rfl
  | x :: xs, r, h => by
    obtain ⟨x', r', -, hr, rfl⟩ := finL_cons_ok h
    simp [finL_length opts xs r' hr]

theorem finV_tuple_ok {opts : Opts} {l : List Value} {v : Value} (h : finV opts (tuple l) = .ok v) :
    ∃ r, finL opts l = .ok r ∧ v = (if opts.tuplesToLists then list r else tuple r) := by
  rw [finV] at h
  exact bind_pure_ok (R.guard_ok h)

theorem finV_list_ok {opts : Opts} {l : List Value} {v : Value} (h : finV opts (list l) = .ok v) :
    ∃ r, finL opts l = .ok r ∧ v = list r := by
  rw [finV] at h
  exact bind_pure_ok (R.guard_ok h)

theorem finV_set_ok {opts : Opts} {l : List Value} {v : Value} (h : finV opts (Value.set l) = .ok v) :
    ∃ r, finSetErrs opts l = [] ∧ finL opts l = .ok r ∧ v = Value.set r := by
  rw [finV] at h
  have h := R.guard_ok h
  cases he : finSetErrs opts l with
  | cons e rest => rw [he] at h; dsimp only at h; split at h <;> cases h
  | nil =>
    rw [he] at h
    obtain ⟨r, hr, rfl⟩ := bind_pure_ok h
    exact ⟨r, rfl, hr, rfl⟩

theorem finV_iter_ok {opts : Opts} {l : List Value} {v : Value} (h : finV opts (iter l) = .ok v) :
    ∃ k r, finLim opts k l = .ok r ∧ v = list r := by
  rw [finV] at h
  exact ⟨_, bind_pure_ok h⟩

theorem finV_dict_ok {opts : Opts} {d : List (Value × Value)} {v : Value} (h : finV opts (dict d) = .ok v) :
    ∃ r, finP opts d = .ok r ∧ v = dict r := by
  rw [finV] at h
  exact bind_pure_ok (R.guard_ok h)

theorem finLim_cons_ok {opts : Opts} {k : Nat} {x : Value} {xs r : List Value} (h : finLim opts k (x :: xs) = .ok r) :
    ∃ k' x' r', finV opts x = .ok x' ∧ finLim opts k' xs = .ok r' ∧ r = x' :: r' := by
  cases k with
  | zero => cases h
  | succ k =>
    rw [finLim] at h
    obtain ⟨x', hx, h⟩ := R.bind_ok h
    obtain ⟨r', hr, rfl⟩ := bind_pure_ok h
    exact ⟨k, x', r', hx, hr, rfl⟩

theorem finP_cons_ok {opts : Opts} {k v : Value} {d r : List (Value × Value)} (h : finP opts ((k, v) :: d) = .ok r) :
    ∃ k' v' r', finV opts k = .ok k' ∧ finV opts v = .ok v' ∧ finP opts d = .ok r' ∧ r = (k', v') :: r' := by
  rw [finP] at h
  obtain ⟨v', hv, h⟩ := R.bind_ok h
  obtain ⟨k', hk, h⟩ := R.bind_ok h
  obtain ⟨r', hr, rfl⟩ := bind_pure_ok (R.guard_ok h)
  exact ⟨k', v', r', hk, hv, hr, rfl⟩

/-- a tuple is finalised to a list of the same length - or, with `convertTuplesToLists` off, to a tuple -/
theorem finV_tuple (opts : Opts) (l : List Value) (v : Value) (h : finV opts (tuple l) = .ok v) :
    ∃ r, r.length = l.length ∧ v = (if opts.tuplesToLists then list r else tuple r) := by
  obtain ⟨r, hr, hv⟩ := finV_tuple_ok h
  exact ⟨r, finL_length opts l r hr, hv⟩

/-- a (mutable) list is finalised to a list whatever the options say -/
theorem finV_list (opts : Opts) (l : List Value) (v : Value) (h : finV opts (list l) = .ok v) :
    ∃ r, r.length = l.length ∧ v = list r := by
  obtain ⟨r, hr, hv⟩ := finV_list_ok h
  exact ⟨r, finL_length opts l r hr, hv⟩

/-- scalars pass the finaliser unchanged -/
theorem finV_scalar (opts : Opts) (v : Value) (h : ∀ l, v ≠ tuple l ∧ v ≠ list l ∧ v ≠ iter l ∧ v ≠ Value.set l)
    (hd : ∀ d, v ≠ dict d) : finV opts v = .ok v := by
  cases v with
  | tuple l => exact absurd rfl (h l).1
  | list l => exact absurd rfl (h l).2.1
  | iter l => exact absurd rfl (h l).2.2.1
  | set l => exact absurd rfl (h l).2.2.2
  | dict d => exact absurd rfl (hd d)
  | _ => rfl

mutual
/-- what the finaliser hands out holds no generator, and with `convertTuplesToLists` no tuple -/
theorem finV_plain (opts : Opts) : ∀ (v w : Value), finV opts v = .ok w → plain opts.tuplesToLists w = true
  | .null, w, h | .bool _, w, h | .int _, w, h | .flt _, w, h | .str _, w, h | .host _, w, h => by
    cases h; rfl
  | .tuple l, w, h => by
    obtain ⟨r, hr, rfl⟩ := finV_tuple_ok h
    have := finL_plain opts l r hr
    cases ht : opts.tuplesToLists <;> simpa [plain, ht] using this
  | .list l, w, h => by
    obtain ⟨r, hr, rfl⟩ := finV_list_ok h
    simpa [plain] using finL_plain opts l r hr
  | .iter l, w, h => by
    obtain ⟨k, r, hr, rfl⟩ := finV_iter_ok h
    simpa [plain] using finLim_plain opts k l r hr
  | .set l, w, h => by
    obtain ⟨r, -, hr, rfl⟩ := finV_set_ok h
    simpa [plain] using finL_plain opts l r hr
  | .dict d, w, h => by
    obtain ⟨r, hr, rfl⟩ := finV_dict_ok h
    simpa [plain] using finP_plain opts d r hr
termination_by structural v => v
theorem finL_plain (opts : Opts) : ∀ (l r : List Value), finL opts l = .ok r → plainL opts.tuplesToLists r = true
  | [], r, h => by cases h; rfl
  | x :: xs, r, h => by
    obtain ⟨x', r', hx, hr, rfl⟩ := finL_cons_ok h
    simp [plainL, finV_plain opts x x' hx, finL_plain opts xs r' hr]
termination_by structural l => l
theorem finLim_plain (opts : Opts) : ∀ (k : Nat) (l r : List Value), finLim opts k l = .ok r → plainL opts.tuplesToLists r = true
  | _, [], r, h => by rw [finLim] at h; cases h; rfl
  | k, x :: xs, r, h => by
    obtain ⟨k', x', r', hx, hr, rfl⟩ := finLim_cons_ok h
    simp [plainL, finV_plain opts x x' hx, finLim_plain opts k' xs r' hr]
termination_by structural _ l => l
theorem finP_plain (opts : Opts) : ∀ (d r : List (Value × Value)), finP opts d = .ok r → plainP opts.tuplesToLists r = true
  | [], r, h => by cases h; rfl
  | (k, v) :: d, r, h => by
    obtain ⟨k', v', r', hk, hv, hr, rfl⟩ := finP_cons_ok h
    simp [plainP, finV_plain opts k k' hk, finV_plain opts v v' hv, finP_plain opts d r' hr]
termination_by structural d => d
end

/-- with `convertSetsToLists` off a set is handed out as a Python set: its finalised members must be hashable (a member
    that was a tuple has become a list under `convertTuplesToLists`: TypeError) -/
theorem finSetErrs_nil (opts : Opts) (hs : opts.setsToLists = false) :
    ∀ (l r : List Value), finSetErrs opts l = [] → finL opts l = .ok r → outHashableL r = true
  | [], r, _, h => by cases h; rfl
  | x :: xs, r, he, h => by
    obtain ⟨x', r', hx, hr, rfl⟩ := finL_cons_ok h
    simp only [finSetErrs, List.append_eq_nil_iff, hx, hs] at he
    have hx' : outHashable x' = true := by
      by_cases hh : outHashable x' = true
      · exact hh
      · simp [hh] at he
    simp [outHashableL, hx', finSetErrs_nil opts hs xs r' he.2 hr]

theorem finV_set_strict (opts : Opts) (hs : opts.setsToLists = false) (l : List Value) (v : Value)
    (h : finV opts (Value.set l) = .ok v) : ∃ r, v = Value.set r ∧ outHashableL r = true ∧ finL opts l = .ok r := by
  obtain ⟨r, he, hr, hv⟩ := finV_set_ok h
  exact ⟨r, hv, finSetErrs_nil opts hs l r he hr, hr⟩

/-! ### input conversion -/

mutual
/-- every sequence in the value is immutable (no `list`), no generator inside -/
def frozen : Value → Bool
  | list _ | iter _ => false
  | tuple l | Value.set l => frozenL l
  | dict d => frozenP d
  | _ => true
def frozenL : List Value → Bool
  | [] => true
  | x :: xs => frozen x && frozenL xs
def frozenP : List (Value × Value) → Bool
  | [] => true
  | (k, v) :: r => frozen k && frozen v && frozenP r
end

mutual
def noIter : Value → Bool
  | iter _ => false
  | tuple l | list l | Value.set l => noIterL l
  | dict d => noIterP d
  | _ => true
def noIterL : List Value → Bool
  | [] => true
  | x :: xs => noIter x && noIterL xs
def noIterP : List (Value × Value) → Bool
  | [] => true
  | (k, v) :: r => noIter k && noIter v && noIterP r
end

mutual
/-- converted input holds no mutable list: the functions never see the host's own lists -/
theorem convertInput_frozen : ∀ v : Value, noIter v = true → frozen (convertInput v) = true
  | .null, _ | .bool _, _ | .int _, _ | .flt _, _ | .str _, _ | .host _, _ => by simp [convertInput, frozen]
  | .tuple l, h => by simp only [noIter] at h; simpa [convertInput, frozen] using convertInputL_frozen l h
  | .list l, h => by simp only [noIter] at h; simpa [convertInput, frozen] using convertInputL_frozen l h
  | .set l, h => by simp only [noIter] at h; simpa [convertInput, frozen] using convertInputL_frozen l h
  | .iter _, h => by simp [noIter] at h
  | .dict d, h => by simp only [noIter] at h; simpa [convertInput, frozen] using convertInputP_frozen d h
theorem convertInputL_frozen : ∀ l : List Value, noIterL l = true → frozenL (convertInputL l) = true
  | [], _ => by simp [convertInputL, frozenL]
  | x :: xs, h => by
    simp only [noIterL, Bool.and_eq_true] at h
    simp [convertInputL, frozenL, convertInput_frozen x h.1, convertInputL_frozen xs h.2]
theorem convertInputP_frozen : ∀ d : List (Value × Value), noIterP d = true → frozenP (convertInputP d) = true
  | [], _ => by simp [convertInputP, frozenP]
  | (k, v) :: r, h => by
    simp only [noIterP, Bool.and_eq_true] at h
    simp [convertInputP, frozenP, convertInput_frozen k h.1.1, convertInput_frozen v h.1.2, convertInputP_frozen r h.2]
end

mutual
/-- ... and what holds no mutable list and no generator is hashable: converted input can be a set member / dict key / group key -/
theorem hashable_of_frozen : ∀ v : Value, frozen v = true → hashable v = true
  | .null, _ | .bool _, _ | .int _, _ | .flt _, _ | .str _, _ | .host _, _ | .set _, _ => by simp [hashable]
  | .list _, h | .iter _, h => by simp [frozen] at h
  | .tuple l, h => by simp only [frozen] at h; simpa [hashable] using hashableL_of_frozen l h
  | .dict d, h => by simp only [frozen] at h; simpa [hashable] using hashableP_of_frozen d h
theorem hashableL_of_frozen : ∀ l : List Value, frozenL l = true → hashableL l = true
  | [], _ => by simp [hashableL]
  | x :: xs, h => by
    simp only [frozenL, Bool.and_eq_true] at h
    simp [hashableL, hashable_of_frozen x h.1, hashableL_of_frozen xs h.2]
theorem hashableP_of_frozen : ∀ d : List (Value × Value), frozenP d = true → hashableP d = true
  | [], _ => by simp [hashableP]
  | (_, v) :: r, h => by
    simp only [frozenP, Bool.and_eq_true] at h
    simp [hashableP, hashable_of_frozen v h.1.2, hashableP_of_frozen r h.2]
end

mutual
theorem convertInput_idem : ∀ v : Value, convertInput (convertInput v) = convertInput v
  | .null | .bool _ | .int _ | .flt _ | .str _ | .host _ => by simp [convertInput]
  | .tuple l | .list l => by simp [convertInput, convertInputL_idem l]
  | .set l => by simp [convertInput, convertInputL_idem l]
  | .iter l => by simp [convertInput, convertInputL_idem l]
  | .dict d => by simp [convertInput, convertInputP_idem d]
theorem convertInputL_idem : ∀ l : List Value, convertInputL (convertInputL l) = convertInputL l
  | [] => by simp [convertInputL]
  | x :: xs => by simp [convertInputL, convertInput_idem x, convertInputL_idem xs]
theorem convertInputP_idem : ∀ d : List (Value × Value), convertInputP (convertInputP d) = convertInputP d
  | [] => by simp [convertInputP]
  | (k, v) :: r => by simp [convertInputP, convertInput_idem k, convertInput_idem v, convertInputP_idem r]
end

/-- with `yaql.convertInputData` off the host's own (mutable) list is what the functions get -/
theorem ofInput_raw_list (opts : Opts) (h : opts.convertInput = false) (l : List Value) (hn : noDictL l = true) :
    Obj.ofInput opts (list l) = .ok (.val (list l)) := by
  simp [Obj.ofInput, h, noDict, hn, Obj.ofValue]

/-- ... and a host dictionary arrives as the plain dict it is -/
theorem ofInput_raw_dict (opts : Opts) (h : opts.convertInput = false) (d : KV) (hn : noDictL (dictValues d) = true) :
    Obj.ofInput opts (dict d) = .ok (.mdict d) := by
  simp [Obj.ofInput, h, hn]

/-- converted, a host list is a tuple -/
theorem ofInput_converted_list (opts : Opts) (h : opts.convertInput = true) (l : List Value) :
    Obj.ofInput opts (list l) = .ok (.val (tuple (convertInputL l))) := by
  simp [Obj.ofInput, h, convertInput, Obj.ofValue]


/-! ### the options at work (evaluated on the model) -/

/-- `{a => 1, b => 2}.where($ != b)`: NoMatchingMethod by default ... -/
example : runPipeLet {} none [.where_ (.not (.eq .arg (str ['b'])))] (dict [(str ['a'], int 1), (str ['b'], int 2)])
    = .error .noMethod := by rfl
/-- ... the keys that are not `b` under `yaql.iterableDicts` -/
example : runPipeLet { iterableDicts := true } none [.where_ (.not (.eq .arg (str ['b'])))]
    (dict [(str ['a'], int 1), (str ['b'], int 2)]) = .ok (list [str ['a']]) := by rfl
/-- `$.count()` of a dictionary under `yaql.iterableDicts` -/
example : runPipeLet { iterableDicts := true } none [.count] (dict [(str ['a'], int 1), (str ['b'], int 2)])
    = .ok (int 2) := by rfl
/-- under `yaql.iterableDicts` `{1 => 0}.delete(1)` fits two overloads -/
example : runPipeLet { iterableDicts := true } none [.delete [int 1]] (dict [(int 1, int 0)]) = .error .ambiguous := by rfl
/-- `[3, 1, 3].slice(2)`: lists of lists by default, a list of tuples with `convertTuplesToLists` off -/
example : runPipeLet {} none [.slice 2] (list [int 3, int 1, int 3]) = .ok (list [list [int 3, int 1], list [int 3]]) := by rfl
example : runPipeLet { tuplesToLists := false } none [.slice 2] (list [int 3, int 1, int 3])
    = .ok (list [tuple [int 3, int 1], tuple [int 3]]) := by rfl
/-- the document itself: a list by default, the tuple it was converted to with `convertTuplesToLists` off, the host's
    own list when the input is not converted -/
example : runPipeLet { tuplesToLists := false } none [] (list [int 1]) = .ok (tuple [int 1]) := by rfl
example : runPipeLet { tuplesToLists := false, convertInput := false } none [] (list [int 1]) = .ok (list [int 1]) := by rfl
/-- `insert` returns a (mutable) list: a list under every option record -/
example : runPipeLet { tuplesToLists := false } none [.insert 0 (int 9)] (list [int 1]) = .ok (list [int 9, int 1]) := by rfl
/-- a set of lists can only be handed out as a list of lists: with `convertSetsToLists` off the members (tuples turned into
    lists) are unhashable ... -/
example : runPipeLet { setsToLists := false } none [.toSet] (list [list [int 1]]) = .error .type := by rfl
/-- ... unless tuples stay tuples -/
example : runPipeLet { setsToLists := false, tuplesToLists := false } none [.toSet] (list [list [int 1]])
    = .ok (Value.set [tuple [int 1]]) := by rfl
/-- unconverted input: the inner lists are unhashable, `distinct` raises -/
example : runPipeLet { convertInput := false } none [.distinct none] (list [list [int 1], list [int 1]]) = .error .type := by rfl
example : runPipeLet {} none [.distinct none] (list [list [int 1], list [int 1]]) = .ok (list [list [int 1]]) := by rfl
/-- `yaql.limitIterators = 2`: a longer sequence is rejected when the argument is converted, a lazy result when its third
    element is pulled - `take(2)` in front of it keeps it legal -/
example : runPipeLet { limit := some 2 } none [.select .arg] (list [int 1, int 2, int 3]) = .error .tooLarge := by rfl
example : runPipeLet { limit := some 2 } none [.select .arg] (iter [int 1, int 2, int 3]) = .error .tooLarge := by rfl
example : runPipeLet { limit := some 2 } none [.take 2] (iter [int 1, int 2, int 3]) = .ok (list [int 1, int 2]) := by rfl
/-- non-vacuity of `limitTo_raises_iff` -/
example : (LSeq.limitTo 2 ⟨[int 1, int 2, int 3], none⟩) = ⟨[int 1, int 2], some .tooLarge⟩ := by rfl
/-- non-vacuity of `convertInput_frozen` / `hashable_of_frozen` -/
example : hashable (convertInput (list [list [int 1], dict [(str ['a'], list [])]])) = true := by rfl
example : hashable (list [list [int 1]]) = false := by rfl


/-! ### yaql.convertOutputData off: the run-time object is handed out -/

theorem finalise_raw (opts : Opts) (h : opts.convertOutput = false) (o : Obj) : finalise opts o = rawOut opts o := by
  simp [finalise, h]

/-- finished data is handed out untouched: a tuple stays a tuple whatever `convertTuplesToLists` says -/
theorem rawOut_val (opts : Opts) (v : Value) : rawOut opts (.val v) = .ok v := by
  simp [rawOut]

/-- a lazy result is what the host gets when it consumes it; a StopIteration met on the way reaches the host wrapped
    (only `evaluate()` unwraps it), every other exception as it is -/
theorem rawOut_lazy (opts : Opts) (s : LSeq) :
    rawOut opts (.lazy s) = (match s.err with
      | none => .ok (iter s.items)
      | some .stopIteration => .error .wrappedStop
      | some e => .error e) := by
  simp only [rawOut, hostConsumes]
  cases s.err with
  | none => rfl
  | some e => cases e <;> rfl

/-- no limiter is put around a raw result -/
theorem rawOut_lazy_unlimited (opts : Opts) (n : Nat) (s : LSeq) :
    rawOut { opts with limit := some n } (.lazy s) = rawOut opts (.lazy s) := by
  simp [rawOut]

/-! ### the flags of create_context -/

/-- `group_by_agg_fallback` off: an aggregator that fails on the list of values of the first group is not retried in the
    pre-1.1.1 style - its exception is the result -/
theorem groupBy_no_fallback (agg : Lam) (k : Value) (vs : VL) (rest : List (Value × VL)) (e : Err)
    (hv : hasLazyL vs = false) (he : agg.eval (list vs) = .error e) :
    groupAggM agg none false ((k, vs) :: rest) = ⟨[], some e⟩ := by
  simp only [groupAggM, hv, he]
  by_cases h : (e == .noMethod || e == .noFunction || e == .index) = true
  · simp [h]
  · simp [h]

/-- ... on, the aggregator gets the pair `[key, values]` and its two-element result is the row -/
theorem groupBy_fallback (agg : Lam) (k r : Value) (vs : VL) (rest : List (Value × VL)) (e : Err)
    (hv : hasLazyL vs = false) (he : agg.eval (list vs) = .error e)
    (hcls : (e == .noMethod || e == .noFunction || e == .index) = true)
    (hr : agg.eval (tuple [k, list vs]) = .ok r) (h2 : pyLen? r = some 2) :
    (groupAggM agg none true ((k, vs) :: rest)).items = r :: (groupAggM agg (some e) true rest).items := by
  simp [groupAggM, hv, he, hcls, hr, h2]

/-- `no_sets`: the set methods do not exist, whatever the receiver -/
theorem noSets_methods (opts : Opts) (h : opts.noSets = true) (o : Obj) (vs : VL) :
    runOp opts .toSet o = .error .unknownMethod ∧ runOp opts (.union vs) o = .error .unknownMethod ∧
    runOp opts (.add vs) o = .error .unknownMethod ∧ runOp opts (.remove vs) o = .error .unknownMethod ∧
    runOp opts .setFn o = .error .unknownFunction := by
  simp [runOp, h, noSetsErr, Op.needsSets]

/-- ... and an unknown function written in front of the stages is met before any of them runs (after the binder of
    `let(..) -> ..`, which is evaluated first) -/
theorem noSets_function_first (opts : Opts) (h : opts.noSets = true) (binder : Option Op) (ops : List Op) (data : Value)
    (root : Obj) (hr : rootObj opts binder data = .ok root)
    (hf : ops.any Op.functionStyleSet = true) : runStages opts binder ops data = .error .unknownFunction := by
  simp [runStages, h, hf, hr, bind, Except.bind]

/-- with the set functions registered nothing changes: the flag is only looked at when it is on -/
theorem noSets_off (opts : Opts) (h : opts.noSets = false) (op : Op) (o : Obj) : runOp opts op o = runOpCore opts op o := by
  simp [runOp, h]

/-- `[[a, 1], [b, 2], [c, 1]].groupBy($[1], $[0], [$[0], $[1].sum()])`: an aggregator written for the `[key, values]` pair
    fails on the bare list of values and is retried on the pair (`group_by_agg_fallback`, the default) -/
example : runPipeLet {} none [.groupBy (.index .arg 1) (some (.index .arg 0)) (some (.pair (.index .arg 0) (.sum (.index .arg 1))))]
    (list [list [str ['a'], int 1], list [str ['b'], int 2], list [str ['c'], int 1]])
    = .ok (list [list [int 1, str ['a', 'c']], list [int 2, str ['b']]]) := by rfl
/-- ... in a context made with `group_by_agg_fallback=False` the first failure is the outcome -/
example : (runPipeLet { aggFallback := false } none
    [.groupBy (.index .arg 1) (some (.index .arg 0)) (some (.pair (.index .arg 0) (.sum (.index .arg 1))))]
    (list [list [str ['a'], int 1], list [str ['b'], int 2], list [str ['c'], int 1]])).toOption = none := by rfl
/-- raw output: `[3, 1].select($ * 2)` is lazy, `[3, 1].toList()` a tuple, `[3, 1].insert(0, 0)` a list -/
example : runPipeLet { convertOutput := false } none [.select (.mul .arg 2)] (list [int 3, int 1]) = .ok (iter [int 6, int 2]) := by rfl
example : runPipeLet { convertOutput := false } none [.toList] (list [int 3, int 1]) = .ok (tuple [int 3, int 1]) := by rfl
example : runPipeLet { convertOutput := false } none [.insert 0 (int 0)] (list [int 3]) = .ok (list [int 0, int 3]) := by rfl
/-- `[[]].select($.first())`: StopIteration from `evaluate()`, the wrapper when the host consumes the raw result -/
example : runPipeLet {} none [.select (.first .arg none)] (list [list []]) = .error .stopIteration := by rfl
example : runPipeLet { convertOutput := false } none [.select (.first .arg none)] (list [list []]) = .error .wrappedStop := by rfl
/-- `no_sets`: `$.toSet()` / `isSet($.where(..))` -/
example : runPipeLet { noSets := true } none [.toSet] (list [int 1]) = .error .unknownMethod := by rfl
example : runPipeLet { noSets := true } none [.where_ (.first .arg none), .isSet] (list [list []]) = .error .unknownFunction := by rfl

end Yaql.Props.C13Opts
