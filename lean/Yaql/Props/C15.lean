import Yaql.Model.Scalar
/-!
C15 - scalar operators form a consistent arithmetic and ordering.
All statements are about `Yaql.Scalar.evalBin` / `evalUn` (the model of `$a OP $b` / `OP $a` in the
default engine), for every `FloatOps` (the four IEEE operations are parameters), every allocator
capacity `cap`, every integer, every double bit pattern and every string.
-/
namespace Yaql.Props.C15
open Yaql.Scalar Yaql.FloatRound

/-! ### the dispatch matrix: which payload runs for which pair of operand kinds -/

def isNumK : Kind → Bool
  | .int => true
  | .float => true
  | _ => false

def numOnly (i : Impl) (k1 k2 : Kind) : Except Err Impl :=
  if isNumK k1 && isNumK k2 then .ok i else .error .noMatching

def ordImpl (nn nr ln num str : Impl) : Kind → Kind → Except Err Impl
  | .null, .null => .ok nn
  | .null, _ => .ok nr
  | _, .null => .ok ln
  | .str, .str => .ok str
  | k1, k2 => numOnly num k1 k2

def binImpl : BinOp → Kind → Kind → Except Err Impl
  | .mul, .int, .str => .ok .intByStr
  | .mul, .str, .int => .ok .strByInt
  | .mul, k1, k2 => numOnly .mathMul k1 k2
  | .div, k1, k2 => numOnly .mathDiv k1 k2
  | .mod, k1, k2 => numOnly .mathMod k1 k2
  | .add, .str, .str => .ok .strConcat
  | .add, k1, k2 => numOnly .mathPlus k1 k2
  | .sub, k1, k2 => numOnly .mathMinus k1 k2
  | .gt, k1, k2 => ordImpl .nullGtNull .nullGtRight .leftGtNull .mathGt .strGt k1 k2
  | .lt, k1, k2 => ordImpl .nullLtNull .nullLtRight .leftLtNull .mathLt .strLt k1 k2
  | .ge, k1, k2 => ordImpl .nullGteNull .nullGteRight .leftGteNull .mathGte .strGte k1 k2
  | .le, k1, k2 => ordImpl .nullLteNull .nullLteRight .leftLteNull .mathLte .strLte k1 k2
  | .ne, _, _ => .ok .neq
  | .eq, _, _ => .ok .eq
  | .isIn, .str, .str => .ok .strIn
  | .isIn, _, _ => .error .noMatching
  | .and, _, _ => .ok .and
  | .or, _, _ => .ok .or

def unImpl : UnOp → Kind → Except Err Impl
  | .pos, k => if isNumK k then .ok .mathUPlus else .error .noMatching
  | .neg, k => if isNumK k then .ok .mathUMinus else .error .noMatching
  | .not, _ => .ok .not

deriving instance DecidableEq for Except

def allKinds : List Kind := [.null, .bool, .int, .float, .str]
def allBinOps : List BinOp := [.mul, .div, .mod, .add, .sub, .gt, .lt, .ge, .le, .ne, .eq, .isIn, .and, .or]

theorem mem_allKinds (k : Kind) : k ∈ allKinds := by cases k <;> decide

/-- the facts about the finite table of operators and operand kinds are each one evaluation by the kernel -/
theorem forall_op_kinds {p : BinOp → Kind → Kind → Prop}
    (h : ∀ op ∈ allBinOps, ∀ k1 ∈ allKinds, ∀ k2 ∈ allKinds, p op k1 k2) (op : BinOp) (k1 k2 : Kind) : p op k1 k2 :=
  h op (by cases op <;> decide) k1 (mem_allKinds k1) k2 (mem_allKinds k2)

def pick : List Overload → Except Err Impl
  | [] => .error .noMatching
  | [o] => .ok o.impl
  | _ => .error .ambiguous

/-- selection looks at the functions registered under the name first, then at the parameter types
    (so that the table below filters by name once per operator) -/
theorem select_eq (name : List Char) (ks : List Kind) :
    select name ks = pick ((overloads.filter (·.name == name)).filter fun o => matchKinds o.params o.star ks) := by
  rw [List.filter_filter]
  simp only [select, candidates, pick, Bool.and_comm]
  rfl

/-- overload selection over the registered table computes the matrix: in particular the choice is
    never ambiguous -/
theorem select_bin (op : BinOp) (k1 k2 : Kind) : select op.fname [k1, k2] = binImpl op k1 k2 := by
  rw [select_eq]
  exact forall_op_kinds (p := fun op k1 k2 => pick ((overloads.filter (·.name == op.fname)).filter
    fun o => matchKinds o.params o.star [k1, k2]) = binImpl op k1 k2) (by decide +kernel) op k1 k2

theorem select_un (op : UnOp) (k : Kind) : select op.fname [k] = unImpl op k := by
  have h : ∀ op ∈ [UnOp.pos, .neg, .not], ∀ k ∈ allKinds, select op.fname [k] = unImpl op k := by decide +kernel
  exact h op (by cases op <;> decide) k (mem_allKinds k)

theorem evalBin_eq (F : FloatOps) (cap : Nat) (op : BinOp) (a b : SVal) :
    evalBin F cap op a b =
      match binImpl op (kindOf a) (kindOf b) with
      | .ok i => run F cap i [a, b]
      | .error e => .error e := by
  simp only [evalBin, call, List.map, select_bin]
  cases binImpl op (kindOf a) (kindOf b) <;> rfl

theorem evalUn_eq (F : FloatOps) (cap : Nat) (op : UnOp) (a : SVal) :
    evalUn F cap op a =
      match unImpl op (kindOf a) with
      | .ok i => run F cap i [a]
      | .error e => .error e := by
  simp only [evalUn, call, List.map, select_un]
  cases unImpl op (kindOf a) <;> rfl

/-! ### integers are exact -/

/-- on integers `+ - *` and unary `- +` are the operations of `Int`, at any magnitude -/
theorem int_exact (F : FloatOps) (cap : Nat) (a b : Int) :
    evalBin F cap .add (.int a) (.int b) = .ok (.int (a + b)) ∧
    evalBin F cap .sub (.int a) (.int b) = .ok (.int (a - b)) ∧
    evalBin F cap .mul (.int a) (.int b) = .ok (.int (a * b)) ∧
    evalUn F cap .neg (.int a) = .ok (.int (-a)) ∧
    evalUn F cap .pos (.int a) = .ok (.int a) := by
  simp only [evalBin_eq, evalUn_eq]
  exact ⟨rfl, rfl, rfl, rfl, rfl⟩

/-- the ring laws of `Int` for the model's operators on integers (composed with `bind`, since every operator
    returns an `Except`) -/
theorem int_ring_laws (F : FloatOps) (cap : Nat) (a b c : Int) :
    evalBin F cap .add (.int a) (.int b) = evalBin F cap .add (.int b) (.int a) ∧
    evalBin F cap .mul (.int a) (.int b) = evalBin F cap .mul (.int b) (.int a) ∧
    ((evalBin F cap .add (.int a) (.int b)).bind fun s => evalBin F cap .add s (.int c)) =
      ((evalBin F cap .add (.int b) (.int c)).bind fun s => evalBin F cap .add (.int a) s) ∧
    ((evalBin F cap .mul (.int a) (.int b)).bind fun s => evalBin F cap .mul s (.int c)) =
      ((evalBin F cap .mul (.int b) (.int c)).bind fun s => evalBin F cap .mul (.int a) s) ∧
    ((evalBin F cap .add (.int b) (.int c)).bind fun s => evalBin F cap .mul (.int a) s) =
      ((evalBin F cap .mul (.int a) (.int b)).bind fun x =>
        (evalBin F cap .mul (.int a) (.int c)).bind fun y => evalBin F cap .add x y) ∧
    ((evalUn F cap .neg (.int a)).bind fun n => evalBin F cap .add (.int a) n) = .ok (.int 0) ∧
    ((evalBin F cap .sub (.int a) (.int b)).bind fun d => evalBin F cap .add d (.int b)) = .ok (.int a) := by
  simp only [(int_exact F cap _ _).1, (int_exact F cap _ _).2.1, (int_exact F cap _ _).2.2.1,
    (int_exact F cap _ 0).2.2.2.1, Except.bind]
  refine ⟨?_, ?_, ?_, ?_, ?_, ?_, ?_⟩
  · rw [Int.add_comm]
  · rw [Int.mul_comm]
  · rw [Int.add_assoc]
  · rw [Int.mul_assoc]
  · rw [Int.mul_add]
  · rw [Int.add_right_neg]
  · rw [Int.sub_add_cancel]

/-! ### floor division and modulo -/

theorem fmod_range_neg (a : Int) {b : Int} (hb : b < 0) : b < a.fmod b ∧ a.fmod b ≤ 0 := by
  have h := Int.neg_fmod_neg (-a) (-b)
  rw [Int.neg_neg, Int.neg_neg] at h
  have h1 := Int.fmod_nonneg_of_pos (-a) (b := -b) (by omega)
  have h2 := Int.fmod_lt_of_pos (-a) (b := -b) (by omega)
  omega

/-- for `b ≠ 0`, `a / b` and `a mod b` on integers are values `q`, `r` with
    `q * b + r = a` (also when computed with the model's own `*` and `+`), the remainder has the
    sign of the divisor and is smaller in magnitude; for `b = 0` both raise `ZeroDivisionError` -/
theorem floor_div_mod (F : FloatOps) (cap : Nat) (a b : Int) :
    (b = 0 → evalBin F cap .div (.int a) (.int b) = .error .zeroDivision ∧
             evalBin F cap .mod (.int a) (.int b) = .error .zeroDivision) ∧
    (b ≠ 0 → ∃ q r : Int,
      evalBin F cap .div (.int a) (.int b) = .ok (.int q) ∧
      evalBin F cap .mod (.int a) (.int b) = .ok (.int r) ∧
      q * b + r = a ∧
      ((evalBin F cap .mul (.int q) (.int b)).bind fun p => evalBin F cap .add p (.int r)) = .ok (.int a) ∧
      (0 < b → 0 ≤ r ∧ r < b) ∧ (b < 0 → b < r ∧ r ≤ 0)) := by
  have hd : evalBin F cap .div (.int a) (.int b) =
      if b = 0 then .error .zeroDivision else .ok (.int (a.fdiv b)) := by rw [evalBin_eq]; rfl
  have hm : evalBin F cap .mod (.int a) (.int b) =
      if b = 0 then .error .zeroDivision else .ok (.int (a.fmod b)) := by rw [evalBin_eq]; rfl
  constructor
  · intro h; rw [hd, hm]; simp [h]
  · intro h
    have hid := Int.fdiv_mul_add_fmod a b
    refine ⟨a.fdiv b, a.fmod b, by simp [hd, h], by simp [hm, h], hid, ?_, ?_, ?_⟩
    · simp only [(int_exact F cap _ _).2.2.1, (int_exact F cap _ _).1, Except.bind, hid]
    · intro hb; exact ⟨Int.fmod_nonneg_of_pos a hb, Int.fmod_lt_of_pos a hb⟩
    · intro hb; exact fmod_range_neg a hb

example : ∃ a b : Int, b ≠ 0 ∧ b < 0 ∧ a.fdiv b = -4 ∧ a.fmod b = -1 := ⟨7, -2, by decide⟩

/-! ### mixed int/float arithmetic is float arithmetic -/

def aopOf : BinOp → Option AOp
  | .add => some .add
  | .sub => some .sub
  | .mul => some .mul
  | .div => some .div
  | .mod => some .mod
  | _ => none

def isFltN : Num → Bool
  | .flt _ => true
  | .int _ => false

/-- what the five arithmetic operators do on two doubles -/
def floatResult (F : FloatOps) (o : AOp) (fx fy : UInt64) : Except Err SVal :=
  match o with
  | .add => .ok (.flt (F.add fx fy))
  | .sub => .ok (.flt (F.sub fx fy))
  | .mul => .ok (.flt (F.mul fx fy))
  | .div => if isZeroBits fy then .error .zeroDivision else .ok (.flt (F.div fx fy))
  | .mod => match pyFloatMod F fx fy with | .ok w => .ok (.flt w) | .error e => .error e

theorem toF_err {x : Num} {e : Err} (h : x.toF = .error e) : e = .overflow := by
  cases x with
  | int i =>
    change toFloat i = .error e at h
    unfold toFloat at h
    split at h <;> cases h
    rfl
  | flt w => cases h

theorem evalBin_num (F : FloatOps) (cap : Nat) (op : BinOp) (o : AOp) (h : aopOf op = some o) (x y : Num) :
    evalBin F cap op x.toSVal y.toSVal = arith F o x y := by
  rw [evalBin_eq]
  cases op <;> cases h <;> cases x <;> cases y <;> rfl

theorem arith_float (F : FloatOps) (o : AOp) {x y : Num} (hf : (isFltN x || isFltN y) = true) :
    arith F o x y =
      match x.toF with
      | .error e => .error e
      | .ok fx =>
        match y.toF with
        | .error e => .error e
        | .ok fy =>
          match floatArith F o fx fy with
          | .ok w => .ok (.flt w)
          | .error e => .error e := by
  -- the conversions are generalised before `rfl`, which would unfold `float()` of an int otherwise
  cases x with
  | flt wx => simp only [arith]; generalize (Num.flt wx).toF = r, y.toF = r'; rfl
  | int a =>
    cases y with
    | flt wy => simp only [arith]; generalize (Num.int a).toF = r, (Num.flt wy).toF = r'; rfl
    | int b => cases hf

theorem floatResult_eq (F : FloatOps) (o : AOp) (fx fy : UInt64) :
    floatResult F o fx fy = match floatArith F o fx fy with | .ok w => .ok (.flt w) | .error e => .error e := by
  cases o
  case div => simp only [floatResult, floatArith, pyFloatDiv]; split <;> rfl
  all_goals rfl

/-- an arithmetic operator with at least one float operand converts both operands
    with `float()` (left first; `OverflowError` when an int is too large) and applies the float
    operator -/
theorem mixed_is_float (F : FloatOps) (cap : Nat) (op : BinOp) (o : AOp) (h : aopOf op = some o)
    (x y : Num) (hf : (isFltN x || isFltN y) = true) :
    evalBin F cap op x.toSVal y.toSVal =
      match x.toF with
      | .error _ => .error .overflow
      | .ok fx =>
        match y.toF with
        | .error _ => .error .overflow
        | .ok fy => floatResult F o fx fy := by
  rw [evalBin_num F cap op o h, arith_float F o hf]
  cases hx : x.toF with
  | error e => rw [toF_err hx]
  | ok fx =>
    cases hy : y.toF with
    | error e => rw [toF_err hy]
    | ok fy => exact (floatResult_eq F o fx fy).symm

/-! ### exact numbers and code-point lists are linearly ordered -/

theorem ext_le_iff (x y : Ext) : Ext.le x y = (Ext.lt x y || Ext.eq x y) := by
  cases x <;> cases y <;> try rfl
  rename_i a b
  simp only [Ext.le, Ext.lt, Ext.eq, ← Bool.decide_or]
  exact decide_eq_decide.mpr (by omega)

/-- exactly one of `<`, `=`, `>` on exact numbers other than NaN -/
def exactlyOne (a b c : Bool) : Prop :=
  (a = true ∧ b = false ∧ c = false) ∨ (a = false ∧ b = true ∧ c = false) ∨ (a = false ∧ b = false ∧ c = true)

theorem ext_trichotomy (x y : Ext) (hx : x ≠ .nan) (hy : y ≠ .nan) :
    exactlyOne (Ext.lt x y) (Ext.eq x y) (Ext.lt y x) := by
  cases x <;> cases y <;> simp [Ext.lt, Ext.eq, exactlyOne] at * <;> omega

theorem ext_lt_trans (x y z : Ext) (h1 : Ext.lt x y = true) (h2 : Ext.lt y z = true) : Ext.lt x z = true := by
  cases x <;> cases y <;> cases z <;> simp [Ext.lt] at * <;> omega

theorem ext_eq_symm (x y : Ext) : Ext.eq x y = Ext.eq y x := by
  cases x <;> cases y <;> simp [Ext.eq] <;> omega

/-- `strLt` is the lexicographic order of `List Char` in core (`a < b` on `Char` is `a.toNat < b.toNat` by
    definition), which brings its order lemmas -/
theorem strLt_iff : ∀ s t : List Char, strLt s t = true ↔ s < t
  | [], [] => by simp [strLt]
  | [], _ :: _ => by simp [strLt]
  | _ :: _, [] => by simp [strLt]
  | a :: as, b :: bs => by
    rw [List.cons_lt_cons_iff, ← strLt_iff as bs, strLt]
    show _ ↔ a.toNat < b.toNat ∨ _
    by_cases h : a.toNat < b.toNat
    · simp [h]
    · by_cases h' : b.toNat < a.toNat
      · have : a ≠ b := fun e => by subst e; omega
        simp [h, h', this]
      · have : a = b := Char.toNat_inj.mp (by omega)
        simp [this]

theorem strLe_eq (s t : List Char) : strLe s t = !strLt t s := by
  induction s generalizing t with
  | nil => cases t <;> rfl
  | cons a as ih =>
    cases t with
    | nil => rfl
    | cons b bs =>
      rw [strLe, strLt, ih]
      by_cases h : a.toNat < b.toNat
      · rw [if_pos h, if_neg (Nat.lt_asymm h), if_pos h]; rfl
      · rw [if_neg h, if_neg h]; split <;> rfl

theorem str_trichotomy (s t : List Char) : exactlyOne (strLt s t) (decide (s = t)) (strLt t s) := by
  have lt {s t : List Char} (h : strLt s t = true) : s < t := (strLt_iff s t).mp h
  have nlt {s t : List Char} (h : strLt s t = false) : ¬ s < t :=
    fun l => Bool.eq_false_iff.mp h ((strLt_iff s t).mpr l)
  have ne {s t : List Char} (h : s < t) : decide (s = t) = false := decide_eq_false fun e => List.lt_irrefl t (e ▸ h)
  cases h1 : strLt s t <;> cases h2 : strLt t s
  · exact .inr (.inl ⟨rfl, decide_eq_true (List.le_antisymm (nlt h2) (nlt h1)), rfl⟩)
  · exact .inr (.inr ⟨rfl, (decide_eq_decide.mpr eq_comm).trans (ne (lt h2)), rfl⟩)
  · exact .inl ⟨rfl, ne (lt h1), rfl⟩
  · exact absurd (lt h2) (List.lt_asymm (lt h1))

theorem str_le_iff (s t : List Char) : strLe s t = (strLt s t || decide (s = t)) := by
  rw [strLe_eq]
  have h := str_trichotomy s t
  generalize strLt s t = x, strLt t s = z, decide (s = t) = y at h
  rcases h with ⟨rfl, rfl, rfl⟩ | ⟨rfl, rfl, rfl⟩ | ⟨rfl, rfl, rfl⟩ <;> rfl

theorem str_lt_trans (s t u : List Char) (h1 : strLt s t = true) (h2 : strLt t u = true) : strLt s u = true :=
  (strLt_iff s u).mpr (List.lt_trans ((strLt_iff s t).mp h1) ((strLt_iff t u).mp h2))

/-! ### the ordering operators -/

/-- the shape `<` and `<=` share (`>` and `>=` are these with the operands exchanged): null is below every
    other value, (null, null) is a constant, two numbers are compared by their exact values and two strings by
    their code points; no overload for anything else -/
def ordOp (nn : Bool) (num : Ext → Ext → Bool) (str : List Char → List Char → Bool) :
    SVal → SVal → Except Err SVal
  | .null, .null => .ok (.bool nn)
  | .null, _ => .ok (.bool true)
  | _, .null => .ok (.bool false)
  | .str s, .str t => .ok (.bool (str s t))
  | a, b =>
    match asNum a, asNum b with
    | some x, some y => .ok (.bool (num x.ext y.ext))
    | _, _ => .error .noMatching

theorem okBool {x y : Bool} (h : x = y) : (.ok (.bool x) : Except Err SVal) = .ok (.bool y) := h ▸ rfl

theorem evalBin_lt (F : FloatOps) (cap : Nat) (a b : SVal) :
    evalBin F cap .lt a b = ordOp false Ext.lt strLt a b := by
  rw [evalBin_eq]; cases a <;> cases b <;> rfl

theorem evalBin_le (F : FloatOps) (cap : Nat) (a b : SVal) :
    evalBin F cap .le a b = ordOp true Ext.le strLe a b := by
  rw [evalBin_eq]; cases a <;> cases b <;> rfl

/-- `a > b` is `b < a`, for all scalars (value or error alike) -/
theorem gt_flip (F : FloatOps) (cap : Nat) (a b : SVal) :
    evalBin F cap .gt a b = evalBin F cap .lt b a := by
  rw [evalBin_eq, evalBin_eq]; cases a <;> cases b <;> rfl

/-- `a >= b` is `b <= a`, for all scalars -/
theorem ge_flip (F : FloatOps) (cap : Nat) (a b : SVal) :
    evalBin F cap .ge a b = evalBin F cap .le b a := by
  rw [evalBin_eq, evalBin_eq]; cases a <;> cases b <;> rfl

theorem eq_total (F : FloatOps) (cap : Nat) (a b : SVal) :
    evalBin F cap .eq a b = .ok (.bool (pyEq a b)) ∧ evalBin F cap .ne a b = .ok (.bool (!pyEq a b)) := by
  simp only [evalBin_eq]
  exact ⟨rfl, rfl⟩

/-- wherever `a < b` has a value, `a <= b` is `a < b or a = b` -/
theorem le_iff (F : FloatOps) (cap : Nat) (a b : SVal) (x : Bool)
    (h : evalBin F cap .lt a b = .ok (.bool x)) :
    evalBin F cap .le a b = .ok (.bool (x || pyEq a b)) := by
  rw [evalBin_lt] at h
  rw [evalBin_le]
  -- `h` says what `x` is where the operands have an overload, and is absurd elsewhere
  cases a <;> cases b <;> cases h
  case str.str => exact okBool (str_le_iff _ _)
  case int.int | int.flt | flt.int | flt.flt => exact okBool (ext_le_iff _ _)
  all_goals rfl

def notNaN : SVal → Prop
  | .flt w => decode w ≠ .nan
  | _ => True

theorem ext_ne_nan {p : Num} (h : notNaN p.toSVal) : p.ext ≠ .nan := by
  cases p with
  | int i => exact nofun
  | flt w => exact h

/-- wherever `a < b` has a value and no NaN is involved, exactly one of `a < b`, `a = b`, `a > b` holds -/
theorem trichotomy (F : FloatOps) (cap : Nat) (a b : SVal) (x : Bool) (ha : notNaN a) (hb : notNaN b)
    (h : evalBin F cap .lt a b = .ok (.bool x)) :
    ∃ z, evalBin F cap .gt a b = .ok (.bool z) ∧ exactlyOne x (pyEq a b) z := by
  rw [gt_flip, evalBin_lt]
  rw [evalBin_lt] at h
  cases a <;> cases b <;> cases h
  case str.str => exact ⟨_, rfl, str_trichotomy _ _⟩
  case int.int | int.flt | flt.int | flt.flt => exact ⟨_, rfl, ext_trichotomy _ _ (ext_ne_nan ha) (ext_ne_nan hb)⟩
  all_goals exact ⟨_, rfl, by simp [exactlyOne, pyEq, numView]⟩

/-- `<` is transitive across all scalars (through null, within numbers - ints and floats mixed,
    compared exactly - and within strings) -/
theorem lt_trans (F : FloatOps) (cap : Nat) (a b c : SVal)
    (h1 : evalBin F cap .lt a b = .ok (.bool true)) (h2 : evalBin F cap .lt b c = .ok (.bool true)) :
    evalBin F cap .lt a c = .ok (.bool true) := by
  rw [evalBin_lt] at h1 h2 ⊢
  have inj : ∀ {r : Bool}, (.ok (.bool r) : Except Err SVal) = .ok (.bool true) → r = true :=
    fun h => SVal.bool.inj (Except.ok.inj h)
  -- the middle operand decides: nothing is below null, a boolean is below nothing; above a string
  -- (a number) there are only strings (numbers), below it null and strings (numbers)
  cases b with
  | null => cases a <;> cases h1
  | bool _ => cases c <;> cases h2
  | str t =>
    cases c <;> try cases h2
    cases a <;> try cases h1
    · rfl
    · exact okBool (str_lt_trans _ _ _ (inj h1) (inj h2))
  | int _ | flt _ =>
    cases c <;> try cases h2
    all_goals cases a <;> try cases h1
    all_goals first | rfl | exact okBool (ext_lt_trans _ _ _ (inj h1) (inj h2))

def isNumber : SVal → Bool
  | .int _ => true
  | .flt _ => true
  | _ => false

def isString : SVal → Bool
  | .str _ => true
  | _ => false

/-- both numbers (ints and floats mixed freely) or both strings -/
def comparable (a b : SVal) : Prop :=
  (isNumber a = true ∧ isNumber b = true) ∨ (isString a = true ∧ isString b = true)

/-- within numbers and within strings, NaN excluded (hypotheses `notNaN`: a NaN
    is unordered and unequal to everything, itself included, so trichotomy cannot hold for it):
    the four ordering operators and `=`/`!=` all have boolean values, `a > b` iff `b < a`,
    `a <= b` iff `a < b or a = b`, `a >= b` iff `b <= a`, exactly one of `<`, `=`, `>` holds,
    `!=` is the negation of `=` -/
theorem order_consistent (F : FloatOps) (cap : Nat) (a b : SVal) (hc : comparable a b)
    (ha : notNaN a) (hb : notNaN b) :
    ∃ lt eq gt : Bool,
      evalBin F cap .lt a b = .ok (.bool lt) ∧
      evalBin F cap .eq a b = .ok (.bool eq) ∧
      evalBin F cap .gt a b = .ok (.bool gt) ∧
      evalBin F cap .lt b a = .ok (.bool gt) ∧
      evalBin F cap .le a b = .ok (.bool (lt || eq)) ∧
      evalBin F cap .ge a b = evalBin F cap .le b a ∧
      evalBin F cap .ne a b = .ok (.bool (!eq)) ∧
      exactlyOne lt eq gt := by
  obtain ⟨x, hx⟩ : ∃ x, evalBin F cap .lt a b = .ok (.bool x) := by
    rw [evalBin_lt]
    cases a <;> cases b <;> simp [comparable, isNumber, isString] at hc <;> exact ⟨_, rfl⟩
  obtain ⟨z, hz, h1⟩ := trichotomy F cap a b x ha hb hx
  exact ⟨x, pyEq a b, z, hx, (eq_total F cap a b).1, hz, (gt_flip F cap a b).symm.trans hz, le_iff F cap a b x hx,
    ge_flip F cap a b, (eq_total F cap a b).2, h1⟩

example : comparable (.int (2 ^ 53 + 1)) (.flt 0x4340000000000000) ∧ notNaN (.flt 0x4340000000000000) := by
  refine ⟨Or.inl ⟨rfl, rfl⟩, ?_⟩
  simp only [notNaN]; decide +kernel

/-- int/float comparison is exact, not via rounding the int: `2^53 + 1 > 9007199254740992.0`
    although `float(2^53 + 1)` is that double -/
theorem mixed_compare_exact (F : FloatOps) (cap : Nat) :
    evalBin F cap .gt (.int (2 ^ 53 + 1)) (.flt 0x4340000000000000) = .ok (.bool true) ∧
    evalBin F cap .eq (.int (2 ^ 53 + 1)) (.flt 0x4340000000000000) = .ok (.bool false) ∧
    toFloat (2 ^ 53 + 1) = .ok 0x4340000000000000 := by
  rw [gt_flip, evalBin_lt, (eq_total F cap _ _).1]
  decide +kernel

/-- a NaN is neither below, equal to, nor above anything: the reason for the `notNaN` hypotheses -/
theorem nan_unordered (F : FloatOps) (cap : Nat) (w : UInt64) (hw : decode w = .nan) (b : Num) :
    evalBin F cap .lt (.flt w) b.toSVal = .ok (.bool false) ∧
    evalBin F cap .gt (.flt w) b.toSVal = .ok (.bool false) ∧
    evalBin F cap .eq (.flt w) b.toSVal = .ok (.bool false) ∧
    evalBin F cap .le (.flt w) b.toSVal = .ok (.bool false) := by
  have hr : ∀ x, Ext.lt x .nan = false := fun x => by cases x <;> rfl
  have hl : ∀ y, Ext.lt .nan y = false ∧ Ext.le .nan y = false ∧ Ext.eq .nan y = false := fun _ => ⟨rfl, rfl, rfl⟩
  rw [gt_flip, evalBin_lt, evalBin_lt, evalBin_le, (eq_total F cap _ _).1]
  cases b <;> simp [ordOp, asNum, Num.toSVal, Num.ext, pyEq, numView, hw, hr, hl]

example : decode qnan = .nan := by decide +kernel

/-! ### null is the bottom -/

/-- null is below every non-null value (booleans included) under all four ordering
    operators, from either side -/
theorem null_bottom (F : FloatOps) (cap : Nat) (v : SVal) (hv : v ≠ .null) :
    evalBin F cap .lt .null v = .ok (.bool true) ∧
    evalBin F cap .le .null v = .ok (.bool true) ∧
    evalBin F cap .gt .null v = .ok (.bool false) ∧
    evalBin F cap .ge .null v = .ok (.bool false) ∧
    evalBin F cap .lt v .null = .ok (.bool false) ∧
    evalBin F cap .le v .null = .ok (.bool false) ∧
    evalBin F cap .gt v .null = .ok (.bool true) ∧
    evalBin F cap .ge v .null = .ok (.bool true) := by
  simp only [gt_flip, ge_flip, evalBin_lt, evalBin_le]
  cases v with
  | null => exact absurd rfl hv
  | _ => exact ⟨rfl, rfl, rfl, rfl, rfl, rfl, rfl, rfl⟩

/-- `null <= null`, `null >= null`, not `null < null`, not `null > null`, `null = null` -/
theorem null_null (F : FloatOps) (cap : Nat) :
    evalBin F cap .le .null .null = .ok (.bool true) ∧
    evalBin F cap .ge .null .null = .ok (.bool true) ∧
    evalBin F cap .lt .null .null = .ok (.bool false) ∧
    evalBin F cap .gt .null .null = .ok (.bool false) ∧
    evalBin F cap .eq .null .null = .ok (.bool true) := by
  simp only [gt_flip, ge_flip, evalBin_lt, evalBin_le, (eq_total F cap _ _).1]
  exact ⟨rfl, rfl, rfl, rfl, rfl⟩

/-! ### a boolean is not a number; unrelated kinds do not match -/

def isArith : BinOp → Bool
  | .mul => true | .div => true | .mod => true | .add => true | .sub => true
  | _ => false

def isOrd : BinOp → Bool
  | .gt => true | .lt => true | .ge => true | .le => true
  | _ => false

def isBoolV : SVal → Bool
  | .bool _ => true
  | _ => false

/-- the pairs of operand kinds an operator is defined for -/
def related : BinOp → Kind → Kind → Bool
  | .mul, k1, k2 => (isNumK k1 && isNumK k2) || (k1 == .int && k2 == .str) || (k1 == .str && k2 == .int)
  | .div, k1, k2 => isNumK k1 && isNumK k2
  | .mod, k1, k2 => isNumK k1 && isNumK k2
  | .sub, k1, k2 => isNumK k1 && isNumK k2
  | .add, k1, k2 => (isNumK k1 && isNumK k2) || (k1 == .str && k2 == .str)
  | .isIn, k1, k2 => k1 == .str && k2 == .str
  | .gt, k1, k2 => (isNumK k1 && isNumK k2) || (k1 == .str && k2 == .str) || k1 == .null || k2 == .null
  | .lt, k1, k2 => (isNumK k1 && isNumK k2) || (k1 == .str && k2 == .str) || k1 == .null || k2 == .null
  | .ge, k1, k2 => (isNumK k1 && isNumK k2) || (k1 == .str && k2 == .str) || k1 == .null || k2 == .null
  | .le, k1, k2 => (isNumK k1 && isNumK k2) || (k1 == .str && k2 == .str) || k1 == .null || k2 == .null
  | _, _, _ => true

/-- the operand kinds on which a binary payload does not give `internal` (the payloads of the null
    overloads, of `=`, `!=`, `and`, `or` take anything) -/
def runsOn : Impl → Kind → Kind → Bool
  | .mathPlus | .mathMinus | .mathMul | .mathDiv | .mathMod | .mathGt | .mathGte | .mathLt | .mathLte =>
    fun k1 k2 => isNumK k1 && isNumK k2
  | .strGt | .strGte | .strLt | .strLte | .strConcat | .strIn => fun k1 k2 => k1 == .str && k2 == .str
  | .strByInt => fun k1 k2 => k1 == .str && k2 == .int
  | .intByStr => fun k1 k2 => k1 == .int && k2 == .str
  | .mathUPlus | .mathUMinus | .not => fun _ _ => false
  | _ => fun _ _ => true

theorem binImpl_cases (op : BinOp) (k1 k2 : Kind) :
    (related op k1 k2 = true ∧ ∃ i, binImpl op k1 k2 = .ok i ∧ runsOn i k1 k2 = true) ∨
    (related op k1 k2 = false ∧ binImpl op k1 k2 = .error .noMatching) := by
  have h := forall_op_kinds (p := fun op k1 k2 =>
    (match binImpl op k1 k2 with
    | .ok i => related op k1 k2 && runsOn i k1 k2
    | .error e => !related op k1 k2 && e == .noMatching) = true) (by decide +kernel) op k1 k2
  cases hi : binImpl op k1 k2 with
  | ok i => rw [hi] at h; exact .inl (by simpa using h)
  | error e => rw [hi] at h; exact .inr (by simpa using h)

/-- operands of kinds the operator is not defined for give
    `NoMatchingFunctionException`, never a value (and never another error) -/
theorem unrelated_no_match (F : FloatOps) (cap : Nat) (op : BinOp) (a b : SVal)
    (h : related op (kindOf a) (kindOf b) = false) : evalBin F cap op a b = .error .noMatching := by
  rcases binImpl_cases op (kindOf a) (kindOf b) with ⟨hr, _⟩ | ⟨_, hi⟩
  · rw [h] at hr; cases hr
  · rw [evalBin_eq, hi]

theorem unrelated_no_match_unary (F : FloatOps) (cap : Nat) (op : UnOp) (a : SVal)
    (h : op ≠ .not) (hk : isNumK (kindOf a) = false) : evalUn F cap op a = .error .noMatching := by
  cases op <;> simp [evalUn_eq, unImpl, hk] at h ⊢

theorem isBoolV_eq (a : SVal) : isBoolV a = (kindOf a == .bool) := by cases a <;> rfl

theorem ne_null_iff (a : SVal) : a ≠ .null ↔ (kindOf a != .null) = true := by cases a <;> simp [kindOf]

/-- with a boolean operand, no arithmetic operator (which covers `*` as
    repetition and `+` as concatenation), no `in`, no unary sign and - unless the other operand is
    null, where the null overloads of `null_bottom` answer - no ordering operator has a value:
    the call is rejected with `NoMatchingFunctionException` -/
theorem bool_not_number (F : FloatOps) (cap : Nat) (a b : SVal) (h : (isBoolV a || isBoolV b) = true) (op : BinOp) :
    (isArith op = true → evalBin F cap op a b = .error .noMatching) ∧
    (op = .isIn → evalBin F cap op a b = .error .noMatching) ∧
    (isOrd op = true → a ≠ .null → b ≠ .null → evalBin F cap op a b = .error .noMatching) := by
  -- no operator of these three groups relates `bool` to anything but, for the ordering operators, `null`
  have key := forall_op_kinds (p := fun op k1 k2 => (!(k1 == .bool || k2 == .bool) ||
    !(isArith op || op == .isIn || isOrd op && k1 != .null && k2 != .null) || !related op k1 k2) = true)
    (by decide +kernel) op (kindOf a) (kindOf b)
  rw [isBoolV_eq, isBoolV_eq] at h
  rw [h] at key
  refine ⟨fun ho => ?_, fun ho => ?_, fun ho ha hb => ?_⟩ <;> apply unrelated_no_match
  · simpa [ho] using key
  · simpa [ho] using key
  · simpa [ho, (ne_null_iff a).mp ha, (ne_null_iff b).mp hb] using key

theorem bool_not_number_unary (F : FloatOps) (cap : Nat) (b : Bool) :
    evalUn F cap .neg (.bool b) = .error .noMatching ∧ evalUn F cap .pos (.bool b) = .error .noMatching := by
  simp only [evalUn_eq]
  exact ⟨rfl, rfl⟩

/-! ### error classes; the choice of overload is never ambiguous -/

theorem ite_raises {α : Type} {P : Err → Prop} {c : Prop} [Decidable c] {x y : Except Err α} {e : Err}
    (hx : x = .error e → P e) (hy : y = .error e → P e) (h : (if c then x else y) = .error e) : P e := by
  split at h
  · exact hx h
  · exact hy h

theorem pyFloatMod_err {F : FloatOps} {x y : UInt64} {e : Err} (h : pyFloatMod F x y = .error e) :
    e = .zeroDivision := by
  simp only [pyFloatMod] at h
  -- one `r` per `if` of `pyFloatMod`, nested as they are there; the leaves are its results
  have r := @ite_raises UInt64 (· = .zeroDivision)
  refine r ?_ (r (r ?_ ?_) ?_) h <;> intro h <;> cases h
  rfl

theorem floatArith_err {F : FloatOps} {o : AOp} {x y : UInt64} {e : Err} (h : floatArith F o x y = .error e) :
    e = .zeroDivision := by
  cases o
  case div => unfold floatArith pyFloatDiv at h; refine ite_raises (P := (· = .zeroDivision)) ?_ ?_ h <;> intro h <;> cases h; rfl
  case mod => exact pyFloatMod_err h
  all_goals cases h

theorem arith_err {F : FloatOps} {o : AOp} {x y : Num} {e : Err} (h : arith F o x y = .error e) :
    e = .zeroDivision ∨ e = .overflow := by
  have fl (hf : (isFltN x || isFltN y) = true) : e = .zeroDivision ∨ e = .overflow := by
    rw [arith_float F o hf] at h
    split at h
    next hx => cases h; exact .inr (toF_err hx)
    next =>
      split at h
      next hy => cases h; exact .inr (toF_err hy)
      next =>
        split at h
        next => cases h
        next hz => cases h; exact .inl (floatArith_err hz)
  cases x with
  | flt w => exact fl rfl
  | int a =>
    cases y with
    | flt w => exact fl rfl
    | int b =>
      cases o <;> simp only [arith] at h
      case div | mod => split at h <;> cases h; exact .inl rfl
      all_goals cases h

theorem repeatStr_err {cap : Nat} {s : List Char} {n : Int} {e : Err} (h : repeatStr cap s n = .error e) :
    e = .overflow ∨ e = .memory := by
  -- one `r` per `if` of `repeatStr`, a chain of six; the leaves are its results
  have r := @ite_raises SVal (fun e => e = .overflow ∨ e = .memory)
  refine r ?_ (r ?_ (r ?_ (r ?_ (r ?_ (r ?_ ?_))))) h <;> intro h <;> cases h <;> simp

theorem numArith_toSVal (F : FloatOps) (o : AOp) (x y : Num) : numArith F o x.toSVal y.toSVal = arith F o x y := by
  cases x <;> cases y <;> rfl

theorem num_of_isNumK {a : SVal} (h : isNumK (kindOf a) = true) : ∃ x : Num, a = x.toSVal := by
  cases a with
  | int i => exact ⟨.int i, rfl⟩
  | flt w => exact ⟨.flt w, rfl⟩
  | _ => cases h

theorem str_of_kindOf {a : SVal} (h : (kindOf a == .str) = true) : ∃ s, a = .str s := by
  cases a with
  | str s => exact ⟨s, rfl⟩
  | _ => cases h

theorem int_of_kindOf {a : SVal} (h : (kindOf a == .int) = true) : ∃ n, a = .int n := by
  cases a with
  | int n => exact ⟨n, rfl⟩
  | _ => cases h

theorem run_err {F : FloatOps} {cap : Nat} {i : Impl} {a b : SVal} {e : Err}
    (ht : runsOn i (kindOf a) (kindOf b) = true) (h : run F cap i [a, b] = .error e) :
    e = .zeroDivision ∨ e = .overflow ∨ e = .memory := by
  have nums (ht : (isNumK (kindOf a) && isNumK (kindOf b)) = true) :=
    (Bool.and_eq_true_iff.mp ht).imp num_of_isNumK num_of_isNumK
  cases i
  case mathPlus | mathMinus | mathMul | mathDiv | mathMod =>
    obtain ⟨⟨x, rfl⟩, y, rfl⟩ := nums ht
    exact (arith_err ((numArith_toSVal F _ x y).symm.trans h)).imp_right .inl
  case mathGt | mathGte | mathLt | mathLte =>
    obtain ⟨⟨x, rfl⟩, y, rfl⟩ := nums ht
    cases x <;> cases y <;> cases h
  case strGt | strGte | strLt | strLte | strConcat | strIn =>
    obtain ⟨⟨s, rfl⟩, t, rfl⟩ := (Bool.and_eq_true_iff.mp ht).imp str_of_kindOf str_of_kindOf
    cases h
  case strByInt =>
    obtain ⟨⟨s, rfl⟩, n, rfl⟩ := (Bool.and_eq_true_iff.mp ht).imp str_of_kindOf int_of_kindOf
    exact .inr (repeatStr_err h)
  case intByStr =>
    obtain ⟨⟨n, rfl⟩, s, rfl⟩ := (Bool.and_eq_true_iff.mp ht).imp int_of_kindOf str_of_kindOf
    exact .inr (repeatStr_err h)
  case mathUPlus | mathUMinus | not => cases ht
  all_goals cases h

def okClass (e : Err) : Prop := e = .noMatching ∨ e = .zeroDivision ∨ e = .overflow ∨ e = .memory

/-- every error of a binary operator is one of the four classes the real code raises: the
    selection is never ambiguous and no payload runs on operands its parameter types reject -/
theorem error_classes (F : FloatOps) (cap : Nat) (op : BinOp) (a b : SVal) (e : Err)
    (h : evalBin F cap op a b = .error e) : okClass e := by
  rw [evalBin_eq] at h
  rcases binImpl_cases op (kindOf a) (kindOf b) with ⟨_, i, hi, ht⟩ | ⟨_, hi⟩ <;> rw [hi] at h
  · exact .inr (run_err ht h)
  · cases h; exact .inl rfl

theorem error_classes_unary (F : FloatOps) (cap : Nat) (op : UnOp) (a : SVal) (e : Err)
    (h : evalUn F cap op a = .error e) : e = .noMatching := by
  rw [evalUn_eq] at h
  cases op <;> cases a <;> cases h <;> rfl

theorem dispatch_unique (F : FloatOps) (cap : Nat) (op : BinOp) (a b : SVal) :
    evalBin F cap op a b ≠ .error .ambiguous ∧ evalBin F cap op a b ≠ .error .internal := by
  constructor <;> intro h <;> have := error_classes F cap op a b _ h <;> simp [okClass] at this

/-- where the kinds are related the call is not rejected -/
theorem related_matches (F : FloatOps) (cap : Nat) (op : BinOp) (a b : SVal)
    (h : related op (kindOf a) (kindOf b) = true) : evalBin F cap op a b ≠ .error .noMatching := by
  rcases binImpl_cases op (kindOf a) (kindOf b) with ⟨_, i, hi, ht⟩ | ⟨hr, _⟩
  · rw [evalBin_eq, hi]
    intro h'
    have := run_err ht h'
    simp at this
  · rw [h] at hr; cases hr

/-! ### strings, truth values -/

theorem string_ops (F : FloatOps) (cap : Nat) (s t : List Char) :
    evalBin F cap .add (.str s) (.str t) = .ok (.str (s ++ t)) ∧
    evalBin F cap .isIn (.str s) (.str t) = .ok (.bool (isInfix s t)) ∧
    evalBin F cap .eq (.str s) (.str t) = .ok (.bool (decide (s = t))) := by
  simp only [evalBin_eq]
  refine ⟨?_, rfl, rfl⟩
  show Except.ok (SVal.str (s ++ (t ++ []))) = _
  rw [List.append_nil]

theorem replicateStr_nil (k : Nat) : replicateStr [] k = [] := by
  induction k with
  | zero => rfl
  | succ k ih => simp [replicateStr, ih]

/-- repetition: `int * str` is `str * int`; non-positive counts give the empty string, counts
    outside the index range `OverflowError`; otherwise (allocator permitting) `n` copies -/
theorem repetition (F : FloatOps) (cap : Nat) (s : List Char) (n : Int) :
    evalBin F cap .mul (.int n) (.str s) = evalBin F cap .mul (.str s) (.int n) ∧
    (n ≤ 0 → -2 ^ 63 ≤ n → evalBin F cap .mul (.str s) (.int n) = .ok (.str [])) ∧
    ((n ≥ 2 ^ 63 ∨ n < -2 ^ 63) → evalBin F cap .mul (.str s) (.int n) = .error .overflow) ∧
    (∀ k : Nat, n = k → 2 ≤ k → (k : Int) < 2 ^ 63 → s.length * k ≤ cap → ((s.length * k : Nat) : Int) < 2 ^ 63 →
      evalBin F cap .mul (.str s) (.int n) = .ok (.str (replicateStr s k))) := by
  have e1 : evalBin F cap .mul (.int n) (.str s) = repeatStr cap s n := by rw [evalBin_eq]; rfl
  have e2 : evalBin F cap .mul (.str s) (.int n) = repeatStr cap s n := by rw [evalBin_eq]; rfl
  rw [e1, e2]
  unfold repeatStr ssizeMax
  refine ⟨rfl, fun h1 h2 => ?_, fun h => ?_, fun k hk h2 hk63 hc hl => ?_⟩
  · rw [if_neg (by simp; omega), if_pos (by omega)]
  · rw [if_pos (by simp; omega)]
  · subst hk
    have hdiv : ¬ (s.length : Int) > (2 ^ 63 - 1) / (k : Int) :=
      Int.not_lt.mpr ((Int.le_ediv_iff_mul_le (by omega)).mpr (by rw [← Int.natCast_mul]; omega))
    rw [if_neg (by simp; omega), if_neg (by omega), if_neg (by omega), if_neg hdiv, if_neg (by simp; omega)]
    cases s with
    | nil => simp [replicateStr_nil]
    | cons c cs => simp

theorem truth_ops (F : FloatOps) (cap : Nat) (a b : SVal) :
    evalBin F cap .and a b = .ok (if truthy a then b else a) ∧
    evalBin F cap .or a b = .ok (if truthy a then a else b) ∧
    evalUn F cap .not a = .ok (.bool (!truthy a)) := by
  simp only [evalBin_eq, evalUn_eq]
  exact ⟨rfl, rfl, rfl⟩

/-! ### non-vacuity and concrete values of the exact float layer -/

example : related .lt .int .str = false ∧ related .mul .str .float = false ∧ related .add .null .int = false := by decide
example : related .lt .int .float = true ∧ related .mul .str .int = true ∧ related .lt .bool .null = true := by decide
example : aopOf .mod = some .mod ∧ (isFltN (.int 3) || isFltN (.flt 0)) = true := by decide
example : (isBoolV (.bool true) || isBoolV (.int 1)) = true := by decide
-- 1.0, -0.0, the smallest subnormal, +inf
example : decode 0x3FF0000000000000 = .fin (2 ^ 1074) ∧ decode 0x8000000000000000 = .fin 0 ∧
    decode 1 = .fin 1 ∧ decode 0x7FF0000000000000 = .pinf := by decide +kernel
-- float(2^1024 - 2^970) overflows (the tie rounds to even, i.e. up to 2^1024), one less does not
example : toFloat (2 ^ 1024 - 2 ^ 970) = .error .overflow ∧
    toFloat (2 ^ 1024 - 2 ^ 970 - 1) = .ok 0x7FEFFFFFFFFFFFFF ∧ toFloat (-3) = .ok 0xC008000000000000 := by
  decide +kernel
-- fmod(5.5, -2.0) = 1.5 and python's 5.5 % -2.0 then adds the divisor; fmod(-0.0, 2.0) = -0.0 -> +0.0
example : fmodBits 0x4016000000000000 0xC000000000000000 = 0x3FF8000000000000 := by decide +kernel
def markOps : FloatOps := ⟨fun _ _ => 7, fun _ _ => 8, fun _ _ => 9, fun _ _ => 10⟩
example : pyFloatMod markOps 0x4016000000000000 0xC000000000000000 = .ok 7 ∧   -- the fix-up addition runs
    pyFloatMod markOps 0x8000000000000000 0x4000000000000000 = .ok 0 ∧          -- zero takes the divisor's sign
    pyFloatMod markOps 0x4016000000000000 0x4000000000000000 = .ok 0x3FF8000000000000 ∧
    pyFloatMod markOps 0x4016000000000000 0 = .error .zeroDivision := by
  decide +kernel

end Yaql.Props.C15
