import Yaql.Props.C04DispatchSite
/-!
C04 / C05 over the generated registry: the three kernel evaluations against `Gen/RegistryTypes.lean` (regenerated from
the live `yaql.create_context()` on every run), each over every call site `c` of `Callee.fixed`:
* `obs_fixed`   the representatives the translator proposes (`repsOfCallee c`) look the same as the argument shapes they
                stand for to EVERY parameter type registered under the name, before and after evaluation;
* `invBy_fixed` `EvalDispatch.dispatchOf` answers every call shape of the fragment like its representative
                (`siteInvBy`; `C04DispatchGen.inv_fixed` is the same for `siteInv`);
* `reps_fixed`  on the representatives, `dispatchOf` = `Resolve.resolve` on the generated overload family (live parameter
                types, class lattice, layers): same definition (python payload) or same error class, same arguments
                evaluated.
`Props/C04DispatchGen.lean` turns the three into the statement for every shape of the fragment (`Props/C04Dispatch.lean`:
`pattern_ok`).
-/
namespace Yaql.Props.C04DispatchGen
open Yaql Yaql.Eval Yaql.EvalDispatch Yaql.Gen.RegistryTypes

def fibre (r : Reps) (pos : List (List AShape)) (bs : List AShape) : List (List AShape) :=
  prod (List.zipWith (fun l b => l.filter fun a => r.app a == b) pos bs)

/-- `Pattern.invOk`, representative by representative: the kernel evaluates `dispatchOf` on a representative once,
    not once for every shape it stands for (`C04DispatchGen.invOk_of_invBy`) -/
def invBy (c : Callee) (r : Reps) (p : Pattern) : Bool :=
  p.recv.all fun rv => (prod (p.rep r).pos).all fun bs =>
    (fibre r p.pos bs).all fun as => dispatchOf ⟨c, rv, as⟩ == dispatchOf ⟨c, rv.map r.kind, bs⟩

def siteInvBy (c : Callee) : Bool := (patterns c).all (invBy c (repsOfCallee c))

theorem obs_fixed : Callee.fixed.all siteObs = true := by decide +kernel
theorem invBy_fixed : Callee.fixed.all siteInvBy = true := by decide +kernel
theorem reps_fixed : Callee.fixed.all siteReps = true := by decide +kernel

end Yaql.Props.C04DispatchGen
