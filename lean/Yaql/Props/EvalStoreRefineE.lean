import Yaql.Props.EvalStoreRefineM
/-! Refinement, part 3: functions, member access, one layer of the evaluator, the evaluator, `Statement.evaluate`. -/
namespace Yaql.Props.EvalStore
open Yaql Yaql.Value Yaql.Eval Yaql.EvalStore
open Yaql.Context (alookup aset normName)

theorem alookup_map_fst {α β : Type} (g : α → β) (f : Name) : ∀ (l : List (Name × α)),
    alookup f (l.map fun p => (p.1, g p.2)) = (alookup f l).map g
  | [] => rfl
  | (k, v) :: r => by
    simp only [List.map, alookup]
    split
    · rfl
    · exact alookup_map_fst g f r

theorem alookup_mem {α : Type} (f : Name) : ∀ (l : List (Name × α)) (v : α), alookup f l = some v → (f, v) ∈ l
  | [], _, h => by cases h
  | (k, v') :: r, v, h => by
    simp only [alookup] at h
    split at h
    · rename_i hk
      simp only [Option.some.injEq] at h
      simp only [beq_iff_eq] at hk
      subst h; subst hk; simp
    · exact List.mem_cons_of_mem _ (alookup_mem f r v h)

/-- the store's lookup against the chain's: same body, and the captured ID denotes the suffix the chain returns -/
theorem getFunF_abs {cs : List Cell} (hwf : WF cs) (f : Name) : ∀ (fuel c : Nat), c < fuel →
    Option.Rel (fun bd bD => bd.1 = bD.1 ∧ bD.2 = abs cs bd.2 ∧ bd.2 < cs.length)
      (getFunF cs f fuel c) (Ctx.getFun (abs cs c) f) := by
  intro fuel
  induction fuel with
  | zero => intro c h; omega
  | succ fuel ih =>
    intro c hc
    simp only [getFunF]
    cases hcell : cs[c]? with
    | none =>
      have : abs cs c = [] := by simp [abs, absF, hcell]
      rw [this]; exact .none
    | some cell =>
      have hlen : c < cs.length := (List.getElem?_eq_some_iff.mp hcell).1
      rw [abs_cons hwf c cell hcell]
      simp only [Ctx.getFun, frameOfCell, alookup_map_fst]
      cases hl : alookup f cell.funs with
      | some bd =>
        obtain ⟨b, d⟩ := bd
        have hd : d = c := (hwf c cell hcell).2 f b d (alookup_mem f _ _ hl)
        subst hd
        exact .some ⟨rfl, by rw [abs_cons hwf d cell hcell]; rfl, hlen⟩
      | none =>
        cases hp : cell.parent with
        | none => exact .none
        | some p =>
          have hpc : p < c := (hwf c cell hcell).1 p hp
          exact ih p (by omega)

theorem getFun_strip (f : Name) : ∀ (A : Ctx),
    Ctx.getFun (strip A) f = (Ctx.getFun A f).map fun p => (p.1, strip p.2)
  | [] => rfl
  | F :: A => by
    cases he : emptyFrame F with
    | true =>
      have hf : F.funs = [] := by
        simp only [emptyFrame, Bool.and_eq_true, List.isEmpty_iff] at he; exact he.2
      rw [strip_empty_cons F A he, getFun_strip f A]
      simp [Ctx.getFun, hf, alookup]
    | false =>
      have hs := strip_nonempty_cons F A he
      rw [hs]
      simp only [Ctx.getFun]
      cases alookup f F.funs with
      | some b => simp [hs]
      | none => exact getFun_strip f A

theorem getFun_rel {s : St} {c : Nat} {C : Ctx} (hwf : WF s.cells) (h : CtxRel s c C) (f : Name) :
    Option.Rel (fun bd bD => bd.1 = bD.1 ∧ CtxRel s bd.2 bD.2) (getFun s.cells c f) (Ctx.getFun C f) := by
  have h2 : (Ctx.getFun (abs s.cells c) f).map (fun p => (p.1, strip p.2)) =
      (Ctx.getFun C f).map (fun p => (p.1, strip p.2)) := by
    rw [← getFun_strip, ← getFun_strip, h.2]
  have hr := getFunF_abs hwf f (c + 1) c (Nat.lt_succ_self c)
  unfold getFun
  generalize getFunF s.cells f (c + 1) c = x, Ctx.getFun (abs s.cells c) f = y at hr h2 ⊢
  cases hr with
  | none =>
    cases hC : Ctx.getFun C f with
    | none => exact .none
    | some z => rw [hC] at h2; cases h2
  | some hr =>
    cases hC : Ctx.getFun C f with
    | none => rw [hC] at h2; cases h2
    | some z =>
      rw [hC] at h2
      simp only [Option.map_some, Option.some.injEq, Prod.mk.injEq] at h2
      exact .some ⟨hr.1.trans h2.1, hr.2.2, by rw [← hr.2.1]; exact h2.2⟩

/-- `get_functions`: the innermost registration, its captured ID denoting the context the chain returns -/
theorem sim_getFun {s0 : St} {c : Nat} {C : Ctx} (hC : CtxRel s0 c C) (f : Name) :
    Sim (fun s => Option.Rel fun bd bD => bd.1 = bD.1 ∧ CtxRel s bd.2 bD.2) s0 (getFunS c f) (.ok (Ctx.getFun C f)) :=
  fun s hs => ⟨hs.1, .refl s, getFun_rel hs.1 (hC.mono hs) f⟩

theorem ResRel.data {s : St} {x : R Obj} (hx : ∀ C, x ≠ .ok (.ctx C)) : ResRel ObjRel s (dataR x) x := by
  cases x with
  | ok o => exact ObjRel.data (s := s) fun C h => hx C (h ▸ rfl)
  | error e => rfl

theorem Sim.lift_data {s0 : St} {x : R Obj} (hx : ∀ C, x ≠ .ok (.ctx C)) : Sim ObjRel s0 (liftR (dataR x)) x :=
  fun s hs => ⟨hs.1, .refl s, .data hx⟩

theorem mapM_listArg_rel {s : St} : ∀ {os : List ObjS} {os' : List Obj}, ObjsRel s os os' →
    (os.mapM fun o => listArg o.erase) = os'.mapM listArg
  | [], [], _ => rfl
  | a :: r, b :: r', h => by
    simp only [List.mapM_cons]
    rw [erase_rel h.1 obliv_listArg, mapM_listArg_rel h.2]
  | [], _ :: _, h => h.elim
  | _ :: _, [], h => h.elim

section
variable {evS : EvS} {ev : Ev} (hev : SimEv evS ev) {s0 : St} {c : Nat} {C : Ctx} (hC : CtxRel s0 c C)
  (args : List Expr) (kw : List (Expr × Expr))
include hev hC

theorem sim_let : Sim ObjRel s0 (callFnS evS c .let_ args kw) (callFn ev C .let_ args kw) := by
  dsimp only [callFnS, callFn]
  refine (Sim.lift _).bind_eq fun names => (sim_evalList hev hC args).bind_eq fun vs =>
    (sim_evalList hev hC _).bind_eq fun kvs => ?_
  refine .child_data hC ((DataWrite.publishPos 1 vs).comp (DataWrite.publishNamed (names.zip kvs))) fun _ _ _ hX => ?_
  rw [argFrame_eq]
  exact .obj hX

theorem sim_with : Sim ObjRel s0 (callFnS evS c .with_ args kw) (callFn ev C .with_ args kw) := by
  dsimp only [callFnS, callFn]
  refine .ite (fun _ => (Sim.lift _).bind_eq fun _ => .err _) fun _ => (sim_evalList hev hC args).bind_eq fun vs => ?_
  refine .child_data hC (DataWrite.publishPos 1 vs) fun _ _ _ hX => ?_
  rw [argFrame_eq]
  exact .obj hX

theorem sim_def : Sim ObjRel s0 (callFnS evS c .def_ args kw) (callFn ev C .def_ args kw) := by
  dsimp only [callFnS, callFn]
  refine .ite (fun _ => .err _) fun _ => ?_
  rcases args with _ | ⟨nameE, _ | ⟨body, _ | _⟩⟩
  · exact .err _
  · exact .err _
  · refine (hev hC nameE).bind fun s1 no no' h1 hno => ?_
    have hl := sim_lazy_or hno .noFunction
    induction no, no', hno using ObjRel.byCases with
    | val v =>
      cases v with
      | str name => exact .child_reg (hC.mono h1) fun _ _ _ hX => .obj hX
      | _ => exact hl
    | _ => exact hl
  · exact .err _

theorem sim_listFn : Sim ObjRel s0 (callFnS evS c .list args kw) (callFn ev C .list args kw) := by
  dsimp only [callFnS, callFn]
  refine .ite (fun _ => .err _) fun _ => (sim_evalObjs hev hC args).bind fun s1 os os' h1 hos => ?_
  refine .child (hC.mono h1) fun _ _ _ hL => .child hL fun _ _ _ hDl => .child hDl fun _ _ _ _ => ?_
  rw [mapM_listArg_rel hos]
  exact (Sim.lift _).bind_eq fun _ => .obj (.val _)

theorem sim_dictFn : Sim ObjRel s0 (callFnS evS c .dict args kw) (callFn ev C .dict args kw) := by
  dsimp only [callFnS, callFn]
  rcases args with _ | ⟨e, _ | _⟩
  · exact (sim_evalPairs hev hC kw).bind_eq fun ps => .child hC fun _ _ _ _ => .lift_data (C04.mkDict_noCtx ps)
  · cases kw with
    | cons => exact .err _
    | nil =>
      refine (hev hC e).bind fun s1 o o' h1 ho => ?_
      rw [toIterS_rel ho]
      cases toIter o' with
      | none => exact .err _
      | some it =>
        exact .child (hC.mono h1) fun _ _ _ _ => (Sim.lift _).bind_eq fun _ => (Sim.lift _).bind_eq fun ps =>
          .lift_data (C04.mkDict_noCtx ps)
  · exact .err _

/-- `len(x)`, `any(x, ..)`, `all(x, ..)` are the method with the receiver as first argument -/
theorem sim_callFn (f : Fn) : Sim ObjRel s0 (callFnS evS c f args kw) (callFn ev C f args kw) := by
  have recv : ∀ f, f = .len ∨ f = .any ∨ f = .all → Sim ObjRel s0 (callFnS evS c f args kw) (callFn ev C f args kw) := by
    rintro f (rfl | rfl | rfl)
    all_goals
      dsimp only [callFnS, callFn]
      refine .ite (fun _ => .err _) fun _ => ?_
      cases args with
      | nil => exact .err _
      | cons recv rest =>
        exact .ite (fun _ => .err _) fun _ => (hev hC recv).bind fun _ _ _ h1 hr => sim_callMethod hev (hC.mono h1) hr _ _
  cases f with
  | let_ => exact sim_let hev hC args kw
  | with_ => exact sim_with hev hC args kw
  | def_ => exact sim_def hev hC args kw
  | list => exact sim_listFn hev hC args kw
  | dict => exact sim_dictFn hev hC args kw
  | len => exact recv _ (.inl rfl)
  | any => exact recv _ (.inr (.inl rfl))
  | all => exact recv _ (.inr (.inr rfl))
  | _ => exact .err _

end

mutual
/-- the projection of one element - of ANY kind, nested collections included: the store-passing run allocates
    the delegate child and the operator's call context per element (for a nested collection: the call context
    of the inner `collection_attribution`, under which the inner elements get theirs) and returns what `Eval`
    returns -/
theorem memberV_post (C : Ctx) (name : Name) : ∀ (x : Value) (K : Nat) (s : St), WF s.cells → CtxRel s K C →
    Post QEq s (memberVS K name x s) (memberV name x)
  | .dict d, K, s, hwf, hK => by
    rw [EvalStore.memberVS, Eval.memberV]
    refine Sim.child hK (fun _ _ _ hDt => .child hDt fun _ _ _ _ => ?_) s (.refl hwf)
    cases Seq.dGet d (.str name) with
    | some v => exact .refl
    | none => exact .err _
  | .tuple l, K, s, hwf, hK | .list l, K, s, hwf, hK | .iter l, K, s, hwf, hK => by
    rw [EvalStore.memberVS, Eval.memberV]
    refine Sim.child hK (fun _ _ _ hDt => .child hDt fun _ K2 _ hK2 => ?_) s (.refl hwf)
    exact Sim.bind_eq (fun s hs => memberVL_post C name l K2 s hs.1 (hK2.mono hs)) fun _ => .lift _
  | .set _, K, s, hwf, hK => by rw [EvalStore.memberVS, Eval.memberV]; exact Sim.err _ s (.refl hwf)
  | .null, K, s, hwf, hK | .bool _, K, s, hwf, hK | .int _, K, s, hwf, hK | .flt _, K, s, hwf, hK
  | .str _, K, s, hwf, hK | .host _, K, s, hwf, hK => by
    rw [EvalStore.memberVS, Eval.memberV, EvalStore.memberNoneS]
    exact Sim.child hK (fun _ _ _ hDt => .child hDt fun _ _ _ hG => .child hG fun _ _ _ _ => .err _) s (.refl hwf)
theorem memberVL_post (C : Ctx) (name : Name) : ∀ (l : VL) (K : Nat) (s : St), WF s.cells → CtxRel s K C →
    Post QEq s (memberVSL K name l s) (Eval.memberVL name l)
  | [], K, s, hwf, hK => by rw [EvalStore.memberVSL, Eval.memberVL]; exact Sim.refl s (.refl hwf)
  | x :: xs, K, s, hwf, hK => by
    rw [EvalStore.memberVSL, Eval.memberVL]
    refine Sim.bind_eq (Sim.captured fun s hs => memberV_post C name x K s hs.1 (hK.mono hs)) (fun r => ?_) s (.refl hwf)
    cases r with
    | error er => exact .refl
    | ok v => exact Sim.bind_eq (fun s hs => memberVL_post C name xs K s hs.1 (hK.mono hs)) fun _ => .refl
end

theorem sim_memberOf {s0 : St} {c : Nat} {C : Ctx} (hC : CtxRel s0 c C) {r : ObjS} {r' : Obj} (hr : ObjRel s0 r r')
    (name : Name) : Sim ObjRel s0 (memberOfS c r name) (memberOf r' name) := by
  have other : Sim ObjRel s0
      (match toIterS r with
        | some (items, err) => do
          let K ← childCtx c
          let s ← mapLS (memberVS K name) items err; pure (ObjS.data (.lazy s.1 s.2))
        | none => do
          let G ← childCtx c
          let _ ← childCtx G
          fail .unknownFunction)
      (match toIter r' with
        | some (items, err) => do let s ← mapL (memberV name) items err; pure (.lazy s.1 s.2)
        | none => .error .unknownFunction) := by
    rw [toIterS_rel hr]
    cases toIter r' with
    | none => exact .child hC fun _ _ _ hG => .child hG fun _ _ _ _ => .err _
    | some it =>
      exact .child hC fun _ K _ hK =>
        (sim_mapL (fun x s hs => memberV_post C name x K s hs.1 (hK.mono hs)) it.1 it.2).bind_eq fun _ => .obj (.lazy _ _)
  unfold EvalStore.memberOfS Eval.memberOf
  induction r, r', hr using ObjRel.byCases with
  | val v =>
    cases v with
    | dict d =>
      refine .child hC fun _ _ _ _ => ?_
      dsimp only
      cases Seq.dGet d (.str name) with
      | some v => exact .obj (.val _)
      | none => exact .err _
    | set l => exact .err _
    | _ => exact other
  | _ => exact other

theorem binop_rel {s : St} {x y : ObjS} {x' y' : Obj} (hx : ObjRel s x x') (hy : ObjRel s y y') (op : BinOp) :
    binop op x.erase y.erase = binop op x' y' := by
  have h1 : binop op x.erase y.erase = binop op x' y.erase :=
    erase_rel hx (f := fun o => binop op o y.erase) (fun _ _ => by cases op <;> rfl)
  have h2 : binop op x' y.erase = binop op x' y' :=
    erase_rel hy (f := fun o => binop op x' o) (fun _ _ => by cases x' <;> cases op <;> rfl)
  rw [h1, h2]

theorem sim_readVar {s0 : St} {G : Nat} {C : Ctx} (hG : CtxRel s0 G C) (x : Name) :
    Sim ObjRel s0 (readVarS G x) (readVar C x) := by
  intro s hs
  unfold EvalStore.readVarS Eval.readVar
  rw [getData_rel (hG.mono hs)]
  cases Ctx.get C x with
  | none => exact ⟨hs.1, .refl s, ObjRel.val (s := s) _⟩
  | some v =>
    dsimp only
    split
    · exact ⟨hs.1, .refl s, rfl⟩
    · exact ⟨hs.1, .refl s, ObjRel.val (s := s) _⟩

section
variable {evS : EvS} {ev : Ev} (hev : SimEv evS ev) {s0 : St} {c : Nat} {C : Ctx} (hC : CtxRel s0 c C)
include hev hC

theorem sim_binStrict (op : BinOp) (a b : Expr) :
    Sim ObjRel s0
      (if litOk op a && litOk op b then do
          let x ← evS c a; let y ← evS c b; callPure c (dataR (binop op x.erase y.erase))
        else (fail .noFunction : M ObjS))
      (if litOk op a && litOk op b then do let x ← ev C a; let y ← ev C b; binop op x y
        else .error .noFunction) := by
  refine .ite (fun _ => (hev hC a).bind fun s1 x x' h1 hx => (hev (hC.mono h1) b).bind fun s2 y y' h2 hy => ?_)
    fun _ => .err _
  rw [binop_rel (hx.mono h2) hy]
  exact .callPure (hC.mono (h1.trans h2)) fun _ => .data (C04.binop_noCtx _ _ _)

end

theorem sim_step {evS : EvS} {ev : Ev} (hev : SimEv evS ev) : SimEv (stepS evS) (step ev) := by
  intro s0 c C hC e
  cases e with
  | lit v => exact .obj (.val _)
  | kw k => exact .obj (.val _)
  | var x => exact .child hC fun _ _ _ hG => sim_readVar hG x
  | list es => exact (sim_evalList hev hC es).bind_eq fun _ => .child hC fun _ _ _ _ => .obj (.val _)
  | map kvs =>
    exact (sim_evalPairs hev hC kvs).bind_eq fun ps => .child hC fun _ _ _ _ => .lift_data (C04.mkDict_noCtx ps)
  | index e args =>
    dsimp only [stepS, step]
    refine .ite (fun _ => (hev hC e).bind fun s1 r r' h1 hr => ((sim_evalList hev hC args).mono h1).bind_eq fun vs => ?_)
      fun _ => .err _
    rw [erase_rel hr (obliv_indexer vs)]
    exact .callPure (hC.mono h1) fun _ => .data (C04.indexer_noCtx _ _)
  | un op e =>
    dsimp only [stepS, step]
    refine (hev hC e).bind fun s1 r r' h1 hr => ?_
    rw [erase_rel hr (obliv_unop op)]
    exact .callPure (hC.mono h1) fun _ => .data (C04.unop_noCtx _ _)
  | bin op a b =>
    cases op with
    | and =>
      dsimp only [stepS, step]
      refine .child hC fun _ _ _ hA => .child hA fun _ _ h2 hA1 => (hev hA1 a).bind fun _ x x' h3 hx => ?_
      rw [truthyS_rel hx]
      exact .ite (fun _ => .child (hA.mono (h2.trans h3)) fun _ _ _ hA2 => hev hA2 b) fun _ => .obj hx
    | or =>
      dsimp only [stepS, step]
      refine .child hC fun _ _ _ hA => .child hA fun _ _ h2 hA1 => (hev hA1 a).bind fun _ x x' h3 hx => ?_
      rw [truthyS_rel hx]
      exact .ite (fun _ => .obj hx) fun _ => .child (hA.mono (h2.trans h3)) fun _ _ _ hA2 => hev hA2 b
    | _ => exact sim_binStrict hev hC _ a b
  | arrow l r =>
    dsimp only [stepS, step]
    refine (hev hC l).bind fun s1 c1 c1' h1 hc1 => ?_
    induction c1, c1', hc1 using ObjRel.byCases with
    | ctx X C' hX => exact .child (hC.mono h1) fun _ _ h2 _ => hev (hX.mono h2) r
    | _ => exact .err _
  | member e name => exact (hev hC e).bind fun _ _ _ h1 hr => sim_memberOf (hC.mono h1) hr name
  | call f args kw => exact sim_callFn hev hC args kw f
  | ucall f args kw =>
    dsimp only [stepS, step]
    refine (sim_getFun hC (fnKey f)).step fun s1 x h1 hg => ?_
    generalize Ctx.getFun C (fnKey f) = y at hg ⊢
    cases hg with
    | none => exact .err _
    | @some bd bD hg =>
      obtain ⟨body, D⟩ := bd
      obtain ⟨body', D'⟩ := bD
      obtain ⟨rfl, hD⟩ := hg
      have hC1 := hC.mono h1
      refine (Sim.lift _).bind_eq fun names => (sim_evalList hev hC1 args).bind_eq fun vs =>
        (sim_evalList hev hC1 _).bind_eq fun kvs => .child hC1 fun _ _ h4 _ => ?_
      refine .child_data (hD.mono h4) ((DataWrite.publishPos 1 vs).comp (DataWrite.publishNamed (names.zip kvs)))
        fun _ _ _ hV => ?_
      rw [argFrame_eq]
      exact hev hV body
  | method e f args kw =>
    dsimp only [stepS, step]
    refine (hev hC e).bind fun _ _ _ h1 hr => .ite (fun _ => .err _) fun _ => ?_
    exact .child (hC.mono h1) fun _ _ h2 hA => .child hA fun _ _ h3 hA1 => sim_callMethod hev hA1 (hr.mono (h2.trans h3)) f args
  | umethod e f =>
    exact (hev hC e).bind fun _ _ _ h1 _ => .child (hC.mono h1) fun _ _ _ hA => .child hA fun _ _ _ _ => .err _

theorem sim_eval : ∀ n, SimEv (evalS n) (eval n)
  | 0 => fun _ _ => .err _
  | n + 1 => sim_step (sim_eval n)

/-! ### `#finalize`, `Statement.__call__`, `Statement.evaluate` -/

/-- the `#iter` delegate calls of the finaliser only allocate: they touch nothing the reference sees -/
theorem sim_iterCalls {s0 : St} {F : Nat} {C : Ctx} (hF : CtxRel s0 F C) : ∀ n, Sim QEq s0 (iterCalls F n) (.ok ())
  | 0 => .refl
  | n + 1 => .child hF fun _ _ h1 hD => .child hD fun _ _ h2 _ => sim_iterCalls (hF.mono (h1.trans h2)) n

theorem liftR_bind (x : R α) (f : α → R β) : (liftR x >>= fun a => liftR (f a)) = liftR (x >>= f) := by
  funext s
  cases x <;> rfl

theorem finalise_drain (o : Obj) (it : VL × Option Err) (h : toIter o = some it) (hn : ∀ C, o ≠ .ctx C) :
    (drain it >>= fun _ => finalise o) = finalise o := by
  have hf : finalise o = (do let xs ← drain it; if Seq.finOkL xs then pure (.data (.list xs)) else .error .type) := by
    cases o with
    | ctx C => exact absurd rfl (hn C)
    | val v => simp only [finalise, h]
    | lazy a b => simp only [finalise, h]
    | ordered a b => simp only [finalise, h]
  rw [hf]
  cases drain it <;> rfl

theorem sim_finalise {s0 : St} {F : Nat} {C : Ctx} {o : ObjS} {o' : Obj} (ho : ObjRel s0 o o') (hF : CtxRel s0 F C) :
    Sim QEq s0 (finaliseS F o) (finalise o') := by
  have iter : ∀ d it, toIter d = some it → (∀ C, d ≠ .ctx C) → Sim QEq s0
      (do iterCalls F 1; iterCalls F (containersL it.1); let _ ← liftR (drain it); liftR (finalise d)) (finalise d) :=
    fun d it hit hn => .seq (sim_iterCalls hF 1) (.seq (sim_iterCalls hF _) (by
      rw [liftR_bind, finalise_drain d it hit hn]; exact .lift _))
  unfold EvalStore.finaliseS
  induction o, o', ho using ObjRel.byCases with
  | ctx c C' _ => exact .refl
  | val v =>
    dsimp only
    cases hit : toIter (.val v) with
    | some it => exact iter _ it hit nofun
    | none => exact .seq (sim_iterCalls hF _) (.lift _)
  | lazy a b => exact iter _ (a, b) rfl nofun
  | ordered a b => exact iter _ (a, b) rfl nofun

/-- `Statement.__call__`: the store-passing `#finalize(expression)` against the reference's `eval` + `finalise` -/
theorem sim_callS (fuel : Nat) (e : Expr) {s0 : St} {c : Nat} {C : Ctx} (hC : CtxRel s0 c C) :
    Sim QEq s0 (callS fuel c e) (eval fuel C e >>= finalise) :=
  (sim_eval fuel hC e).bind fun _ _ _ h1 ho => .child (hC.mono h1) fun _ _ h2 hF => sim_finalise (ho.mono h2) hF

/-- **The refinement at full strength**: for every fuel, expression, well-formed store and context ID whose chain is
    `C` up to frames that bind nothing, `evalS` and `Eval.eval` return the same value / the same error (a context
    object: an ID whose chain is the reference's, again up to such frames), and the store stays well-formed and
    only grows. -/
def refines_eval_full : Prop :=
  ∀ (n : Nat) (s : St) (c : Nat) (C : Ctx) (e : Expr), WF s.cells → CtxRel s c C →
    Post ObjRel s (evalS n c e s) (eval n C e)

/-- **refines_eval**: the full statement, proved (every construct of the fragment) -/
theorem refines_eval : refines_eval_full := fun n s _ _ e hwf hC => sim_eval n hC e s (.refl hwf)

/-- ... spelled out for results that are data: same value, same error -/
theorem refines_eval_value (n : Nat) (s : St) (c : Nat) (C : Ctx) (e : Expr) (hwf : WF s.cells) (hC : CtxRel s c C) :
    (∀ o, eval n C e = .ok o → (∀ C', o ≠ .ctx C') → (evalS n c e s).1 = .ok (.data o)) ∧
    (∀ er, eval n C e = .error er → (evalS n c e s).1 = .error er) ∧
    (∀ er, (evalS n c e s).1 = .error er → eval n C e = .error er) := by
  obtain ⟨_, _, hr⟩ := sim_eval n hC e s (.refl hwf)
  generalize (evalS n c e s).1 = x, eval n C e = y at hr
  induction x, y, hr using ResRel.byCases with
  | error er => exact ⟨nofun, fun _ h => by cases h; rfl, fun _ h => by cases h; rfl⟩
  | ok a b h =>
    refine ⟨fun o ho hn => ?_, nofun, nofun⟩
    cases ho
    induction a, b, h using ObjRel.byCases with
    | ctx c C _ => exact absurd rfl (hn C)
    | _ => rfl

/-- the store a host hands to `evaluate`: context `c` is an empty child context under a chain that binds nothing
    (the builtins live outside the model) -/
def FreshCtx (s : St) (c : Nat) : Prop :=
  WF s.cells ∧ CtxRel s c [] ∧ ∃ cell, s.cells[c]? = some cell ∧ cell.data = [] ∧ cell.funs = []

/-- **refines_run**: `statement.evaluate(data=doc, context=c)` of the store-passing evaluator returns exactly what
    C04's `Eval.run` returns - every fuel, document, expression, every such store. -/
theorem refines_run (fuel : Nat) (doc : Value) (e : Expr) (s : St) (c : Nat) (h : FreshCtx s c) :
    (evaluateS fuel c doc e s).1 = Eval.run fuel doc e := by
  obtain ⟨hwf, hC, cell, hcell, hd, hf⟩ := h
  obtain ⟨cd, cf, cp⟩ := cell
  simp only at hd hf
  subst hd; subst hf
  have hs := setVar_cells c ['$'] doc s _ hcell
  have hwf1 : WF (setVar c ['$'] doc s).2.cells := by rw [hs]; exact hwf.set_data c _ hcell _
  obtain ⟨hlen, _⟩ := List.getElem?_eq_some_iff.mp hcell
  have hC1 : CtxRel (setVar c ['$'] doc s).2 c [{ vars := [(['$', '1'], doc)] }] := by
    refine ⟨by rw [hs]; simpa using hlen, ?_⟩
    rw [hs]
    rw [hs] at hwf1
    rw [abs_cons hwf1 c _ (List.getElem?_set_self hlen)]
    have h0 := hC.2
    rw [abs_cons hwf c _ hcell] at h0
    cases cp with
    | none => simp [strip, List.filter, emptyFrame, frameOfCell, aset, normName]
    | some p =>
      have hpc : p < c := (hwf c _ hcell).1 p rfl
      simp only at h0 ⊢
      have hp : abs (s.cells.set c { data := aset (normName ['$']) doc [], funs := [], parent := some p }) p =
          abs s.cells p :=  -- the chain of an older context does not see cell `c`
        abs_congr hwf p fun i hi => List.getElem?_set_ne (by omega)
      rw [hp]
      have h1 : strip (abs s.cells p) = [] := by
        rw [strip_empty_cons _ _ (by rfl)] at h0; exact h0
      rw [strip_nonempty_cons _ _ (by rfl), h1]
      rfl
  rw [evaluateS_eq]
  obtain ⟨_, _, hr⟩ := sim_callS fuel e hC1 _ (.refl hwf1)
  exact hr.eq

/-- non-vacuity: the driver's start store (root, child handed to `evaluate`) is such a store -/
example : FreshCtx { cells := [{}, { parent := some 0 }], log := [] } 1 := by
  refine ⟨?_, ⟨by decide, rfl⟩, { parent := some 0 }, rfl, rfl, rfl⟩
  intro i cell hi
  match i, hi with
  | 0, hi =>
    cases hi
    exact ⟨fun _ h => (by cases h), fun _ _ _ h => (by cases h)⟩
  | 1, hi =>
    cases hi
    exact ⟨fun p h => (by cases h; decide), fun _ _ _ h => (by cases h)⟩
  | n + 2, hi => cases hi

end Yaql.Props.EvalStore
