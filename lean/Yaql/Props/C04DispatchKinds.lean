import Yaql.Model.EvalDispatch
namespace Yaql.EvalDispatch

theorem Kind.mem_all (k : Kind) : k ∈ Kind.all := by cases k <;> decide

theorem BinOp.mem_all (op : Eval.BinOp) : op ∈ BinOp.all := by cases op <;> decide

end Yaql.EvalDispatch
