import Yaql.Model.Yaqlized
/-!
C07 - expressions cannot reach host objects except through granted members.

Theorems over the model `Yaql.Yaqlized` (entries abstract: any type with a decidable match in
which a plain string entry matches exactly itself):

* `underscore_denied`      a name starting with `_` is refused on all three paths, whatever the settings
* `whitelist_exact` / `blacklist_exact`
* `remap_targets_blacklisted` (+ `remap_target_denied`)
* `same_decision`          attribute / method / index take the same allow-deny decision
  (`reached_member`: attribute and method access reach the REMAPPED member, the indexer path
  does not remap - the code is modelled as it is)
* `not_yaqlized_no_access`, `switch_off_no_access`, `access_ok_checked`
* `auto_off_keeps`, `auto_on_grants`
* `gate`                   over a registry: whatever overload is selected, an opaque host object bound
  to a parameter with a host-touching use passed `Yaqlized.check` with that parameter's flags
-/
namespace Yaql.Props.C07
open Yaql.Yaqlized

instance instDecEqExcept {ε α : Type} [DecidableEq ε] [DecidableEq α] : DecidableEq (Except ε α)
  | .ok a, .ok b => if h : a = b then isTrue (by rw [h]) else isFalse (by intro h'; cases h'; exact h rfl)
  | .error a, .error b => if h : a = b then isTrue (by rw [h]) else isFalse (by intro h'; cases h'; exact h rfl)
  | .ok _, .error _ => isFalse (by intro h; cases h)
  | .error _, .ok _ => isFalse (by intro h; cases h)

variable {E : Type} [EntryLike E]

/-! ## validation -/

theorem anyMatch_iff (es : List E) (n : Name) :
    anyMatch es n = true ↔ ∃ e, e ∈ es ∧ EntryLike.matchesName e n = true := by
  simp [anyMatch, List.any_eq_true]

theorem anyMatch_ofNames (names : List Name) (n : Name) :
    anyMatch (names.map (EntryLike.ofName (E := E))) n = true ↔ n ∈ names := by
  simp [anyMatch, List.any_map, Function.comp_def, EntryLike.matches_ofName]

theorem validateName_eq (exc : Err) (s : Settings E) (n : Name) :
    validateName exc s n = if allowed s n then .ok () else .error exc := by
  unfold validateName allowed
  cases startsUnderscore n <;> cases s.whitelist.isEmpty <;>
    cases anyMatch s.whitelist n <;> cases anyMatch s.blacklist n <;> rfl

theorem validate_ok_iff_allowed (exc : Err) (s : Settings E) (n : Name) :
    validateName exc s n = .ok () ↔ allowed s n = true := by
  rw [validateName_eq]; cases allowed s n <;> simp

theorem underscore_not_allowed (s : Settings E) (n : Name) (h : startsUnderscore n = true) :
    allowed s n = false := by
  simp [allowed, h]

theorem allowed_whitelist (s : Settings E) (n : Name) (hw : s.whitelist ≠ []) :
    allowed s n = (!startsUnderscore n && anyMatch s.whitelist n) := by
  simp [allowed, hw]

theorem allowed_no_whitelist (s : Settings E) (n : Name) (hw : s.whitelist = []) :
    allowed s n = (!startsUnderscore n && !anyMatch s.blacklist n) := by
  simp [allowed, hw]

theorem attribution_denied_iff (s : Settings E) (n : Name) :
    attribution s n = .error .attributeError ↔ allowed s n = false := by
  unfold attribution
  rw [validateName_eq]
  cases allowed s n
  · simp
  · cases remapName s n <;> simp

theorem opDot_denied_iff (s : Settings E) (n : Name) (kws : List Name) :
    opDot s n kws = .error .attributeError ↔ allowed s n = false := by
  unfold opDot
  rw [validateName_eq]
  cases allowed s n
  · simp
  · cases remapName s n with
    | name m => simp
    | tuple m am =>
      cases am with
      | none => simp
      | some x => cases hrn : renamesKw x kws <;> simp [hrn]

theorem indexation_denied_iff (s : Settings E) (n : Name) :
    indexation s n = .error .keyError ↔ allowed s n = false := by
  unfold indexation
  rw [validateName_eq]
  cases allowed s n <;> simp

theorem denied (s : Settings E) (n : Name) (kws : List Name) (h : allowed s n = false) :
    attribution s n = .error .attributeError ∧ opDot s n kws = .error .attributeError ∧
    indexation s n = .error .keyError :=
  ⟨(attribution_denied_iff s n).2 h, (opDot_denied_iff s n kws).2 h, (indexation_denied_iff s n).2 h⟩

/-- C07.underscore_denied: whatever the settings (switches, whitelist - even one that names the
    member explicitly -, blacklist, remapping), a name starting with `_` is refused for attribute,
    method and index access, and no host access happens -/
theorem underscore_denied (s : Settings E) (n : Name) (kws : List Name) (h : startsUnderscore n = true) :
    attribution s n = .error .attributeError ∧ opDot s n kws = .error .attributeError ∧
    indexation s n = .error .keyError :=
  denied s n kws (underscore_not_allowed s n h)

/-- the same through the type check: for every host object and every access form -/
theorem underscore_denied_access (k : Kind) (h : Host E) (n : Name) (kws : List Name)
    (hn : startsUnderscore n = true) : ∃ e, access k h n kws = .error e := by
  cases h with
  | none => exact ⟨_, rfl⟩
  | some s =>
    obtain ⟨h1, h2, h3⟩ := underscore_denied s n kws hn
    simp only [access]
    split
    · cases k
      · exact ⟨_, h1⟩
      · exact ⟨_, h2⟩
      · exact ⟨_, h3⟩
    · exact ⟨_, rfl⟩

example : startsUnderscore "_private".toList = true ∧ startsUnderscore "__class__".toList = true ∧
    startsUnderscore "a_b".toList = false ∧ startsUnderscore [] = false := by decide +kernel

/-- non-vacuity of `underscore_denied`: even an explicit whitelist entry does not open `_x` -/
example : attribution (E := Entry) { whitelist := [.str "_x".toList] } "_x".toList = .error .attributeError := by
  decide +kernel

/-- C07.whitelist_exact: with a non-empty whitelist a (non-underscore) name is allowed iff some
    whitelist entry matches it; the blacklist plays no role -/
theorem whitelist_exact (exc : Err) (s : Settings E) (n : Name)
    (hw : s.whitelist ≠ []) (hn : startsUnderscore n = false) :
    validateName exc s n = .ok () ↔ ∃ e, e ∈ s.whitelist ∧ EntryLike.matchesName e n = true := by
  rw [validate_ok_iff_allowed, allowed_whitelist s n hw, hn, ← anyMatch_iff]
  rfl

/-- C07.blacklist_exact: with an empty whitelist a (non-underscore) name is allowed iff no
    blacklist entry matches it -/
theorem blacklist_exact (exc : Err) (s : Settings E) (n : Name)
    (hw : s.whitelist = []) (hn : startsUnderscore n = false) :
    validateName exc s n = .ok () ↔ ∀ e, e ∈ s.blacklist → EntryLike.matchesName e n = false := by
  rw [validate_ok_iff_allowed, allowed_no_whitelist s n hw, hn]
  simp [anyMatch]

example : validateName (E := Entry) .attributeError
    { whitelist := [.regex { anchorStart := true, atoms := [.ch 'm', .ch '_'] }], blacklist := [.str "m_foo".toList] }
    "m_foo".toList = .ok () := by decide +kernel
example : validateName (E := Entry) .attributeError
    { whitelist := [.regex { anchorStart := true, atoms := [.ch 'm', .ch '_'] }] } "bar".toList
    = .error .attributeError := by decide +kernel
example : validateName (E := Entry) .keyError { blacklist := [.table ["key".toList]] } "key".toList
    = .error .keyError := by decide +kernel
example : validateName (E := Entry) .keyError { blacklist := [.table ["key".toList]] } "other".toList
    = .ok () := by decide +kernel

/-! ## remapping -/

/-- C07.remap_targets_blacklisted: `build_yaqlization_settings` puts every remapping target into the
    blacklist -/
theorem remap_targets_blacklisted (a m i au : Bool) (wl bl : List E) (remap : List (Name × RemapTarget))
    (k : Name) (t : RemapTarget) (h : (k, t) ∈ remap) :
    ∃ e, e ∈ (buildSettings a m i au wl bl remap).blacklist ∧ EntryLike.matchesName e t.target = true := by
  refine ⟨EntryLike.ofName t.target, ?_, by simp [EntryLike.matches_ofName]⟩
  exact List.mem_append_right _ (List.mem_map.mpr ⟨(k, t), h, rfl⟩)

/-- consequently the target's own name is unreachable on every path, unless a whitelist is in
    force (then the whitelist alone decides: `whitelist_exact`) -/
theorem remap_target_denied (a m i au : Bool) (bl : List E) (remap : List (Name × RemapTarget))
    (k : Name) (t : RemapTarget) (h : (k, t) ∈ remap) :
    allowed (buildSettings a m i au [] bl remap) t.target = false := by
  rw [allowed_no_whitelist _ _ rfl, (anyMatch_iff _ _).2 (remap_targets_blacklisted a m i au [] bl remap k t h)]
  simp

/-- the user-supplied blacklist is kept -/
theorem build_keeps_blacklist (a m i au : Bool) (wl bl : List E) (remap : List (Name × RemapTarget))
    (e : E) (h : e ∈ bl) : e ∈ (buildSettings a m i au wl bl remap).blacklist := by
  exact List.mem_append_left _ h

def demoRemap : Settings Entry :=
  buildSettings true true true false [] [] [("pub".toList, RemapTarget.name "hidden".toList)]

example : attribution demoRemap "pub".toList = .ok (.getattr "hidden".toList) ∧
    attribution demoRemap "hidden".toList = .error .attributeError ∧
    opDot demoRemap "pub".toList = .ok (.callattr "hidden".toList []) ∧
    indexation demoRemap "pub".toList = .ok (.getitem "pub".toList) ∧
    indexation demoRemap "hidden".toList = .error .keyError := by decide +kernel

/-- a whitelisted target IS reachable under its own name (the blacklist is not consulted) -/
def demoRemapWl : Settings Entry :=
  buildSettings true true true false [Entry.str "hidden".toList, Entry.str "pub".toList] []
    [("pub".toList, RemapTarget.name "hidden".toList)]

example : attribution demoRemapWl "hidden".toList = .ok (.getattr "hidden".toList) := by decide +kernel

/-- C07.same_decision: for the same name and settings the attribute, method and indexer paths take
    the same allow/deny decision ("Cannot access <name>": AttributeError on the first two,
    KeyError on the third) -/
theorem same_decision (s : Settings E) (n : Name) (kws : List Name) :
    (attribution s n = .error .attributeError ↔ opDot s n kws = .error .attributeError) ∧
    (opDot s n kws = .error .attributeError ↔ indexation s n = .error .keyError) := by
  rw [attribution_denied_iff, opDot_denied_iff, indexation_denied_iff]
  exact ⟨Iff.rfl, Iff.rfl⟩

/-- what an allowed access reaches: attribute and method access reach the REMAPPED member,
    the indexer reaches the key as written (no remapping on that path - as the code is) -/
theorem reached_member (s : Settings E) (n : Name) (kws : List Name) (a : Access) :
    (attribution s n = .ok a → allowed s n = true ∧ a = .getattr (remapName s n).target) ∧
    (opDot s n kws = .ok a → allowed s n = true ∧ a.member = (remapName s n).target) ∧
    (indexation s n = .ok a → allowed s n = true ∧ a = .getitem n) := by
  refine ⟨?_, ?_, ?_⟩
  · unfold attribution
    rw [validateName_eq]
    cases allowed s n
    · simp
    · cases hr : remapName s n <;> simp [RemapTarget.target]
      exact Eq.symm
  · unfold opDot
    rw [validateName_eq]
    cases allowed s n
    · simp
    · cases hr : remapName s n with
      | name m => simp [RemapTarget.target]; rintro rfl; rfl
      | tuple m am =>
        cases am with
        | none => simp
        | some x =>
          cases hrn : renamesKw x kws <;> (simp [hrn, RemapTarget.target]; rintro rfl; rfl)
  · unfold indexation
    rw [validateName_eq]
    cases allowed s n
    · simp
    · simp; exact Eq.symm

/-- an allowed name with a plain (string) remapping is reached on all three paths -/
theorem allowed_reaches (s : Settings E) (n m : Name) (kws : List Name) (ha : allowed s n = true)
    (hr : remapName s n = .name m) :
    attribution s n = .ok (.getattr m) ∧ opDot s n kws = .ok (.callattr m []) ∧
    indexation s n = .ok (.getitem n) := by
  have h1 := (validate_ok_iff_allowed .attributeError s n).2 ha
  have h2 := (validate_ok_iff_allowed .keyError s n).2 ha
  simp [attribution, opDot, indexation, h1, h2, hr]

/-- keyword renaming (tuple remappings): the call is made when no passed keyword is renamed away;
    otherwise the member was fetched but is not called (the dict-mutation RuntimeError of `op_dot`) -/
example : opDot (E := Entry) { remapping := [("am".toList, .tuple "meth".toList (some [("a".toList, "b".toList)]))] }
    "am".toList ["a".toList] = .ok (.attrThenRaise "meth".toList) := by decide +kernel
example : opDot (E := Entry) { remapping := [("am".toList, .tuple "meth".toList (some [("a".toList, "b".toList)]))] }
    "am".toList ["c".toList] = .ok (.callattr "meth".toList [("a".toList, "b".toList)]) := by decide +kernel

/-! ## the type check -/

omit [EntryLike E] in
/-- an object without yaqlization settings is refused by every `Yaqlized(..)` parameter -/
theorem check_none (f : Flags) : check (E := E) f none = false := rfl

theorem not_yaqlized_no_access (k : Kind) (n : Name) (kws : List Name) :
    access (E := E) k none n kws = .error .notYaqlized := rfl

/-- a switched-off access form is refused whatever the name -/
theorem switch_off_no_access (s : Settings E) (n : Name) (kws : List Name) :
    (s.yaqlizeAttributes = false → access .attr (some s) n kws = .error .notYaqlized) ∧
    (s.yaqlizeMethods = false → access .method (some s) n kws = .error .notYaqlized) ∧
    (s.yaqlizeIndexer = false → access .index (some s) n kws = .error .notYaqlized) := by
  refine ⟨?_, ?_, ?_⟩ <;> intro h <;> simp [access, check, Kind.flags, h]

/-- every successful access went through the type check and the name validation -/
theorem access_ok_checked (k : Kind) (h : Host E) (n : Name) (kws : List Name) (a : Access)
    (hok : access k h n kws = .ok a) :
    ∃ s, h = some s ∧ check k.flags h = true ∧ allowed s n = true ∧ startsUnderscore n = false := by
  cases h with
  | none => cases hok
  | some s =>
    simp only [access] at hok
    split at hok
    · next hc =>
      have hall : allowed s n = true := by
        cases k
        · exact ((reached_member s n kws a).1 hok).1
        · exact ((reached_member s n kws a).2.1 hok).1
        · exact ((reached_member s n kws a).2.2 hok).1
      refine ⟨s, rfl, hc, hall, Bool.eq_false_iff.mpr fun hu => ?_⟩
      rw [underscore_not_allowed s n hu] at hall
      cases hall
    · cases hok

example : access (E := Entry) .attr (some {}) "foo".toList = .ok (.getattr "foo".toList) := by decide +kernel
example : access (E := Entry) .method (some { yaqlizeMethods := false }) "foo".toList = .error .notYaqlized := by
  decide +kernel

/-! ## results -/

/-- without `auto_yaqlize_result` a returned object gains nothing -/
theorem auto_off_keeps (s : Settings E) (r : ResObj E) (h : s.autoYaqlizeResult = false) :
    autoYaqlize s r = r := by
  simp [autoYaqlize, h]

/-- with it, a non-builtin result that is not yet yaqlized gets the all-open default settings
    (which again auto-yaqlize their results); builtin values and already yaqlized objects are kept -/
theorem auto_on_grants (s : Settings E) (r : ResObj E) (h : s.autoYaqlizeResult = true) :
    (r.builtin = false → r.settings = none → r.settable = true →
        (autoYaqlize s r).settings = some autoSettings) ∧
    (r.builtin = true → autoYaqlize s r = r) ∧
    (r.settings ≠ none → autoYaqlize s r = r) := by
  refine ⟨?_, ?_, ?_⟩
  · intro hb hs ht; simp [autoYaqlize, h, hb, hs, ht]
  · intro hb; simp [autoYaqlize, h, hb]
  · intro hs
    cases hr : r.settings with
    | none => exact absurd hr hs
    | some x => simp [autoYaqlize, h, hr]

/-- even auto-yaqlized results keep the underscore rule -/
example : access (E := Entry) .attr (some autoSettings) "_secret".toList = .error .attributeError := by decide +kernel

/-! ## the gate -/

/-- what the generated-table theorem `C07Gen.host_touch_only_yaqlized` establishes for a registry:
    a parameter that admits an opaque host object as it is and has a host-touching use is one of the
    listed exceptions -/
def TableOk (exempt : FactRow → Bool) (reg : List FnDef) : Prop :=
  ∀ f, f ∈ reg → ∀ r, r ∈ f.params → r.ty = .open → r.touches = true → exempt r = true

omit [EntryLike E] in
theorem bindAll_zip {V : Type} (fits : FactRow → V → Bool) :
    ∀ (rs : List FactRow) (as : List (Arg E V)), bindAll fits rs as = true →
      ∀ p, p ∈ rs.zip as → admits fits p.1 p.2 = true
  | [], [], _, p, hp => by simp at hp
  | [], _ :: _, h, _, _ => by simp [bindAll] at h
  | _ :: _, [], h, _, _ => by simp [bindAll] at h
  | r :: rs, a :: as, h, p, hp => by
      simp only [bindAll, Bool.and_eq_true] at h
      simp only [List.zip_cons_cons, List.mem_cons] at hp
      rcases hp with rfl | hp
      · exact h.1
      · exact bindAll_zip fits rs as h.2 p hp

theorem explicit_sub (f : FnDef) (r : FactRow) (h : r ∈ f.explicit) : r ∈ f.params :=
  (List.mem_filter.mp h).1

omit [EntryLike E] in
/-- the gate for any candidate overload (so for whichever one yaql's overload choice picks):
    an opaque host object bound to a parameter that has a host-touching use and is not a listed
    exception is bound to a `Yaqlized(..)` parameter and passed `Yaqlized.check` with its flags;
    in particular an object without settings can never be bound there.
    (Parameters typed `converted` - Lambda - hand the payload a yaql-made closure; what the type
    object does with the host value is covered by the generated `typeRows`.) -/
theorem gate_candidates {V : Type} (fits : FactRow → V → Bool) (exempt : FactRow → Bool)
    (reg : List FnDef) (hreg : TableOk exempt reg)
    (name : List Char) (args : List (Arg E V)) (f : FnDef)
    (hf : f ∈ candidates fits reg name args)
    (r : FactRow) (h : Host E) (hp : (r, Arg.host h) ∈ f.explicit.zip args)
    (htouch : r.touches = true) (hex : exempt r = false) (hconv : r.ty ≠ .converted) :
    ∃ a m i, r.ty = .yaqlized a m i ∧ check { attrs := a, methods := m, index := i } h = true ∧ h ≠ none := by
  simp only [candidates, List.mem_filter, Bool.and_eq_true] at hf
  obtain ⟨hmem, _, hbind⟩ := hf
  have hadm := bindAll_zip fits _ _ hbind _ hp
  simp only [admits] at hadm
  -- the parameter admitted a host object: by its type class, only `Yaqlized(..)` is left
  cases hty : r.ty with
  | yaqlized a m i =>
    rw [hty] at hadm
    refine ⟨a, m, i, rfl, hadm, fun hn => ?_⟩
    rw [hn] at hadm; cases hadm
  | «open» =>
    have := hreg f hmem r (explicit_sub f r (List.of_mem_zip hp).1) hty htouch
    rw [hex] at this; cases this
  | converted => exact absurd hty hconv
  | closed => rw [hty] at hadm; cases hadm
  | hidden => rw [hty] at hadm; cases hadm

omit [EntryLike E] in
/-- C07.gate: if resolution selects `f` and `f` has a host-touching use on parameter `r`, then the
    opaque host object bound to `r` passed `Yaqlized.check` with the matching flags -/
theorem gate {V : Type} (fits : FactRow → V → Bool) (exempt : FactRow → Bool)
    (reg : List FnDef) (hreg : TableOk exempt reg)
    (name : List Char) (args : List (Arg E V)) (f : FnDef)
    (hres : resolve fits reg name args = .ok f)
    (r : FactRow) (h : Host E) (hp : (r, Arg.host h) ∈ f.explicit.zip args)
    (htouch : r.touches = true) (hex : exempt r = false) (hconv : r.ty ≠ .converted) :
    ∃ a m i, r.ty = .yaqlized a m i ∧ check { attrs := a, methods := m, index := i } h = true ∧ h ≠ none := by
  have hf : f ∈ candidates fits reg name args := by
    unfold resolve at hres
    split at hres
    · cases hres
    · next hc => cases hres; rw [hc]; exact List.mem_singleton_self f
    · cases hres
  exact gate_candidates fits exempt reg hreg name args f hf r h hp htouch hex hconv

/-- non-vacuity of the gate: a two-overload registry in the shape of `#operator_.`; the yaqlized
    object resolves to the attribute overload, the plain host object cannot -/
def demoReg : List FnDef :=
  [ { name := "#operator_.".toList, payload := "attribution".toList,
      params := [ { param := "obj".toList, ty := .yaqlized true false false, uses := [.getattr] },
                  { param := "attr".toList, ty := .closed } ] } ]

example : (resolve (E := Entry) (V := Unit) (fun _ _ => true) demoReg "#operator_.".toList
    [.host (some {}), .native ()]).toOption.map (·.payload) = some "attribution".toList := by decide +kernel
example : (resolve (E := Entry) (V := Unit) (fun _ _ => true) demoReg "#operator_.".toList
    [.host none, .native ()]).toOption.map (·.payload) = none := by decide +kernel
example : (resolve (E := Entry) (V := Unit) (fun _ _ => true) demoReg "#operator_.".toList
    [.host (some { yaqlizeAttributes := false }), .native ()]).toOption.map (·.payload) = none := by decide +kernel

/-! ## the executable entry instances -/

example : (Rx.search { atoms := [.ch 'f', .ch 'o'] } "xfoo".toList) = true := by decide     -- search, not match
example : (Rx.search { anchorStart := true, atoms := [.ch 'f', .ch 'o'] } "xfoo".toList) = false := by decide +kernel
example : (Rx.search { atoms := [.ch 'o', .ch 'o'], anchorEnd := true } "foo".toList) = true := by decide +kernel
example : (Rx.search { atoms := [.ch 'f', .any, .ch 'o'], anchorStart := true, anchorEnd := true } "fxo".toList) = true := by
  decide +kernel
example : (Rx.search { atoms := [] } []) = true := by decide +kernel

theorem matchPrefix_lits (l s : Name) :
    matchPrefix (l.map RxAtom.ch) s = if l.isPrefixOf s then some (s.drop l.length) else none := by
  induction l generalizing s with
  | nil => simp [matchPrefix]
  | cons c l ih =>
    cases s with
    | nil => simp [matchPrefix]
    | cons x s =>
      simp only [List.map_cons, matchPrefix, List.isPrefixOf, List.length_cons, List.drop_succ_cons]
      by_cases hcx : c = x
      · subst hcx; simp [ih]
      · simp [hcx]

/-- `re.compile('^' + re.escape(l) + '$')` and the string entry `l` accept the same names: the three
    ways of writing an entry (string, regex, predicate) are interchangeable where they denote the
    same set -/
theorem anchored_literal_is_string (l s : Name) :
    Rx.search { anchorStart := true, atoms := l.map RxAtom.ch, anchorEnd := true } s = (s == l) := by
  simp only [Rx.search, Rx.matchAt, if_true, Bool.not_true, Bool.false_or, matchPrefix_lits]
  by_cases h : l.isPrefixOf s = true
  · obtain ⟨t, rfl⟩ := List.isPrefixOf_iff_prefix.mp h
    cases t <;> simp [h]
  · have hne : s ≠ l := fun e => h (by simp [e])
    simp [h, hne]

/-! ## lists of plain names: exact string equality, nothing else

A whitelist / blacklist of plain member names grants / denies exactly the LISTED names - whatever a
probe name shares with a listed one (it extends one at either end, contains one, is a prefix or a suffix of
one, joins two of them, differs by case only).  `build_yaqlization_settings` is free to store the names in
any form (a set, one alternation regex, a trie ..) as long as these theorems keep holding for what
`_validate_name` answers; the harness crosses every settings object with such near-miss names derived
from its own entries. -/

/-- C07.whitelist_exact for plain names: with a whitelist of (one or several) plain names, a
    (non-underscore) name is allowed iff it IS one of the listed names -/
theorem whitelist_plain_names_exact (exc : Err) (s : Settings E) (names : List Name) (n : Name)
    (hw : s.whitelist = names.map EntryLike.ofName) (hne : names ≠ [])
    (hn : startsUnderscore n = false) :
    validateName exc s n = .ok () ↔ n ∈ names := by
  have hw' : s.whitelist ≠ [] := fun h => hne (List.map_eq_nil_iff.mp (hw ▸ h))
  rw [whitelist_exact exc s n hw' hn, ← anyMatch_iff, hw, anyMatch_ofNames]

/-- ... and a blacklist of plain names (no whitelist) denies exactly the listed names -/
theorem blacklist_plain_names_exact (exc : Err) (s : Settings E) (names : List Name) (n : Name)
    (hw : s.whitelist = []) (hb : s.blacklist = names.map EntryLike.ofName)
    (hn : startsUnderscore n = false) :
    validateName exc s n = .ok () ↔ n ∉ names := by
  rw [validate_ok_iff_allowed, allowed_no_whitelist s n hw, hn, hb, ← anyMatch_ofNames (E := E) names n]
  simp

/-- a name that is not listed is refused by a whitelist of plain names on all three access paths - however
    close it is to a listed name (the hypotheses do not look at its shape at all) -/
theorem near_miss_refused (s : Settings E) (names : List Name) (n : Name) (kws : List Name)
    (hw : s.whitelist = names.map EntryLike.ofName) (hne : names ≠ []) (hmiss : n ∉ names) :
    attribution s n = .error .attributeError ∧ opDot s n kws = .error .attributeError ∧
    indexation s n = .error .keyError := by
  refine denied s n kws ?_
  cases hu : startsUnderscore n with
  | true => exact underscore_not_allowed s n hu
  | false =>
    have h := whitelist_plain_names_exact (E := E) .attributeError s names n hw hne hu
    rw [validate_ok_iff_allowed] at h
    exact Bool.eq_false_iff.mpr fun ha => hmiss (h.mp ha)

/-- a name that is not listed is NOT blocked by a blacklist of plain names (settings as built by
    `build_yaqlization_settings`: the remapping targets are blacklisted as plain names too) -/
theorem near_miss_not_blocked (a m i au : Bool) (names : List Name) (remap : List (Name × RemapTarget))
    (n : Name) (hn : startsUnderscore n = false) (hmiss : n ∉ names)
    (hremap : ∀ kv ∈ remap, kv.2.target ≠ n) :
    allowed (buildSettings (E := E) a m i au [] (names.map EntryLike.ofName) remap) n = true := by
  have hb : (buildSettings (E := E) a m i au [] (names.map EntryLike.ofName) remap).blacklist =
      (names ++ remap.map (fun kv => kv.2.target)).map EntryLike.ofName := by
    simp [buildSettings, List.map_append, List.map_map, Function.comp_def]
  rw [← validate_ok_iff_allowed .attributeError,
    blacklist_plain_names_exact (E := E) .attributeError _ (names ++ remap.map (fun kv => kv.2.target)) n rfl hb hn]
  intro hmem
  rcases List.mem_append.mp hmem with h | h
  · exact hmiss h
  · obtain ⟨kv, hkv, he⟩ := List.mem_map.mp h
    exact hremap kv hkv he

-- whitelist ['name', 'id', 'title']: the listed names pass; `name_token` (starts with `name`), `subtitle` (ends
-- with `title`), `hidden` (contains `id`), `nameid` (joins two) and `Name` are refused
example :
    let s : Settings Entry := { whitelist := ["name".toList, "id".toList, "title".toList].map .str }
    validateName .attributeError s "id".toList = .ok () ∧ validateName .attributeError s "title".toList = .ok () ∧
    validateName .attributeError s "name_token".toList = .error .attributeError ∧
    validateName .attributeError s "subtitle".toList = .error .attributeError ∧
    validateName .attributeError s "hidden".toList = .error .attributeError ∧
    validateName .attributeError s "nameid".toList = .error .attributeError ∧
    validateName .attributeError s "Name".toList = .error .attributeError ∧
    indexation s "subtitle".toList = .error .keyError ∧
    opDot s "name_token".toList [] = .error .attributeError := by decide +kernel
-- blacklist ['get_id', 'get_name']: `get_id_secret`, `forget_name`, `get_i` stay reachable
example :
    let s : Settings Entry := buildSettings true true true false [] (["get_id".toList, "get_name".toList].map .str) []
    allowed s "get_id".toList = false ∧ allowed s "get_name".toList = false ∧
    allowed s "get_id_secret".toList = true ∧ allowed s "forget_name".toList = true ∧ allowed s "get_i".toList = true := by
  decide +kernel
-- the alternation regex `^name|id|title$` (as a table of what `re.search` accepts among these names) is NOT the
-- list of the three names: the theorems above distinguish them
example :
    let folded : Settings Entry := { whitelist := [.table ["name".toList, "id".toList, "title".toList,
      "name_token".toList, "subtitle".toList, "hidden".toList]] }
    validateName .attributeError folded "hidden".toList = .ok () := by decide +kernel

end Yaql.Props.C07
