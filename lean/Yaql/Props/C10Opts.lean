import Yaql.Model.EngineOptions
/-!
# C10 - an engine finalises under the option combination it was created with

For every history of a host that creates engines from one option dictionary and keeps changing that dictionary:
what engine `i` returns for a value is `convOut` under the options the dictionary held WHEN ENGINE `i` WAS
CREATED - of nothing the host did to the dictionary afterwards (`engine_options_fixed`).  With a view instead
of a snapshot the four engines of the property's quantifier all finalise with the last combination
(`view_follows_the_host`).
-/
namespace Yaql.Props.C10
open Yaql Yaql.Convert Yaql.EngineOptions

theorem stateAfter_engines : ∀ (ops : List Op) (st : St),
    (stateAfter st ops).engines = st.engines ++ createdWith st.hostOpts ops ∧
    (stateAfter st ops).hostOpts = optsAfter st.hostOpts ops
  | [], st => by simp [stateAfter, createdWith, optsAfter]
  | op :: r, st => by
    have ih := stateAfter_engines r (step st op).1
    cases op <;> simpa [stateAfter, createdWith, optsAfter, step] using ih

theorem run_append : ∀ (pre post : List Op) (st : St),
    run st (pre ++ post) = run st pre ++ run (stateAfter st pre) post
  | [], post, st => rfl
  | op :: pre, post, st => by
    simp only [List.cons_append, run, stateAfter]
    rw [run_append pre post]

theorem run_length : ∀ (ops : List Op) (st : St), (run st ops).length = ops.length
  | [], _ => rfl
  | op :: r, st => by simp [run, run_length r]

/-- **the combination an engine finalises with is the one it was created with**: after ANY history `pre` (engines
    created, the host's dictionary rewritten any number of times before and after), `finalize i v` returns the
    finalisation of `v` under the options the dictionary held at the creation of engine `i` -/
theorem engine_options_fixed (o0 : Opts) (pre : List Op) (i : Nat) (v : Py) (post : List Op) :
    (run { hostOpts := o0 } (pre ++ .finalize i v :: post))[pre.length]? =
      some (((createdWith o0 pre)[i]?).map fun o => convOut o none v) := by
  rw [run_append]
  rw [List.getElem?_append_right (by rw [run_length]; exact Nat.le_refl _)]
  simp only [run_length, Nat.sub_self, run, List.getElem?_cons_zero]
  have h := (stateAfter_engines pre { hostOpts := o0 }).1
  simp only [List.nil_append] at h
  show some ((step (stateAfter { hostOpts := o0 } pre) (.finalize i v)).2) = _
  simp only [step, h]

/-- in particular what the host writes into its dictionary AFTER the creation changes nothing -/
theorem later_updates_invisible (o0 o1 o2 : Opts) (v : Py) :
    run { hostOpts := o0 } [.setOptions o1, .create, .setOptions o2, .finalize 0 v] =
      [none, none, none, some (convOut o1 none v)] := rfl

/-- the contrasting design follows the host: an engine created for (tuples -> lists, sets kept) hands out tuples and
    lists-for-sets once the host has flipped its dictionary for the next engine -/
theorem view_follows_the_host :
    let v : Py := .seq .tuple [.seq .fset [.sc (.int 1)]]
    run {} [.setOptions { t2l := true, s2l := false }, .create, .setOptions { t2l := false, s2l := true }, .create,
            .finalize 0 v, .finalize 1 v] =
      [none, none, none, none, some (.ok (.seq .list [.seq .set [.sc (.int 1)]])), some (.ok (.seq .tuple [.seq .list [.sc (.int 1)]]))] ∧
    runView {} [.setOptions { t2l := true, s2l := false }, .create, .setOptions { t2l := false, s2l := true }, .create,
                .finalize 0 v, .finalize 1 v] =
      [none, none, none, none, some (.ok (.seq .tuple [.seq .list [.sc (.int 1)]])), some (.ok (.seq .tuple [.seq .list [.sc (.int 1)]]))] := by
  refine ⟨rfl, rfl⟩

end Yaql.Props.C10
