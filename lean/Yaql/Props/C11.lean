import Yaql.Props.C05
import Yaql.Model.EvalOrder
import Yaql.Model.PerElem
/-!
C11 - arguments are evaluated once, in order; lazy ones only on demand.

Part 1 (over `Yaql.Resolve`): the evaluation log of a call is exactly the eager non-constant
positional arguments left to right followed by the keyword ones in source order, each once; it is
produced by ONE pass that does not look at the candidates, hence it does not grow with their number.
Part 2 (over `Yaql.EvalOrder`): the trace of an expression whose operators are all eager is the
in-order listing of its probes; operators with lazy operands evaluate exactly the operands their
meaning selects (the `short_circuit_*` family, `all_cases_trace`).
Part 3 (over `Yaql.PerElem`): the lambda of a per-element operator runs once per element its consumer
pulls, in order (`per_element*`, `take_*`, `simple_*`, `applies_*`, `join_*`).
Parts 4 and 5 - error paths, lazy values that nothing consumes - are in `Props/C11Err.lean`.
-/
namespace Yaql.Props.C11
open Yaql.Types Yaql.Resolve Yaql.Props.C05

/-! ## part 1: one evaluation pass -/

/-- the probes an argument list fires under laziness flags `lz`: every evaluable argument at a
    non-lazy position, left to right, each once -/
def eagerLog : List Bool → List Arg → List Nat
  | _, [] => []
  | lz, a :: r => (if !lz.headD false && a.evaluable then a.evalLog else []) ++ eagerLog lz.tail r

theorem evalPos_log : ∀ (lz : List Bool) (args : List Arg), (evalPos lz args).2 = eagerLog lz args
  | _, [] => rfl
  | lz, a :: r => by
      simp only [evalPos, eagerLog, ← evalPos_log lz.tail r]
      split <;> simp_all

theorem evalKw_log : ∀ (lz : List Bool) (kw : KwArgs), (evalKw lz kw).2 = eagerLog lz (kw.map (·.2))
  | _, [] => rfl
  | lz, (k, a) :: r => by
      simp only [evalKw, List.map_cons, eagerLog, ← evalKw_log lz.tail r]
      split <;> simp_all

theorem evalPos_args : ∀ (lz : List Bool) (args : List Arg), (evalPos lz args).1.length = args.length
  | _, [] => rfl
  | lz, a :: r => by
      simp only [evalPos]
      split <;> simp [evalPos_args lz.tail r]

/-- the log of a resolution is either empty (resolution ended before the evaluation stage) or the
    single left-to-right pass over the translated arguments under the COMMON laziness signature of the
    mapped candidates: positional arguments first, then keywords in source order -/
theorem eager_once_in_order (L : Lattice) (vis : List (List FDef)) (c : Call) :
    (chooseOverload L vis c).log = [] ∨
    ∃ args kw m0,
      translateArgs ((vis.flatten.map (·.noKwargs)).headD false) (callArgs c) c.kwargs = .ok (args, kw) ∧
      m0 ∈ (vis.map (mappedOf L args kw)).flatten ∧
      (∀ m ∈ (vis.map (mappedOf L args kw)).flatten, m.sig = m0.sig) ∧
      (chooseOverload L vis c).log = eagerLog m0.sig.pos args ++ eagerLog m0.sig.kw (kw.map (·.2)) := by
  unfold chooseOverload
  simp only [mapLevels_spec]
  split
  · exact Or.inl rfl
  · cases htr : translateArgs ((vis.flatten.map (·.noKwargs)).headD false) (callArgs c) c.kwargs with
    | error e => exact Or.inl rfl
    | ok r =>
        obtain ⟨args, kw⟩ := r
        simp only
        cases hflat : (vis.map (mappedOf L args kw)).flatten with
        | nil =>
            left
            have hfil : ((vis.map (mappedOf L args kw)).filter fun cs => !cs.isEmpty) = [] :=
              List.filter_eq_nil_iff.2 fun cs hcs => by simp [List.flatten_eq_nil_iff.1 hflat cs hcs]
            simp [agree, firstSig, hfil]
        | cons m0 rest =>
            by_cases hag : agree (firstSig none (m0 :: rest)) (m0 :: rest) = true
            · simp only [hag, if_true]
              split
              · exact Or.inl rfl
              · right
                refine ⟨args, kw, m0, rfl, by rw [hflat]; simp, ?_, ?_⟩
                · intro m hm
                  rw [hflat] at hm
                  simp only [agree, firstSig, List.head?_cons, Option.map_some, List.all_eq_true, decide_eq_true_eq,
                    Option.some.injEq] at hag
                  exact hag m hm
                · simp [firstSig, evalPos_log, evalKw_log]
            · left
              simp [hag]

theorem flag_uniform {α : Type} {f : α → Bool} {l : List α} (h : (l.any f && l.any (fun x => !f x)) = false) :
    ∀ a ∈ l, ∀ b ∈ l, f a = f b := by
  intro a ha b hb
  have same (g : α → Bool) (hg : l.any g = false) : g a = g b :=
    (Bool.eq_false_iff.2 (List.any_eq_false.1 hg a ha)).trans (Bool.eq_false_iff.2 (List.any_eq_false.1 hg b hb)).symm
  exact (Bool.and_eq_false_iff.1 h).elim (same f) fun h => Bool.not_inj (same _ h)

/-- adding candidates does not add evaluations: if a call resolves (no error) against a family and
    against a larger one, both evaluate exactly the same arguments in the same order -/
theorem log_independent_of_candidates (L : Lattice) (vis vis' : List (List FDef)) (c : Call)
    (hsub : ∀ f ∈ vis.flatten, f ∈ vis'.flatten)
    (hne : vis.flatten ≠ [])
    (hnk : (vis'.flatten.any (·.noKwargs) && vis'.flatten.any (!·.noKwargs)) = false)
    (h1 : (chooseOverload L vis c).log ≠ []) (h2 : (chooseOverload L vis' c).log ≠ []) :
    (chooseOverload L vis' c).log = (chooseOverload L vis c).log := by
  rcases eager_once_in_order L vis c with h | ⟨args, kw, m0, htr, hm0, hall, hlog⟩
  · exact absurd h h1
  rcases eager_once_in_order L vis' c with h | ⟨args', kw', m0', htr', hm0', hall', hlog'⟩
  · exact absurd h h2
  -- both families translate the call with the same no_kwargs flag
  have hflag : (vis.flatten.map (·.noKwargs)).headD false = (vis'.flatten.map (·.noKwargs)).headD false := by
    obtain ⟨f0, r, hv⟩ := List.exists_cons_of_ne_nil hne
    have hf0 : f0 ∈ vis'.flatten := hsub f0 (hv ▸ List.mem_cons_self)
    obtain ⟨g0, r', hv'⟩ := List.exists_cons_of_ne_nil (List.ne_nil_of_mem hf0)
    rw [hv'] at hnk hf0
    rw [hv, hv']
    exact flag_uniform hnk f0 hf0 g0 List.mem_cons_self
  rw [hflag, htr'] at htr
  cases htr
  -- m0 is also mapped in the larger family, so it carries the common signature there
  have hm0in : m0 ∈ (vis'.map (mappedOf L args kw)).flatten := by
    simp only [List.mem_flatten, List.mem_map] at hm0 ⊢
    obtain ⟨l, ⟨lv, hlv, rfl⟩, hm⟩ := hm0
    have hm' := mem_mappedOf hm
    have : m0.fd ∈ vis'.flatten := hsub _ (List.mem_flatten.2 ⟨lv, hlv, hm'.1⟩)
    obtain ⟨lv', hlv', hf'⟩ := List.mem_flatten.1 this
    refine ⟨mappedOf L args kw lv', ⟨lv', hlv', rfl⟩, ?_⟩
    simp only [mappedOf, List.mem_filterMap]
    exact ⟨m0.fd, hf', by simp [hm'.2]⟩
  rw [hlog, hlog', ← hall' m0 hm0in]

/-! ## part 2: expressions -/

open Yaql.EvalOrder

theorem and_l {a b : Bool} (h : (a && b) = true) : a = true := (Bool.and_eq_true_iff.1 h).1
theorem and_r {a b : Bool} (h : (a && b) = true) : b = true := (Bool.and_eq_true_iff.1 h).2

mutual
/-- for an expression in which every probe sits in an eager position, the trace is the in-order
    listing of its probes, each exactly once -/
theorem eager_fragment_trace : ∀ (x : X), eagerOnly x = true → trace x = probes x
  | .leaf, _ => rfl
  | .tick id a, h => congrArg (· ++ [id]) (eager_fragment_trace a h)
  | .eager ks, h => congrArg List.flatten (eager_fragment_traceL ks h)
theorem eager_fragment_traceL : ∀ (l : List X), eagerOnlyL l = true → traces l = probesL l
  | [], _ => rfl
  | x :: r, h => by rw [traces, probesL, eager_fragment_trace x (and_l h), eager_fragment_traceL r (and_r h)]
end

/-- a function made by `def(f, body)`: defining it evaluates nothing, and every one of `n` calls `f()`
    evaluates the body once more - `n` calls, `n` times the body's probes; no call, no probe -/
theorem thunk_per_call (body : X) (n : Nat) :
    trace (.defCalls body (List.replicate n true) []) = (List.replicate n (trace body)).flatten := by
  simp only [trace, traces]
  induction n with
  | zero => simp [callsTrace]
  | succ k ih => simp [List.replicate_succ, callsTrace, ih]

/-- the slots between the calls keep their own place and are evaluated once each -/
theorem thunk_slots (body o : X) (ps : List Bool) (os : List X) :
    trace (.defCalls body (true :: ps) os) = trace body ++ trace (.defCalls body ps os) ∧
    trace (.defCalls body (false :: ps) (o :: os)) = trace o ++ trace (.defCalls body ps os) := by
  simp [trace, traces, callsTrace]

example : trace (.defCalls (.tick 1 .leaf) [true, false, true] [.tick 2 .leaf]) = [1, 2, 1] := by decide
example : trace (.defCalls (.tick 1 .leaf) [false] [.tick 2 .leaf]) = [2] := by decide

theorem short_circuit_and (a b : X) :
    trace (.and_ a b false) = trace a ∧ trace (.and_ a b true) = trace a ++ trace b := by
  simp [trace]

theorem short_circuit_or (a b : X) :
    trace (.or_ a b true) = trace a ∧ trace (.or_ a b false) = trace a ++ trace b := by
  simp [trace]

theorem short_circuit_elvis (r : X) (ks : List X) :
    trace (.elvis r true ks) = trace r ∧ trace (.elvis r false ks) = trace r ++ (traces ks).flatten := by
  simp [trace]

theorem traces_eq_map : ∀ (l : List X), traces l = l.map trace
  | [] => rfl
  | x :: r => congrArg (trace x :: ·) (traces_eq_map r)

theorem untilFlag_cons (t : List Nat) (r : List (List Nat)) (fs : List Bool) :
    untilFlag (t :: r) fs = if fs.headD false then t else t ++ untilFlag r fs.tail := by
  cases fs <;> rfl

theorem switchTrace_cons (c : List Nat) (cs : List (List Nat)) (ts : List Bool) (vs : List (List Nat)) :
    switchTrace (c :: cs) ts vs = c ++ if ts.headD false then vs.headD [] else switchTrace cs ts.tail vs.tail := by
  rcases ts with _ | ⟨_ | _, ts⟩ <;> cases vs <;> simp [switchTrace]

theorem untilFlag_skip (ts : List (List Nat)) (fs : List Bool) : ∀ (pre : List (List Nat)) (n : Nat), pre.length = n →
    untilFlag (pre ++ ts) (List.replicate n false ++ fs) = pre.flatten ++ untilFlag ts fs
  | [], _, rfl => rfl
  | p :: ps, _, rfl => by simp [untilFlag_cons, List.replicate_succ, untilFlag_skip ts fs ps _ rfl]

theorem switchTrace_skip (cs : List (List Nat)) (ts : List Bool) (vs : List (List Nat)) :
    ∀ (pre prev : List (List Nat)) (n : Nat), pre.length = n → prev.length = n →
      switchTrace (pre ++ cs) (List.replicate n false ++ ts) (prev ++ vs) = pre.flatten ++ switchTrace cs ts vs
  | [], [], _, rfl, _ => rfl
  | p :: ps, q :: qs, _, rfl, h => by
      simp [switchTrace_cons, List.replicate_succ, switchTrace_skip cs ts vs ps qs _ rfl (Nat.succ.inj h)]

theorem switchTrace_none : ∀ (cs : List (List Nat)) (n : Nat) (vs : List (List Nat)),
    switchTrace cs (List.replicate n false) vs = cs.flatten
  | [], _, _ => rfl
  | c :: cs, n, vs => by
      rw [switchTrace_cons, List.tail_replicate, switchTrace_none cs (n - 1) vs.tail]
      cases n <;> simp [List.replicate_succ]

/-- `switch`: when the first true condition is the `i`-th, exactly conditions `0..i` and value `i` are
    evaluated -/
theorem short_circuit_switch (pre : List X) (c v : X) (post postv : List X) (prev : List X)
    (hl : prev.length = pre.length) :
    trace (.switch (pre ++ c :: post) (List.replicate pre.length false ++ [true]) (prev ++ v :: postv)) =
      (traces pre).flatten ++ trace c ++ trace v := by
  simp only [trace, traces_eq_map, List.map_append, List.map_cons]
  rw [switchTrace_skip _ _ _ _ _ _ (List.length_map _) (by rw [List.length_map, hl]), List.append_assoc]
  rfl

theorem short_circuit_switch_none (cs vs : List X) :
    trace (.switch cs (List.replicate cs.length false) vs) = (traces cs).flatten :=
  switchTrace_none _ _ _

/-- `selectCase` / `coalesce`: operands up to and including the first selected one -/
theorem short_circuit_selectCase (pre : List X) (p : X) (post : List X) (fs : List Bool) :
    trace (.selectCase (pre ++ p :: post) (List.replicate pre.length false ++ true :: fs)) =
      (traces pre).flatten ++ trace p := by
  simp only [trace, traces_eq_map, List.map_append, List.map_cons]
  rw [untilFlag_skip _ _ _ _ (List.length_map _)]
  rfl

theorem short_circuit_coalesce (pre : List X) (a : X) (post : List X) (ns : List Bool) :
    trace (.coalesce (pre ++ a :: post) (List.replicate pre.length true ++ false :: ns)) =
      (traces pre).flatten ++ trace a := by
  simp only [trace, traces_eq_map, List.map_append, List.map_cons, List.map_replicate, Bool.not_true, Bool.not_false]
  rw [untilFlag_skip _ _ _ _ (List.length_map _)]
  rfl

theorem short_circuit_switchCase (c : X) (as : List X) (i : Nat) :
    trace (.switchCase c (some i) as) = trace c ++ (traces as).getD i [] ∧
    trace (.switchCase c none as) = trace c := by
  simp [trace]

/-- `selectAllCases` / `examine` evaluate every predicate, in order, once (when consumed) -/
theorem all_cases_trace (ps : List X) : trace (.allCases ps) = (traces ps).flatten := by simp [trace]

/-- concrete instances -/
example : trace (.and_ (.tick 1 .leaf) (.tick 2 .leaf) false) = [1] := by decide
example : trace (.eager [.tick 1 .leaf, .eager [.tick 2 .leaf, .tick 3 (.tick 4 .leaf)]]) = [1, 2, 4, 3] := by decide
example : trace (.switch [.tick 1 .leaf, .tick 3 .leaf, .tick 5 .leaf] [false, true, false]
    [.tick 2 .leaf, .tick 4 .leaf, .tick 6 .leaf]) = [1, 3, 4] := by decide
example : trace (.coalesce [.tick 1 .leaf, .tick 2 .leaf, .tick 3 .leaf] [true, false, false]) = [1, 2] := by decide

/-! ## part 3: per-element lambdas run once per element consumed

Over `Yaql.PerElem`: the probe log of a streaming operator over ANY input stream (of any length).
`runOn_log` - nothing is lost, repeated or reordered by running a stage (for all stages);
`per_element_total` - an operator that applies its lambda to the elements it pulls fires, for each
element consumed and in input order, the probes of pulling it followed by the probes of the lambda
body on it, once; nothing of the elements it never pulls;
`per_element` - the same for the first k+1 results: exactly the elements up to the one that yields
result k are consumed;
`take_log` - a consumer that wants k results (`take k`) consumes exactly the first k of them. -/

open Yaql.PerElem

theorem emit_log (pend : List Nat) (r : Rx) : (emit pend r).1.flatten ++ (emit pend r).2 = pend ++ r.events := by
  unfold emit Rx.events
  cases r.outs <;> simp

theorem emit_then_log (pend : List Nat) (r : Rx) {t : Strm} {z : List Nat} (ht : t.log = (emit pend r).2 ++ z) :
    (⟨(emit pend r).1 ++ t.outs, t.fin⟩ : Strm).log = pend ++ r.events ++ z := by
  simp only [Strm.log, List.flatten_append, List.append_assoc] at ht ⊢
  rw [ht, ← List.append_assoc, emit_log, List.append_assoc]

/-- everything a stage fires from its `i`-th pull on: per pulled element the probes of pulling
    it and of the stage's reaction, up to the reaction that stops - or to the end of the input -/
def consumedLog (m : Stage) (i : Nat) : List (List Nat) → List Nat → List Nat
  | [], fin => fin ++ (m.finish i).events
  | d :: rest, fin => d ++ (m.step i).events ++ (if (m.step i).stop then [] else consumedLog m (i + 1) rest fin)

/-- conservation: the log of the result stream is the pending probes followed by what the stage
    and the elements it pulls fire, in pull order - whatever the stage hands on or holds back -/
theorem runFrom_log (m : Stage) : ∀ (ds : List (List Nat)) (i : Nat) (pend fin : List Nat),
    (runFrom m i pend ds fin).log = pend ++ consumedLog m i ds fin
  | [], i, pend, fin => (emit_log (pend ++ fin) (m.finish i)).trans (List.append_assoc ..)
  | d :: rest, i, pend, fin => by
      rw [runFrom, consumedLog, ← List.append_assoc, ← List.append_assoc]
      split
      · exact (emit_log ..).trans (List.append_nil _).symm
      · exact emit_then_log _ _ (runFrom_log m rest (i + 1) _ fin)

theorem runOn_log (m : Stage) (I : Strm) :
    (runOn m I).log = m.start.events ++ (if m.start.stop then [] else consumedLog m 0 I.outs I.fin) := by
  rw [runOn]
  split
  · exact (emit_log [] m.start).trans (List.append_nil _).symm
  · exact emit_then_log [] _ (runFrom_log m I.outs 0 _ I.fin)

/-- how many elements a stage pulls from an input (it stops pulling at its first stopping reaction) -/
def consumed (m : Stage) (i : Nat) : List (List Nat) → Nat
  | [] => 0
  | _ :: rest => if (m.step i).stop then 1 else 1 + consumed m (i + 1) rest

/-- does the stage stop by itself before its input ends -/
def stops (m : Stage) (i : Nat) : List (List Nat) → Bool
  | [] => false
  | _ :: rest => (m.step i).stop || stops m (i + 1) rest

theorem consumed_le (m : Stage) : ∀ (ds : List (List Nat)) (i : Nat), consumed m i ds ≤ ds.length
  | [], _ => by simp [consumed]
  | _ :: rest, i => by
      have := consumed_le m rest (i + 1)
      simp only [consumed, List.length_cons]
      split <;> omega

/-- pulling element after element and applying the lambda to each: element `j` of `ds` is pulled
    (its probes fire), then `lam (i+j)` fires -/
def perElemLog (lam : Nat → List Nat) (i : Nat) : List (List Nat) → List Nat
  | [] => []
  | d :: rest => d ++ lam i ++ perElemLog lam (i + 1) rest

/-- the stage applies its lambda (whose probes on input element `i` are `lam i`) to every element
    it pulls and fires nothing else -/
structure Applies (m : Stage) (lam : Nat → List Nat) : Prop where
  start_silent : m.start.events = []
  start_go : m.start.stop = false
  step : ∀ i, (m.step i).events = lam i
  finish_silent : ∀ n, (m.finish n).events = []

theorem consumedLog_applies {m : Stage} {lam : Nat → List Nat} (h : Applies m lam) :
    ∀ (ds : List (List Nat)) (i : Nat) (fin : List Nat),
      consumedLog m i ds fin = perElemLog lam i (ds.take (consumed m i ds)) ++ (if stops m i ds then [] else fin)
  | [], i, fin => by simp [consumedLog, consumed, stops, perElemLog, h.finish_silent]
  | d :: rest, i, fin => by
      by_cases hs : (m.step i).stop = true
      · simp [consumedLog, consumed, stops, perElemLog, hs, h.step]
      · have ih := consumedLog_applies h rest (i + 1) fin
        simp only [Bool.not_eq_true] at hs
        simp only [consumedLog, consumed, stops, hs, Bool.false_eq_true, ↓reduceIte, h.step, ih, Bool.false_or,
          Nat.add_comm 1, List.take_succ_cons, perElemLog, List.append_assoc]

/-- **per-element lambdas, whole consumption**: an operator that applies its lambda to the
    elements it pulls fires - whatever its input stream is and however long - for each of the
    `consumed` elements in input order the probes of pulling it and then the probes of the lambda
    body on it, once; then, only if it ran into the end of its input, the probes of finding the end.
    Nothing of the elements behind the `consumed` ones fires. -/
theorem per_element_total {m : Stage} {lam : Nat → List Nat} (h : Applies m lam) (I : Strm) :
    (runOn m I).log =
      perElemLog lam 0 (I.outs.take (consumed m 0 I.outs)) ++ (if stops m 0 I.outs then [] else I.fin) := by
  rw [runOn_log, h.start_silent, h.start_go]
  simp only [Bool.false_eq_true, ↓reduceIte, List.nil_append]
  exact consumedLog_applies h _ _ _

theorem perElemLog_filter (own : Nat → Bool) (lam : Nat → List Nat) (hl : ∀ i, ∀ e ∈ lam i, own e = true) :
    ∀ (ds : List (List Nat)) (i : Nat), (∀ d ∈ ds, ∀ e ∈ d, own e = false) →
      (perElemLog lam i ds).filter own = ((List.range' i ds.length).map lam).flatten
  | [], _, _ => by simp [perElemLog]
  | d :: rest, i, hd => by
      have h1 : d.filter own = [] := List.filter_eq_nil_iff.2 fun e he => by simp [hd d (List.mem_cons_self ..) e he]
      have h2 : (lam i).filter own = lam i := List.filter_eq_self.2 (hl i)
      have ih := perElemLog_filter own lam hl rest (i + 1) fun d' hd' => hd d' (List.mem_cons_of_mem _ hd')
      simp only [perElemLog, List.filter_append, h1, h2, ih, List.nil_append, List.length_cons, List.range'_succ,
        List.map_cons, List.flatten_cons]

theorem perElemLog_take_filter (own : Nat → Bool) (lam : Nat → List Nat) (hl : ∀ i, ∀ e ∈ lam i, own e = true)
    (ds : List (List Nat)) (n : Nat) (hn : n ≤ ds.length) (hd : ∀ d ∈ ds, ∀ e ∈ d, own e = false) :
    (perElemLog lam 0 (ds.take n)).filter own = ((List.range n).map lam).flatten := by
  rw [perElemLog_filter own lam hl _ 0 (fun d h => hd d (List.mem_of_mem_take h)), List.length_take,
    Nat.min_eq_left hn, List.range_eq_range']

/-- the lambda's own probes in the log: the probes of its body once per element consumed, in
    input order (`lam 0 ++ lam 1 ++ .. ++ lam (consumed-1)`) - when the input's probes are others -/
theorem per_element_own {m : Stage} {lam : Nat → List Nat} (h : Applies m lam) (I : Strm) (own : Nat → Bool)
    (hl : ∀ i, ∀ e ∈ lam i, own e = true) (hI : ∀ d ∈ I.outs, ∀ e ∈ d, own e = false) (hf : ∀ e ∈ I.fin, own e = false) :
    (runOn m I).log.filter own = ((List.range (consumed m 0 I.outs)).map lam).flatten := by
  rw [per_element_total h, List.filter_append]
  have hfin : (if stops m 0 I.outs then [] else I.fin).filter own = [] := by
    split
    · rfl
    · exact List.filter_eq_nil_iff.2 fun e he => by simp [hf e he]
  rw [hfin, List.append_nil]
  exact perElemLog_take_filter own lam hl _ _ (consumed_le m _ _) hI

/-! ### asked for k results -/

/-- the stage is `Applies`, hands on at most one result per element - after the lambda has run -
    and none before its first pull or at the end of its input (select, where, distinct, takeWhile,
    skipWhile) -/
structure Simple (m : Stage) (lam : Nat → List Nat) : Prop where
  applies : Applies m lam
  start_outs : m.start.outs = []
  one : ∀ i, ((m.step i).outs = [] ∧ (m.step i).tail = lam i) ∨ ((m.step i).outs = [lam i] ∧ (m.step i).tail = [])
  finish_outs : ∀ n, (m.finish n).outs = []

/-- how many input elements are pulled to get `k` results -/
def need (m : Stage) (i : Nat) : Nat → List (List Nat) → Nat
  | 0, _ => 0
  | _ + 1, [] => 0
  | k + 1, _ :: rest =>
    if (m.step i).stop then 1
    else if (m.step i).outs.isEmpty then 1 + need m (i + 1) (k + 1) rest
    else 1 + need m (i + 1) k rest

theorem Simple.emit_step {m : Stage} {lam : Nat → List Nat} (h : Simple m lam) (pend : List Nat) (i : Nat) :
    emit pend (m.step i) = if (m.step i).outs.isEmpty then ([], pend ++ lam i) else ([pend ++ lam i], []) := by
  rcases h.one i with ⟨ho, ht⟩ | ⟨ho, ht⟩ <;> simp [emit, ho, ht]

theorem firstK_runFrom {m : Stage} {lam : Nat → List Nat} (h : Simple m lam) :
    ∀ (ds : List (List Nat)) (i : Nat) (pend fin : List Nat) (k : Nat), k < (runFrom m i pend ds fin).outs.length →
      ((runFrom m i pend ds fin).outs.take (k + 1)).flatten = pend ++ perElemLog lam i (ds.take (need m i (k + 1) ds))
  | [], i, pend, fin, k, hk => by
      simp [runFrom, emit, h.finish_outs] at hk
  | d :: rest, i, pend, fin, k, hk => by
      rw [runFrom, h.emit_step] at hk ⊢
      rw [need]
      cases ho : (m.step i).outs.isEmpty <;> cases hs : (m.step i).stop <;>
        simp only [ho, hs, Bool.false_eq_true, ↓reduceIte, List.nil_append] at hk ⊢
      · -- the element gives result 0; result k + 1 is result k of the rest
        cases k with
        | zero => simp [perElemLog, need, List.append_assoc]
        | succ k =>
          simp only [List.cons_append, List.nil_append, List.length_cons, Nat.add_lt_add_iff_right, List.take_succ_cons,
            List.flatten_cons] at hk ⊢
          have ih := firstK_runFrom h rest (i + 1) [] fin k hk
          simp only [List.nil_append] at ih
          simp [ih, perElemLog, Nat.add_comm 1, List.append_assoc]
      · -- .. and the last one
        have : k = 0 := by simpa using hk
        simp [this, perElemLog, List.append_assoc]
      · -- the element is held back: result k comes from the rest
        rw [firstK_runFrom h rest (i + 1) _ fin k hk]
        simp [perElemLog, Nat.add_comm 1, List.append_assoc]
      · simp at hk

/-- **per_element**: a streaming operator with a per-element lambda, asked for its first k+1
    results over ANY input stream: what fires is, for each of the `need` input elements up to the
    one that yields result k and in input order, the probes of pulling the element followed by
    the probes of the lambda body on it - once each.  Nothing of the elements behind fires, nor is
    any lambda instance run twice. -/
theorem per_element {m : Stage} {lam : Nat → List Nat} (h : Simple m lam) (I : Strm) (k : Nat)
    (hk : k < (runOn m I).outs.length) :
    ((runOn m I).outs.take (k + 1)).flatten = perElemLog lam 0 (I.outs.take (need m 0 (k + 1) I.outs)) := by
  have h0 : (emit [] m.start) = ([], []) := by
    have := h.applies.start_silent
    simp only [Rx.events, h.start_outs, List.flatten_nil, List.nil_append] at this
    simp [emit, h.start_outs, this]
  simp only [runOn, h.applies.start_go, Bool.false_eq_true, ↓reduceIte, h0, List.nil_append] at hk ⊢
  simpa using firstK_runFrom h I.outs 0 [] I.fin k hk

theorem need_le (m : Stage) : ∀ (ds : List (List Nat)) (i k : Nat), need m i k ds ≤ ds.length
  | _, _, 0 => by simp [need]
  | [], _, _ + 1 => by simp [need]
  | _ :: rest, i, k + 1 => by
      have h1 := need_le m rest (i + 1) (k + 1)
      have h2 := need_le m rest (i + 1) k
      simp only [need, List.length_cons]
      split
      · omega
      · split <;> omega

/-- the lambda's own probes in the log of the first k+1 results: once per element consumed, in order -/
theorem per_element_own_firstK {m : Stage} {lam : Nat → List Nat} (h : Simple m lam) (I : Strm) (k : Nat)
    (hk : k < (runOn m I).outs.length) (own : Nat → Bool)
    (hl : ∀ i, ∀ e ∈ lam i, own e = true) (hI : ∀ d ∈ I.outs, ∀ e ∈ d, own e = false) :
    (((runOn m I).outs.take (k + 1)).flatten).filter own = ((List.range (need m 0 (k + 1) I.outs)).map lam).flatten := by
  rw [per_element h I k hk]
  exact perElemLog_take_filter own lam hl _ _ (need_le m _ _ _) hI

/-! ### the consumer that wants k results -/

theorem take_zero_log (S : Strm) : (runOn (stageOf (.take 0)) S).log = [] := by
  rw [runOn_log]
  simp [stageOf, Rx.events]

/-- `take k`, about to pull its `i`-th element, pulls the `j + 1 = k - i` elements it still wants, or all there are -/
theorem take_pulls (fin : List Nat) : ∀ (ds : List (List Nat)) (i j : Nat),
    consumedLog (stageOf (.take (i + j + 1))) i ds fin =
      (ds.take (j + 1)).flatten ++ (if j + 1 ≤ ds.length then [] else fin)
  | [], _, _ => by simp [consumedLog, stageOf, Rx.events]
  | _ :: _, _, 0 => by simp [consumedLog, stageOf, Rx.events]
  | _ :: rest, i, j + 1 => by
      have ih := take_pulls fin rest (i + 1) j
      rw [show i + 1 + j + 1 = i + (j + 1) + 1 by omega] at ih
      have hstep : (stageOf (.take (i + (j + 1) + 1))).step i = { outs := [[]], stop := decide (i + (j + 1) + 1 ≤ i + 1) } := rfl
      rw [consumedLog, ih, hstep, decide_eq_false (by omega : ¬ i + (j + 1) + 1 ≤ i + 1)]
      simp [Rx.events]

theorem take_log_any (S : Strm) : ∀ k, (runOn (stageOf (.take k)) S).log =
    (S.outs.take k).flatten ++ (if k ≤ S.outs.length then [] else S.fin)
  | 0 => by simp [take_zero_log]
  | k + 1 => by
      have h := take_pulls S.fin S.outs 0 k
      rw [Nat.zero_add] at h
      rw [runOn_log, h]
      simp [stageOf, Rx.events]

/-- `take (k+1)` over a stream that has k+1 elements pulls exactly these: the log is the probes
    of the first k+1 elements and nothing of what follows (nor of the end of the stream) -/
theorem take_log (S : Strm) (k : Nat) (hk : k + 1 ≤ S.outs.length) :
    (runOn (stageOf (.take (k + 1))) S).log = (S.outs.take (k + 1)).flatten := by
  rw [take_log_any, if_pos hk, List.append_nil]

/-- a stream shorter than what is asked for is consumed completely, the end included -/
theorem take_short_log (S : Strm) (k : Nat) (hk : S.outs.length < k) :
    (runOn (stageOf (.take k)) S).log = S.log := by
  rw [take_log_any, if_neg (by omega), List.take_of_length_le (by omega)]
  rfl

/-! ### the operators -/

theorem Simple.of_step {m : Stage} {lam : Nat → List Nat} (hs : m.start = {}) (hf : ∀ n, m.finish n = {})
    (one : ∀ i, ((m.step i).outs = [] ∧ (m.step i).tail = lam i) ∨ ((m.step i).outs = [lam i] ∧ (m.step i).tail = [])) :
    Simple m lam where
  applies := by
    refine ⟨by rw [hs]; rfl, by rw [hs], fun i => ?_, fun n => by rw [hf]; rfl⟩
    rcases one i with ⟨ho, ht⟩ | ⟨ho, ht⟩ <;> simp [Rx.events, ho, ht]
  start_outs := by rw [hs]
  one := one
  finish_outs n := by rw [hf]

theorem simple_select (bodies : List X) : Simple (stageOf (.select bodies)) (bodyAt bodies) :=
  .of_step rfl (fun _ => rfl) fun _ => .inr ⟨rfl, rfl⟩

theorem simple_filter (bodies : List X) (keep : List Bool) : Simple (stageOf (.filter bodies keep)) (bodyAt bodies) := by
  refine .of_step rfl (fun _ => rfl) fun i => ?_
  simp only [stageOf]; split <;> simp [yield1, quiet]

theorem simple_takeWhile (bodies : List X) (keep : List Bool) : Simple (stageOf (.takeWhile bodies keep)) (bodyAt bodies) := by
  refine .of_step rfl (fun _ => rfl) fun i => ?_
  simp only [stageOf]; split <;> simp [yield1]

/-- `skipWhile` applies its predicate as long as it has held so far, and never again -/
theorem simple_skipWhile (bodies : List X) (keep : List Bool) :
    Simple (stageOf (.skipWhile bodies keep)) (fun i => if allBefore keep i then bodyAt bodies i else []) := by
  refine .of_step rfl (fun _ => rfl) fun i => ?_
  simp only [stageOf]; split <;> (try split) <;> simp [yield1, quiet]

theorem applies_selectMany (bodies : List X) (counts : List Nat) :
    Applies (stageOf (.selectMany bodies counts)) (bodyAt bodies) := by
  refine ⟨rfl, rfl, fun i => ?_, fun _ => rfl⟩
  simp only [stageOf]
  split <;> simp [quiet, Rx.events]

/-- `any`, `all`, `indexWhere`, `first`: the lambda on every element up to the first hit -/
theorem applies_search (bodies : List X) (hit : List Bool) : Applies (stageOf (.search bodies hit)) (bodyAt bodies) := by
  refine ⟨rfl, rfl, fun i => ?_, fun _ => by simp [stageOf, Rx.events]⟩
  simp only [stageOf]; split <;> simp [quiet, Rx.events]

/-- the search stops pulling at the first hit: the elements behind it are never touched -/
theorem search_consumed (bodies : List X) (hit : List Bool) :
    ∀ (ds : List (List Nat)) (i : Nat), hit.getD i false = true → ds ≠ [] → consumed (stageOf (.search bodies hit)) i ds = 1
  | [], _, _, h => absurd rfl h
  | _ :: _, i, hh, _ => by
      have hs : ((stageOf (.search bodies hit)).step i).stop = true := by
        simp only [stageOf, hh, ↓reduceIte]
      simp only [consumed, hs, ↓reduceIte]

theorem applies_each (bodies : List X) (nout : Nat) : Applies (stageOf (.each bodies nout)) (bodyAt bodies) :=
  ⟨rfl, rfl, fun i => by simp [stageOf, quiet, Rx.events], fun _ => by simp [stageOf, Rx.events]⟩

theorem applies_accumulate (bodies : List X) (seeded : Bool) :
    Applies (stageOf (.accumulate bodies seeded)) (fun i => if !seeded && i == 0 then [] else bodyAt bodies i) := by
  refine ⟨?_, ?_, fun i => ?_, fun _ => rfl⟩
  · simp only [stageOf]; split <;> simp [yield1, Rx.events]
  · simp only [stageOf]; split <;> simp [yield1]
  · simp only [stageOf]; split <;> simp [yield1, Rx.events]

/-! ### lazy collections in SECOND argument position: zip, concat, join -/

/-- `zip(other)`: element i of `other` is pulled when - and only when - the receiver has delivered
    its element i; the first missing one ends the zip (and the receiver's element is lost) -/
theorem applies_zip (other : Strm) :
    Applies (stageOf (.zip other)) (fun i => match other.outs[i]? with | some d => d | none => other.fin) := by
  refine ⟨rfl, rfl, fun i => ?_, fun _ => rfl⟩
  simp only [stageOf]; split <;> simp_all [yield1, Rx.events]

/-- `concat(other)` over an empty or exhausted receiver hands on `other` as it is; nothing of `other`
    fires before the receiver has ended -/
theorem concat_log (other I : Strm) :
    (runOn (stageOf (.concat other)) I).log = I.log ++ other.log := by
  have pulls : ∀ (ds : List (List Nat)) (i : Nat),
      consumedLog (stageOf (.concat other)) i ds I.fin = ds.flatten ++ (I.fin ++ other.log) := by
    intro ds
    induction ds with
    | nil => exact fun _ => rfl
    | cons d rest ih =>
      intro i
      rw [consumedLog, ih (i + 1)]
      simp [stageOf, yield1, Rx.events]
  exact ((runOn_log (stageOf (.concat other)) I).trans (pulls I.outs 0)).trans (List.append_assoc ..).symm

/-- the probes of one pass of `join` over the inner collection: per inner element the probes of
    pulling it, of the predicate, and - when it holds - of the selector -/
def joinLog : List (List Nat) → List X → List Bool → List X → List Nat
  | [], _, _, _ => []
  | d :: ds, ps, fs, ss =>
    d ++ trace (ps.headD .leaf) ++ (if fs.headD false then trace (ss.headD .leaf) else []) ++ joinLog ds ps.tail fs.tail ss.tail

theorem joinRows_events : ∀ (ds : List (List Nat)) (ps : List X) (fs : List Bool) (ss : List X),
    (joinRows ds ps fs ss).1.flatten ++ (joinRows ds ps fs ss).2 = joinLog ds ps fs ss
  | [], _, _, _ => rfl
  | d :: ds, ps, fs, ss => by
      have ih := joinRows_events ds ps.tail fs.tail ss.tail
      by_cases hf : fs.headD false = true
      · simp only [joinRows, hf, ↓reduceIte, List.flatten_cons, joinLog, List.append_assoc, ← ih]
      · simp only [Bool.not_eq_true] at hf
        simp only [joinRows, hf, Bool.false_eq_true, ↓reduceIte, joinLog, List.append_nil, ← ih]
        cases h : (joinRows ds ps.tail fs.tail ss.tail).1 <;> simp [List.append_assoc]

/-- `join`: the inner collection is pulled in the pass of the FIRST outer element only (its
    probes, element by element, in front of the predicate that looks at the element; the probes of
    finding its end at the end of that pass); the later passes fire predicates and selectors only -/
theorem join_pass_events (inner : Strm) (preds : List (List X)) (flags : List (List Bool)) (sels : List (List X)) (i : Nat) :
    ((stageOf (.join inner preds flags sels)).step i).events =
      if i = 0 then joinLog inner.outs (preds.getD 0 []) (flags.getD 0 []) (sels.getD 0 []) ++ inner.fin
      else joinLog (inner.outs.map fun _ => []) (preds.getD i []) (flags.getD i []) (sels.getD i []) := by
  cases i with
  | zero =>
      rw [if_pos rfl]
      exact (List.append_assoc _ _ _).symm.trans (congrArg (· ++ inner.fin) (joinRows_events _ _ _ _))
  | succ i =>
      rw [if_neg (Nat.succ_ne_zero i)]
      exact (congrArg (_ ++ ·) (List.append_nil _)).trans (joinRows_events _ _ _ _)

/-- `join` over an EMPTY outer side never touches its second collection: none of its probes fires -/
theorem join_empty_outer (inner : Strm) (preds : List (List X)) (flags : List (List Bool)) (sels : List (List X)) (fin : List Nat) :
    (runOn (stageOf (.join inner preds flags sels)) ⟨[], fin⟩).log = fin := by
  rw [runOn_log]
  simp [stageOf, Rx.events, consumedLog]

/-- concrete instances: `[a, b].join(inner.select(tick), true, sel).first()`
    pulls ONE inner element; with an empty outer side none -/
example : pipeLog [.join ⟨[[10], [20], [30]], []⟩ [] [[true, true, true], [true, true, true]] [], .take 1] (listSrc 2) = [10] := by
  decide
example : pipeLog [.join ⟨[[10], [20], [30]], []⟩ [] [] []] (listSrc 0) = [] := by decide
example : pipeLog [.join ⟨[[10], [20], [30]], [99]⟩ [] [[true, true, true], [true, true, true]] []] (listSrc 2) = [10, 20, 30, 99] := by
  decide
example : pipeLog [.select [.tick 1 .leaf, .tick 1 .leaf, .tick 1 .leaf], .filter [.tick 2 .leaf, .tick 2 .leaf] [false, true],
    .take 1] (listSrc 3) = [1, 2, 1, 2] := by decide
example : pipeLog [.select [.tick 1 .leaf, .tick 1 .leaf], .zip ⟨[[7]], [8]⟩] (listSrc 2) = [1, 7, 1, 8] := by decide

end Yaql.Props.C11
