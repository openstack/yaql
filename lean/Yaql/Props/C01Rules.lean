import Yaql.Props.C01
/-!
C01, state parked on the engine-wide rules objects (`MachineR`).

Per-parse lexers are not enough when a token fetch also reads something that every parse of the engine
writes: `lookbehind_not_isolated` is a two-thread witness with a one-token look-behind flag (the shape
"the previous token was a member operator, so the next word is a name").  Conversely, state that token
fetches never READ is harmless for every schedule (`rules_blind_isolated`), and state that `input()` resets
is invisible to every sequential history (`rules_reset_sequential`) - which is why only schedules that put
a switch between two token fetches, for the right PAIR of token kinds, can tell.
-/
namespace Yaql.Props.C01Rules
open Yaql.ParseSched Yaql.Props.C01

variable {Tok PS Out R : Type}

theorem stepR_other (m : MachineR Tok PS Out R) (s : SysR PS Out R) (i j : Nat) (h : i ≠ j) :
    (stepR m s j).threads[i]? = s.threads[i]? := by
  unfold stepR
  cases hj : s.threads[j]? with
  | none => rfl
  | some t => simp [List.getElem?_set_ne (Ne.symm h)]

theorem stepR_self (m : MachineR Tok PS Out R) (s : SysR PS Out R) (i : Nat) (t : Thread PS Out) (ht : s.threads[i]? = some t) :
    (stepR m s i).rules = (stepOnR m s.rules t).1 ∧ (stepR m s i).threads[i]? = some (stepOnR m s.rules t).2 := by
  have hlt : i < s.threads.length := (List.getElem?_eq_some_iff.mp ht).1
  unfold stepR
  simp only [ht]
  simp [hlt]

theorem runR_other (m : MachineR Tok PS Out R) (i : Nat) (sched : List Nat) (s : SysR PS Out R) (h : i ∉ sched) :
    (runR m s sched).threads[i]? = s.threads[i]? :=
  foldl_other (get := fun s i => s.threads[i]?) (fun s j => stepR_other m s i j) sched s h

theorem runR_append (m : MachineR Tok PS Out R) (s : SysR PS Out R) (a b : List Nat) :
    runR m s (a ++ b) = runR m (runR m s a) b := by
  simp [runR, List.foldl_append]

/-- a tokeniser is *blind* to the rules state when the token and the new cursor never depend on it -/
def Blind (m : MachineR Tok PS Out R) : Prop :=
  ∀ r r' d p, (m.nextTok r d p).1 = (m.nextTok r' d p).1

theorem stepOnR_blind (m : MachineR Tok PS Out R) (hb : Blind m) (r r0 : R) (t : Thread PS Out) :
    (stepOnR m r t).2 = soloStep (m.frozen r0) t := by
  unfold stepOnR soloStep stepOn MachineR.frozen
  cases hp : t.phase with
  | notStarted => simp
  | running ps =>
      simp only [hb r r0 t.own.data t.own.pos]
      cases hf : m.feed ps (m.nextTok r0 t.own.data t.own.pos).1.1 <;> simp
  | done o => simp

/-- **rules state that no token fetch reads does not matter**: if the token and cursor returned by a
    fetch never depend on the engine-wide state, then for every number of parses, all texts and EVERY
    schedule each parse is where it would be alone (on the tokeniser with the state frozen anywhere). -/
theorem rules_blind_isolated (m : MachineR Tok PS Out R) (hb : Blind m) (r0 : R) (i : Nat) :
    ∀ (sched : List Nat) (s : SysR PS Out R),
      (runR m s sched).threads[i]? = (s.threads[i]?).map (soloIter (m.frozen r0) (sched.count i)) := by
  intro sched s
  refine foldl_count (get := fun s i => s.threads[i]?) (Inv := fun _ => True) (fun _ => rfl)
    (soloIter_succ (m.frozen r0)) (fun _ _ _ => trivial) (fun s j => stepR_other m s i j) (fun s _ => ?_) sched s trivial
  cases ht : s.threads[i]? with
  | none => simp [stepR, ht]
  | some t => rw [(stepR_self m s i t ht).2, stepOnR_blind m hb s.rules r0 t]; rfl

/-! ### sequential use cannot see state that `input()` resets -/

theorem soloIterR_succ (m : MachineR Tok PS Out R) (n : Nat) (x : R × Thread PS Out) :
    soloIterR m (n + 1) x = soloIterR m n (stepOnR m x.1 x.2) := rfl

/-- `n` contiguous steps of parse `i` are `n` steps of that parse alone, on the rules state as the block finds it -/
theorem block (m : MachineR Tok PS Out R) (i : Nat) :
    ∀ (n : Nat) (s : SysR PS Out R) (t : Thread PS Out), s.threads[i]? = some t →
      (runR m s (List.replicate n i)).threads[i]? = some (soloIterR m n (s.rules, t)).2
  | 0, s, t, ht => by simpa [runR, soloIterR] using ht
  | n + 1, s, t, ht => by
      obtain ⟨hr, hs⟩ := stepR_self m s i t ht
      simp only [List.replicate_succ, runR, List.foldl_cons, soloIterR_succ]
      have := block m i n (stepR m s i) (stepOnR m s.rules t).2 hs
      simp only [runR, hr] at this
      exact this

theorem start_forgets (m : MachineR Tok PS Out R) (r0 : R) (hreset : ∀ r, m.onInput r = r0)
    (t : Thread PS Out) (hstart : t.phase = .notStarted) (r : R) :
    stepOnR m r t = stepOnR m r0 t := by
  unfold stepOnR
  simp [hstart, hreset]

/-- **sequential histories cannot see state that `input()` resets.**  If `input()` puts the engine-wide
    state into one fixed value, a parse whose steps are contiguous in the schedule ends exactly as it
    would alone with a rules state of its own - whatever ran before it (`pre`, including parses abandoned
    in mid-text with the state left in any condition) or runs after it (`post`). -/
theorem rules_reset_sequential (m : MachineR Tok PS Out R) (r0 : R) (hreset : ∀ r, m.onInput r = r0)
    (s : SysR PS Out R) (i n : Nat) (t : Thread PS Out) (pre post : List Nat)
    (ht : s.threads[i]? = some t) (hstart : t.phase = .notStarted)
    (hpre : i ∉ pre) (hpost : i ∉ post) :
    (runR m s (pre ++ List.replicate n i ++ post)).threads[i]? =
      some (soloIterR m n (r0, t)).2 := by
  rw [runR_append, runR_append, runR_other m i post _ hpost]
  have h0 : (runR m s pre).threads[i]? = some t := by rw [runR_other m i pre s hpre, ht]
  rw [block m i n (runR m s pre) t h0]
  cases n with
  | zero => rfl
  | succ k =>
      simp only [soloIterR_succ]
      rw [start_forgets m r0 hreset t hstart (runR m s pre).rules]

/-! ### a look-behind flag on the rules object breaks isolation although every parse has its own lexer -/

/-- toy tokeniser with a one-token look-behind: a token is the next character; the engine-wide flag says
    "the previous token handed out was `.`"; the word `n` (think `null`) is the constant `N` unless the flag is
    set, in which case it is the plain name `n`.  `input()` clears the flag. -/
def look : MachineR (Option Char) (List Char) (List Char) Bool where
  nextTok := fun flag data pos =>
    let c := data[pos]?
    ((if c = some 'n' ∧ flag = false then some 'N' else c, pos + 1), decide (c = some '.'))
  onInput := fun _ => false
  init := []
  feed := fun ps tok => match tok with
    | some c => .inl (ps ++ [c])
    | none => .inr ps

def lookSys : SysR (List Char) (List Char) Bool :=
  { rules := false, threads := [{ text := ['x', '.', 'a'] }, { text := ['n'] }] }

/-- parse 0 has just fetched its `.` when parse 1 fetches its `n` -/
def lookSchedule : List Nat := [0, 0, 1, 0, 1, 0, 0, 1]

/-- each parse has its own lexer, yet parse 1 reads its text `n` as a NAME because parse 0's member operator
    left the flag set: not what it gives alone (`N`) -/
theorem lookbehind_not_isolated :
    ((runR look lookSys lookSchedule).threads.map (·.phase)) = [.done ['x', '.', 'a'], .done ['n']] ∧
    (lookSys.threads.map fun t => (soloIterR look 5 (false, t)).2.phase) =
      [.done ['x', '.', 'a'], .done ['N']] := by decide

/-- the second shape: a foreign fetch BETWEEN a parse's own `.` and its `n` clears the flag it relies on -/
theorem lookbehind_sandwich :
    ((runR look { rules := false, threads := [{ text := ['.', 'n'] }, { text := ['a'] }] }
        [0, 1, 0, 1, 0, 0, 1]).threads.map (·.phase)) = [.done ['.', 'N'], .done ['a']] ∧
    (soloIterR look 4 (false, ({ text := ['.', 'n'] } : Thread (List Char) (List Char)))).2.phase =
      .done ['.', 'n'] := by decide

/-- the look-behind tokeniser is not blind (hypothesis of `rules_blind_isolated` fails, as it must) -/
example : ¬ Blind look := by
  intro h
  have := h true false ['n'] 0
  simp [look] at this

/-- `rules_blind_isolated` is not vacuous: a tokeniser that only WRITES the flag is blind -/
example : Blind ({ look with nextTok := fun _ data pos => ((data[pos]?, pos + 1), decide (data[pos]? = some '.')) } :
    MachineR (Option Char) (List Char) (List Char) Bool) := by
  intro r r' d p
  rfl

/-- hypotheses of `rules_reset_sequential` hold for the look-behind tokeniser: sequentially it is fine -/
example : ((runR look lookSys ([0, 0, 0] ++ List.replicate 3 1 ++ [0, 0])).threads[1]?).map (·.phase) =
    some (.done ['N']) := by decide

end Yaql.Props.C01Rules
