import Yaql.Gen.SrcLimits
import Yaql.Lemmas.PyPrelude
import Yaql.Lemmas.PyLoops
/-!
Equivalence of the definitions translated from the CURRENT yaql source (`Yaql.Gen.SrcLimits`, regenerated on every
run by harness/py2lean.py) with the hand-written model - for all inputs.  The translator numbers the exception classes
a function raises: here `.other 1` is `MemoryQuotaExceededException`, `.other 2` is `CollectionTooLargeException`.
-/
namespace Yaql.Props.SrcLimits
open Yaql Yaql.Gen Yaql.Lemmas.PyLoops

/-- the sized check in terms of the Python test `0 <= max_count < len(iterable)` -/
theorem limitSized_limitOf (m : Int) (n : Nat) :
    Limits.limitSized (Py.limitOf m) n = if 0 ≤ m ∧ m < (n : Int) then .error .tooLarge else .ok () := by
  unfold Limits.limitSized Py.limitOf
  by_cases h : m < 0
  · have : ¬ (0 ≤ m ∧ m < (n : Int)) := by omega
    simp [h, this, Convert.Limit.admits]
  · by_cases h2 : m < (n : Int)
    · have h3 : ¬ (n ≤ m.toNat) := by omega
      have : (0 ≤ m ∧ m < (n : Int)) := by omega
      simp [h, this, h3, Convert.Limit.admits]
    · have h3 : (n ≤ m.toNat) := by omega
      have : ¬ (0 ≤ m ∧ m < (n : Int)) := by omega
      simp [h, this, h3, Convert.Limit.admits]

theorem limit_iterable_sized_src_eq (iterable : List Value) (limit_or_engine : Int) :
    SrcLimits.limit_iterable_sized iterable limit_or_engine
      = match Limits.limitSized (Py.limitOf limit_or_engine) iterable.length with
        | .ok _ => .ok iterable
        | .error _ => .error (.other 2) := by
  simp only [SrcLimits.limit_iterable_sized, limitSized_limitOf]
  by_cases h : 0 ≤ limit_or_engine ∧ limit_or_engine < (iterable.length : Int)
  · simp [h]
  · simp [h]

/-! ### `limit_memory_usage` -/

theorem limit_memory_go (quota : Int) (f : Int → Int × Nat → Py.Step Int (Except Py.Err Unit))
    (hf : ∀ s c sz, f s (c, sz) = if s + c * (sz : Int) > quota then .ret (.error (.other 1))
                                   else .next (s + c * (sz : Int)))
    (args : List (Int × Nat)) (total : Int) :
    Py.forLoop args total f
      = if Limits.limitMemoryGo quota total args then .done (args.foldl (fun t a => t + a.1 * (a.2 : Int)) total)
        else .ret (.error (.other 1)) := by
  induction args generalizing total with
  | nil => simp [Limits.limitMemoryGo]
  | cons a r ih =>
    obtain ⟨c, sz⟩ := a
    rw [Lemmas.PyPrelude.forLoop_cons, hf]
    by_cases h : total + c * (sz : Int) > quota
    · simp [h, Limits.limitMemoryGo]
    · simp only [h, if_false, Limits.limitMemoryGo, List.foldl_cons]
      exact ih _

theorem limit_memory_usage_src_eq (quota_or_engine : Int) (args : List (Int × Nat)) :
    SrcLimits.limit_memory_usage quota_or_engine args
      = if Limits.limitMemory quota_or_engine args then .ok () else .error (.other 1) := by
  unfold SrcLimits.limit_memory_usage Limits.limitMemory
  by_cases h : quota_or_engine ≤ 0
  · simp [h]
  · simp only [h, if_false]
    rw [limit_memory_go quota_or_engine _ (by py_body)]
    cases Limits.limitMemoryGo quota_or_engine 0 args <;> rfl

/-! ### `limit_iterable` on an iterator, consumed to the end -/

theorem limit_iter_go (m : Int) (f : List Value → Int × Value → Py.Step (List Value) (Except Py.Err (List Value)))
    (hf : ∀ out i t, f out (i, t) = if 0 ≤ m ∧ m ≤ i then .ret (.error (.other 2)) else .next (out ++ [t]))
    (xs : List Value) (i : Int) (acc : List Value) (hi : m < 0 ∨ i ≤ m) :
    Py.forLoop (Py.enumFrom i xs) acc f
      = if 0 ≤ m ∧ m < i + xs.length then .ret (.error (.other 2)) else .done (acc ++ xs) := by
  induction xs generalizing i acc with
  | nil =>
    simp
    omega
  | cons x xs ih =>
    simp only [enumFrom_cons, Lemmas.PyPrelude.forLoop_cons, hf]
    by_cases h : 0 ≤ m ∧ m ≤ i
    · simp [h]
      omega
    · simp only [h, if_false]
      rw [ih (i + 1) (acc ++ [x]) (by omega)]
      simp only [List.length_cons, List.append_assoc, List.cons_append, List.nil_append]
      congr 1
      simp; omega

theorem limit_iterable_iter_src_eq (iterable : List Value) (limit_or_engine : Int) :
    SrcLimits.limit_iterable_iter iterable limit_or_engine
      = match Limits.limitSized (Py.limitOf limit_or_engine) iterable.length with
        | .ok _ => .ok iterable
        | .error _ => .error (.other 2) := by
  unfold SrcLimits.limit_iterable_iter
  simp only [enumerate_eq]
  rw [limit_iter_go limit_or_engine _ (by py_body) iterable 0 [] (by omega), limitSized_limitOf]
  by_cases h : 0 ≤ limit_or_engine ∧ limit_or_engine < (iterable.length : Int)
  · have h' : 0 ≤ limit_or_engine ∧ limit_or_engine < 0 + (iterable.length : Int) := by omega
    rw [if_pos h, if_pos h']
  · have h' : ¬ (0 ≤ limit_or_engine ∧ limit_or_engine < 0 + (iterable.length : Int)) := by omega
    rw [if_neg h, if_neg h']; rfl

end Yaql.Props.SrcLimits
