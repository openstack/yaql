import Yaql.Gen.SrcStrRepeat
import Yaql.Props.SrcLimits
/-!
Equivalence of the definitions translated from the CURRENT yaql source (`Yaql.Gen.SrcStrRepeat`, regenerated on
every run by harness/py2lean.py) with the hand-written model - for all inputs.  String repetition with its memory
estimate (strings.py; shared by C19 and C08).
-/
namespace Yaql.Props.SrcStrRepeat
open Yaql Yaql.Gen

theorem string_by_int_src_eq (sizes : Limits.SizeCfg) (kind : Limits.SeqK) (left : List Char) (right engine : Int) :
    SrcStrRepeat.string_by_int sizes kind left right engine
      = if Limits.stringByIntCheck sizes engine (Limits.strClassOf (Py.maxCp left)) left.length right
        then .ok (Strings.repeatStr left right) else .error (.other 1) := by
  unfold SrcStrRepeat.string_by_int Limits.stringByIntCheck
  rw [SrcLimits.limit_memory_usage_src_eq]
  have h0 : Limits.SizeCfg.strSize sizes (Limits.strClassOf (Py.maxCp ([] : List Char))) ([] : List Char).length
      = sizes.strAscii := by simp [Limits.SizeCfg.strSize]
  simp only [h0]
  cases Limits.limitMemory engine [(-right + 1, sizes.strAscii),
      (right, sizes.strSize (Limits.strClassOf (Py.maxCp left)) left.length)] <;>
    simp [Py.repeat_, Strings.repeatStr]

theorem int_by_string_src_eq (sizes : Limits.SizeCfg) (kind : Limits.SeqK) (left : Int) (right : List Char) (engine : Int) :
    SrcStrRepeat.int_by_string sizes kind left right engine
      = if Limits.stringByIntCheck sizes engine (Limits.strClassOf (Py.maxCp right)) right.length left
        then .ok (Strings.repeatStr right left) else .error (.other 1) := by
  unfold SrcStrRepeat.int_by_string
  exact string_by_int_src_eq ..

end Yaql.Props.SrcStrRepeat
