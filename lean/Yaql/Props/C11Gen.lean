import Yaql.Gen.Registry
import Yaql.Gen.LazySpell
/-!
C11 over the generated registry: the functions whose operands the evaluation-order model
(`Yaql.EvalOrder`) treats as lazy have exactly those lazy parameters in the live library, and no
other registered function has a lazy parameter besides the listed ones (all others are `eager` nodes).
Re-proved by the kernel on every run against the regenerated table.
-/
namespace Yaql.Props.C11Gen
open Yaql.Registry Yaql.Gen.Registry Yaql.Types Yaql.Naming Yaql.Gen.LazySpell

def lazyNames (d : RDef) : List Name := (d.params.filter fun p => p.lazy && !p.hidden).map (·.name)
def eagerNames (d : RDef) : List Name := (d.params.filter fun p => !p.lazy && !p.hidden).map (·.name)
def sameSet (a b : List Name) : Bool := a.all b.contains && b.all a.contains

/-- every definition registered under `n` has lazy parameters `lz` and eager parameters `eg` -/
def hasSig (n : Name) (lz eg : List Name) : Bool :=
  let ds := registry.filter fun d => d.name == n
  !ds.isEmpty && ds.all fun d => sameSet (lazyNames d) lz && sameSet (eagerNames d) eg

/-- the lazy positions of the short-circuit functions are what `Yaql.EvalOrder` assumes -/
theorem lazy_params :
    hasSig ['#', 'o', 'p', 'e', 'r', 'a', 't', 'o', 'r', '_', 'a', 'n', 'd'] [['l', 'e', 'f', 't'], ['r', 'i', 'g', 'h', 't']] [] = true ∧
    hasSig ['#', 'o', 'p', 'e', 'r', 'a', 't', 'o', 'r', '_', 'o', 'r'] [['l', 'e', 'f', 't'], ['r', 'i', 'g', 'h', 't']] [] = true ∧
    hasSig ['#', 'o', 'p', 'e', 'r', 'a', 't', 'o', 'r', '_', '?', '.'] [['e', 'x', 'p', 'r']] [['r', 'e', 'c', 'e', 'i', 'v', 'e', 'r']] = true ∧
    hasSig ['s', 'w', 'i', 't', 'c', 'h'] [['a', 'r', 'g', 's']] [] = true ∧
    hasSig ['s', 'e', 'l', 'e', 'c', 't', 'C', 'a', 's', 'e'] [['a', 'r', 'g', 's']] [] = true ∧
    hasSig ['s', 'e', 'l', 'e', 'c', 't', 'A', 'l', 'l', 'C', 'a', 's', 'e', 's'] [['a', 'r', 'g', 's']] [] = true ∧
    hasSig ['e', 'x', 'a', 'm', 'i', 'n', 'e'] [['a', 'r', 'g', 's']] [] = true ∧
    hasSig ['c', 'o', 'a', 'l', 'e', 's', 'c', 'e'] [['a', 'r', 'g', 's']] [] = true ∧
    hasSig ['s', 'w', 'i', 't', 'c', 'h', 'C', 'a', 's', 'e'] [['a', 'r', 'g', 's']] [['c', 'a', 's', 'e']] = true := by
  decide +kernel

/-- the complete list of registered functions that have a lazy parameter -/
def lazyFunctions : List Name :=
  [['#', 'o', 'p', 'e', 'r', 'a', 't', 'o', 'r', '_', '-', '>'],
   ['#', 'o', 'p', 'e', 'r', 'a', 't', 'o', 'r', '_', '.'],
   ['#', 'o', 'p', 'e', 'r', 'a', 't', 'o', 'r', '_', '?', '.'],
   ['#', 'o', 'p', 'e', 'r', 'a', 't', 'o', 'r', '_', 'a', 'n', 'd'],
   ['#', 'o', 'p', 'e', 'r', 'a', 't', 'o', 'r', '_', 'o', 'r'],
   ['a', 'c', 'c', 'u', 'm', 'u', 'l', 'a', 't', 'e'],
   ['a', 'g', 'g', 'r', 'e', 'g', 'a', 't', 'e'],
   ['a', 'l', 'l'],
   ['a', 'n', 'y'],
   ['a', 's', 's', 'e', 'r', 't'],
   ['c', 'o', 'a', 'l', 'e', 's', 'c', 'e'],
   ['d', 'e', 'f'],
   ['d', 'i', 's', 't', 'i', 'n', 'c', 't'],
   ['e', 'x', 'a', 'm', 'i', 'n', 'e'],
   ['f', 'i', 'l', 't', 'e', 'r'],
   ['g', 'e', 'n', 'e', 'r', 'a', 't', 'e'],
   ['g', 'e', 'n', 'e', 'r', 'a', 't', 'e', 'M', 'a', 'n', 'y'],
   ['g', 'r', 'o', 'u', 'p', 'B', 'y'],
   ['i', 'n', 'd', 'e', 'x', 'W', 'h', 'e', 'r', 'e'],
   ['j', 'o', 'i', 'n'],
   ['l', 'a', 's', 't', 'I', 'n', 'd', 'e', 'x', 'W', 'h', 'e', 'r', 'e'],
   ['m', 'a', 'p'],
   ['m', 'e', 'r', 'g', 'e', 'W', 'i', 't', 'h'],
   ['o', 'r', 'd', 'e', 'r', 'B', 'y'],
   ['o', 'r', 'd', 'e', 'r', 'B', 'y', 'D', 'e', 's', 'c', 'e', 'n', 'd', 'i', 'n', 'g'],
   ['r', 'e', 'd', 'u', 'c', 'e'],
   ['r', 'e', 'p', 'l', 'a', 'c', 'e', 'B', 'y'],
   ['s', 'e', 'a', 'r', 'c', 'h'],
   ['s', 'e', 'a', 'r', 'c', 'h', 'A', 'l', 'l'],
   ['s', 'e', 'l', 'e', 'c', 't'],
   ['s', 'e', 'l', 'e', 'c', 't', 'A', 'l', 'l', 'C', 'a', 's', 'e', 's'],
   ['s', 'e', 'l', 'e', 'c', 't', 'C', 'a', 's', 'e'],
   ['s', 'e', 'l', 'e', 'c', 't', 'M', 'a', 'n', 'y'],
   ['s', 'k', 'i', 'p', 'W', 'h', 'i', 'l', 'e'],
   ['s', 'l', 'i', 'c', 'e', 'W', 'h', 'e', 'r', 'e'],
   ['s', 'p', 'l', 'i', 't', 'W', 'h', 'e', 'r', 'e'],
   ['s', 'w', 'i', 't', 'c', 'h'],
   ['s', 'w', 'i', 't', 'c', 'h', 'C', 'a', 's', 'e'],
   ['t', 'a', 'k', 'e', 'W', 'h', 'i', 'l', 'e'],
   ['t', 'h', 'e', 'n', 'B', 'y'],
   ['t', 'h', 'e', 'n', 'B', 'y', 'D', 'e', 's', 'c', 'e', 'n', 'd', 'i', 'n', 'g'],
   ['t', 'o', 'D', 'i', 'c', 't'],
   ['w', 'h', 'e', 'r', 'e']]

theorem lazy_functions :
    sameSet ((registry.filter fun d => d.params.any fun p => p.lazy && !p.hidden).map (·.name)) lazyFunctions = true := by
  decide +kernel

/-! ### the keyword spelling of the lazily evaluated parameters (`Yaql/Gen/LazySpell.lean`: contexts of every
naming convention, created in two orders in fresh interpreters) -/

/-- the keyword spelling of a lazy parameter exists and is unambiguous -/
def spellingOk (r : LazyRow) : Bool :=
  r.star ||
    (isKeyword r.keyword &&                                     -- `name => value` parses / `call()` lets it pass
     !r.others.contains r.keyword &&                            -- no other parameter of the definition answers to it
     r.keyword == keywordName r.conv r.declAlias r.param)       -- it is the documented alias: explicit, or the convention's

/-- **every lazily evaluated parameter of the library can be passed by keyword, under every naming
    convention**: its keyword name is a keyword, is the alias the convention promises for the declared
    parameter (the explicit alias, else the translated python name), and differs from the keyword name of
    every other parameter of the same definition (`*args` parameters - coalesce, switch, selectCase.. - are
    reached positionally only) -/
theorem lazy_keyword_spelling : lazyRows.all spellingOk = true := by
  decide +kernel

def samePairs (a b : List (Name × Name)) : Bool := a.all b.contains && b.all a.contains

/-- the rows of the default convention are exactly the lazy parameters of the registry
    (`Yaql/Gen/Registry.lean`, on which `lazy_params` / `lazy_functions` and the resolver ties are stated) -/
theorem lazy_rows_cover :
    samePairs ((lazyRows.filter fun r => r.conv == some .camel).map fun r => (r.regName, r.param))
      (registry.flatMap fun d => (d.params.filter fun p => p.lazy && !p.hidden).map fun p => (d.name, p.name)) = true := by
  decide +kernel

/-- what is declared of a lazy parameter, whatever the convention of the context -/
def declOf (r : LazyRow) : Name × Option Name × Bool × Nat := (r.param, r.declAlias, r.star, r.others.length)

def declsOf (c : Option Conv) : List (Name × Option Name × Bool × Nat) := (lazyRows.filter (·.conv == c)).map declOf

/-- every lazy parameter is seen as such in contexts of EVERY convention (with the same declaration), and
    the conventions really differ on the table: some lazy parameter has a keyword name that is not its
    python name under camelCase, and is its python name under the PythonConvention and without one -/
theorem lazy_rows_every_convention :
    (lazyRows.all fun r => [some Conv.camel, some Conv.python, none].all fun c => lazyRows.any fun r' =>
      r'.conv == c && r'.param == r.param && r'.declAlias == r.declAlias && r'.star == r.star &&
        r'.others.length == r.others.length) = true ∧
    lazyRows.any (fun r => r.conv == some .camel && !r.star && r.keyword != r.param) = true ∧
    lazyRows.any (fun r => r.conv == some .python && !r.star && r.keyword == r.param && toCamel r.param != r.param) = true ∧
    lazyRows.any (fun r => r.conv == none && !r.star && r.keyword == r.param && toCamel r.param != r.param) = true ∧
    (lazyRows.filter fun r => !r.star).length ≥ 100 := by
  -- every row has one of the three conventions, so it is enough that what is declared under each
  -- convention is declared under the next one, round the circle; going through all rows anew for every
  -- row and convention is slow to check
  have h : ([(some Conv.camel, some Conv.python), (some .python, none), (none, some .camel)].all fun cc =>
      (declsOf cc.1).all (declsOf cc.2).contains) = true := by decide +kernel
  simp only [List.all_cons, List.all_nil, Bool.and_true, Bool.and_eq_true, List.all_eq_true, List.contains_iff_mem] at h
  obtain ⟨s1, s2, s3⟩ := h
  have sub : ∀ c c' k, k ∈ declsOf c → k ∈ declsOf c' := by
    intro c c' k hk
    match c, c' with
    | some .camel, some .camel | some .python, some .python | none, none => exact hk
    | some .camel, some .python => exact s1 k hk
    | some .python, none => exact s2 k hk
    | none, some .camel => exact s3 k hk
    | some .camel, none => exact s2 k (s1 k hk)
    | some .python, some .camel => exact s3 k (s2 k hk)
    | none, some .python => exact s1 k (s3 k hk)
  refine ⟨?_, by decide +kernel⟩
  simp only [List.all_eq_true, List.any_eq_true, Bool.and_eq_true, beq_iff_eq]
  intro r hr c _
  have hk := sub r.conv c (declOf r) (List.mem_map.mpr ⟨r, List.mem_filter.mpr ⟨hr, beq_self_eq_true _⟩, rfl⟩)
  obtain ⟨r', hr', hd⟩ := List.mem_map.mp hk
  obtain ⟨hr', hc'⟩ := List.mem_filter.mp hr'
  simp only [declOf, Prod.mk.injEq] at hd
  exact ⟨r', hr', ⟨⟨⟨beq_iff_eq.mp hc', hd.1⟩, hd.2.1⟩, hd.2.2.1⟩, hd.2.2.2⟩

end Yaql.Props.C11Gen
