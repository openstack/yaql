import Yaql.Model.PyPrelude
import Yaql.Model.Strings
/-!
Lemmas about the Python primitives of `Yaql/Model/PyPrelude.lean`: what each primitive is in terms of
the `List`/`Int` vocabulary the hand-written models use.
-/
namespace Yaql.Lemmas.PyPrelude
open Yaql

/-- Python's `not xs` on a list: generated as `decide (¬ xs ≠ [])`, which `simp` brings to the left side -/
theorem decide_eq_nil [DecidableEq α] (l : List α) : decide (l = []) = l.isEmpty := by
  cases l <;> simp

theorem clampIdx_eq_strings (len : Nat) (i : Int) : Py.clampIdx len i = Strings.clampIdx len i := rfl

/-- `xs[a:b]` of the prelude is the `pySlice` of the string model -/
theorem slice_some_some (s : List Char) (a b : Int) :
    Py.slice s (some a) (some b) = Strings.pySlice s a b := rfl

theorem slice_none_none (xs : List α) : Py.slice xs none none = xs := by
  simp [Py.slice, Py.hiBound, Py.loBound]

theorem clampIdx_le (len : Nat) (i : Int) : Py.clampIdx len i ≤ len := by
  unfold Py.clampIdx
  split
  · omega
  · exact Nat.min_le_right _ _

theorem clampIdx_of_nonneg (len : Nat) (i : Int) (h : 0 ≤ i) : Py.clampIdx len i = min i.toNat len :=
  if_neg (Int.not_lt.mpr h)

theorem clampIdx_natCast (len i : Nat) : Py.clampIdx len (i : Int) = min i len := by
  rw [Py.clampIdx, if_neg (Int.not_lt.mpr (Int.natCast_nonneg i)), Int.toNat_natCast]

theorem slice_length_le (xs : List α) (a b : Option Int) : (Py.slice xs a b).length ≤ xs.length :=
  Nat.le_trans (List.drop_sublist _ _).length_le (List.take_sublist _ _).length_le

theorem floordiv_pos (a b : Int) (h : 0 < b) : Py.floordiv a b = a / b := by
  unfold Py.floordiv
  exact Int.fdiv_eq_ediv_of_nonneg a (Int.le_of_lt h)

theorem mod_pos (a b : Int) (h : 0 < b) : Py.mod a b = a % b := by
  unfold Py.mod
  exact Int.fmod_eq_emod_of_nonneg a (Int.le_of_lt h)

theorem imin_eq (a b : Int) : Py.imin a b = min a b := by
  unfold Py.imin
  by_cases h : a ≤ b
  · rw [Int.min_def, if_pos h, if_neg (Int.not_lt.mpr h)]
  · rw [Int.min_def, if_neg h, if_pos (Int.not_le.mp h)]

theorem imax_eq (a b : Int) : Py.imax a b = max a b := by
  unfold Py.imax
  by_cases h : a < b
  · rw [Int.max_def, if_pos (Int.le_of_lt h), if_pos h]
  · rw [if_neg h, Int.max_eq_left (Int.not_lt.mp h)]

theorem rangeFrom_length (a : Int) (n : Nat) : (Py.rangeFrom a n).length = n := by
  induction n generalizing a with
  | zero => rfl
  | succ n ih => simp [Py.rangeFrom, ih]

theorem range_length (a b : Int) : (Py.range a b).length = (b - a).toNat := by
  simp [Py.range, rangeFrom_length]

theorem enumFrom_length (i : Int) (xs : List α) : (Py.enumFrom i xs).length = xs.length := by
  induction xs generalizing i with
  | nil => rfl
  | cons x xs ih => simp [Py.enumFrom, ih]

theorem enumFrom_map_snd (i : Int) (xs : List α) : (Py.enumFrom i xs).map (·.2) = xs := by
  induction xs generalizing i with
  | nil => rfl
  | cons x xs ih => simp [Py.enumFrom, ih]

@[simp] theorem forLoop_nil (s : σ) (f : σ → α → Py.Step σ ρ) : Py.forLoop [] s f = .done s := rfl

theorem forLoop_cons (x : α) (xs : List α) (s : σ) (f : σ → α → Py.Step σ ρ) :
    Py.forLoop (x :: xs) s f =
      match f s x with
      | .next s' => Py.forLoop xs s' f
      | .brk s' => .done s'
      | .ret r => .ret r := rfl

/-- a loop whose body never breaks or returns is a fold -/
theorem forLoop_next_eq_foldl (xs : List α) (s : σ) (g : σ → α → σ) :
    Py.forLoop (ρ := ρ) xs s (fun s x => .next (g s x)) = .done (xs.foldl g s) := by
  induction xs generalizing s with
  | nil => rfl
  | cons x xs ih => simp [Py.forLoop, ih]

/-- "return r at the first element satisfying p": the loop returns iff some element satisfies p -/
theorem forLoop_ret_if (xs : List α) (p : α → Bool) (r : ρ) :
    Py.forLoop xs () (fun (_ : Unit) x => if p x = true then Py.Step.ret r else Py.Step.next ())
      = if xs.any p then .ret r else .done () := by
  induction xs with
  | nil => rfl
  | cons x xs ih =>
    rw [forLoop_cons]
    by_cases h : p x = true
    · simp [h]
    · simp [h, ih]

theorem dictGet?_cons [BEq κ] (k : κ) (p : κ × ν) (d : List (κ × ν)) :
    Py.dictGet? (p :: d) k = if p.1 == k then some p.2 else Py.dictGet? d k := by
  unfold Py.dictGet?
  simp only [List.find?_cons]
  cases p.1 == k <;> simp

end Yaql.Lemmas.PyPrelude
