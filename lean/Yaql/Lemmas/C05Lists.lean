/-!
Two facts about `List.foldl` used by the order-independence results (C05Sig, C06Reg) and by the
interface histories (C05Iface).
-/
namespace Yaql.Lemmas.C05Lists

theorem foldl_perm_of_comm {σ α : Type} (R : σ → σ → Prop) (f : σ → α → σ)
    (hrefl : ∀ a, R a a) (htrans : ∀ a b c, R a b → R b c → R a c)
    (hcongr : ∀ a b x, R a b → R (f a x) (f b x))
    (hcomm : ∀ a x y, R (f (f a x) y) (f (f a y) x)) :
    ∀ {l l' : List α}, l.Perm l' → ∀ a b, R a b → R (l.foldl f a) (l'.foldl f b) := by
  have hfold : ∀ (l : List α) a b, R a b → R (l.foldl f a) (l.foldl f b) := by
    intro l
    induction l with
    | nil => intro a b h; exact h
    | cons x l ih => intro a b h; exact ih _ _ (hcongr a b x h)
  intro l l' h
  induction h with
  | nil => intro a b h; exact h
  | cons x _ ih => intro a b h; exact ih _ _ (hcongr a b x h)
  | swap x y l =>
      intro a b h
      simp only [List.foldl_cons]
      exact hfold l _ _ (htrans _ _ _ (hcomm a y x) (hcongr _ _ y (hcongr a b x h)))
  | trans _ _ ih1 ih2 => intro a b h; exact htrans _ _ _ (ih1 a a (hrefl a)) (ih2 a b h)

theorem foldl_filter_of_fixed {σ α : Type} (f : σ → α → σ) (p : α → Bool) (hf : ∀ s a, p a = false → f s a = s) :
    ∀ (l : List α) (s : σ), l.foldl f s = (l.filter p).foldl f s
  | [], _ => rfl
  | a :: r, s => by
      rw [List.filter_cons]
      cases h : p a with
      | false => rw [List.foldl_cons, hf s a h]; exact foldl_filter_of_fixed f p hf r s
      | true => exact foldl_filter_of_fixed f p hf r _

end Yaql.Lemmas.C05Lists
