import Yaql.Model.Lexer
/-! Helper lemmas about the lexer model shared by `Props/C16.lean` and `Props/C03Lex.lean`. -/
namespace Yaql.Lexer
open Yaql.Syntax

theorem nonword_not_digit (cc : CharCfg) {c : Char} (h : cc.isWord c = false) : cc.isDigit c = false := by
  cases hd : cc.isDigit c with
  | false => rfl
  | true => rw [cc.digit_word c hd] at h; cases h

theorem isWord_of_mem (cc : CharCfg) {c : Char} (h : c ∈ nonWordChars) : cc.isWord c = false := cc.nonword c h

theorem word_ne_of_nonword (cc : CharCfg) {c d : Char} (hc : cc.isWord c = true) (hd : d ∈ nonWordChars) : c ≠ d := by
  intro e; subst e; rw [cc.nonword c hd] at hc; cases hc

theorem ignored_nonword (cc : CharCfg) {c : Char} (h : isIgnored c = true) : cc.isWord c = false := by
  apply cc.nonword
  simp only [isIgnored, Bool.or_eq_true, beq_iff_eq] at h
  rcases h with ((h | h) | h) | h <;> subst h <;> decide

theorem word_not_ignored (cc : CharCfg) {c : Char} (h : cc.isWord c = true) : isIgnored c = false := by
  cases hi : isIgnored c with
  | false => rfl
  | true => rw [ignored_nonword cc hi] at h; cases h

theorem append_singleton_eq {x : Char} {l m tail : List Char} (h : l ++ [x] = m ++ x :: tail) (ht : x ∉ tail) :
    l = m ∧ tail = [] := by
  have hlast := congrArg List.getLast? h
  rw [List.getLast?_concat, List.getLast?_append, List.getLast?_cons] at hlast
  cases hg : tail.getLast? with
  | some y =>
      obtain rfl : x = y := by simpa [hg] using hlast
      exact absurd (List.mem_of_getLast? hg) ht
  | none =>
      obtain rfl := List.getLast?_eq_none_iff.mp hg
      exact ⟨List.append_cancel_right h, rfl⟩

theorem takeWhile_append_head {p : Char → Bool} {l t : List Char} (h : ∀ c ∈ l, p c = true)
    (ht : ∀ x ∈ t.head?, p x = false) : (l ++ t).takeWhile p = l := by
  rw [List.takeWhile_append_of_pos h]
  cases t with
  | nil => simp
  | cons x t => rw [List.takeWhile_cons_of_neg (by simp [ht x rfl]), List.append_nil]

theorem dropWhile_append_head {p : Char → Bool} {l t : List Char} (h : ∀ c ∈ l, p c = true)
    (ht : ∀ x ∈ t.head?, p x = false) : (l ++ t).dropWhile p = t := by
  rw [List.dropWhile_append_of_pos h]
  cases t with
  | nil => rfl
  | cons x t => exact List.dropWhile_cons_of_neg (by simp [ht x rfl])

theorem takeWhile_all {p : Char → Bool} {l : List Char} (h : ∀ c ∈ l, p c = true) : l.takeWhile p = l := by
  simpa using takeWhile_append_head (t := []) h (by simp)

theorem dropWhile_all {p : Char → Bool} {l : List Char} (h : ∀ c ∈ l, p c = true) : l.dropWhile p = [] := by
  simpa using dropWhile_append_head (t := []) h (by simp)

theorem takeWhile_append_stop {p : Char → Bool} {l : List Char} {x : Char} {t : List Char}
    (h : ∀ c ∈ l, p c = true) (hx : p x = false) : (l ++ x :: t).takeWhile p = l :=
  takeWhile_append_head h (by simpa using hx)

theorem dropWhile_append_stop {p : Char → Bool} {l : List Char} {x : Char} {t : List Char}
    (h : ∀ c ∈ l, p c = true) (hx : p x = false) : (l ++ x :: t).dropWhile p = x :: t :=
  dropWhile_append_head h (by simpa using hx)

theorem mem_takeWhile_true {p : Char → Bool} {x : Char} {l : List Char} (h : x ∈ l.takeWhile p) : p x = true :=
  List.all_eq_true.mp List.all_takeWhile x h

theorem takeWhile_length_le (p : Char → Bool) (l : List Char) : (l.takeWhile p).length ≤ l.length :=
  (List.takeWhile_prefix p).length_le

theorem length_take_drop_while (p : Char → Bool) (l : List Char) :
    (l.takeWhile p).length + (l.dropWhile p).length = l.length := by
  rw [← List.length_append, List.takeWhile_append_dropWhile]

theorem scanStr_cons (q c : Char) (r : List Char) :
    scanStr q (c :: r) =
      (if c = q then some []
       else if c = '\\' then
         match r with
         | [] => none
         | e :: r' => if e = '\n' then none else (scanStr q r').map (fun s => c :: e :: s)
       else (scanStr q r).map (fun s => c :: s)) := by
  cases r <;> simp [scanStr]

/-- the contents the string rule with quote `q` accepts: characters other than the quote and the
backslash, and pairs of a backslash and any character but a newline -/
def wfQ (q : Char) : List Char → Bool
  | [] => true
  | c :: r =>
      if c = q then false
      else if c = '\\' then
        match r with
        | [] => false
        | e :: r' => e != '\n' && wfQ q r'
      else wfQ q r

theorem wfQ_cons (q c : Char) (r : List Char) :
    wfQ q (c :: r) =
      (if c = q then false
       else if c = '\\' then
         match r with
         | [] => false
         | e :: r' => e != '\n' && wfQ q r'
       else wfQ q r) := by
  cases r <;> simp [wfQ]

/-- what `scanStr` returns is a well-formed content followed in the text by the closing quote -/
theorem scanStr_spec (q : Char) (l c : List Char) (h : scanStr q l = some c) :
    wfQ q c = true ∧ ∃ tail, l = c ++ q :: tail := by
  fun_induction scanStr q l generalizing c with
  | case1 => cases h
  | case2 r => cases h; exact ⟨rfl, r, rfl⟩
  | case3 => cases h
  | case4 => cases h
  | case5 e r he hq ih =>
      obtain ⟨c', hc', rfl⟩ := Option.map_eq_some_iff.mp h
      obtain ⟨hw, tail, rfl⟩ := ih c' hc'
      exact ⟨by simp [wfQ_cons, hq, he, hw], tail, rfl⟩
  | case6 x r hx hb ih =>
      obtain ⟨c', hc', rfl⟩ := Option.map_eq_some_iff.mp h
      obtain ⟨hw, tail, rfl⟩ := ih c' hc'
      exact ⟨by simp [wfQ_cons, hx, hb, hw], tail, rfl⟩

/-- conversely a well-formed content followed by the quote is scanned exactly -/
theorem scanStr_wf (q : Char) (tail c : List Char) (h : wfQ q c = true) : scanStr q (c ++ q :: tail) = some c := by
  fun_induction wfQ q c with
  | case1 => simp [scanStr_cons]
  | case2 => cases h
  | case3 => cases h
  | case4 e r hq ih =>
      simp only [Bool.and_eq_true, bne_iff_ne, ne_eq] at h
      simp [scanStr_cons, hq, h.1, ih h.2]
  | case5 x r hx hb ih => simp [scanStr_cons, hx, hb, ih h]

/-! ### the rules before the string rules start with a word character -/

theorem wordRules_nonword (cc : CharCfg) {c : Char} (hw : cc.isWord c = false) (pw : Bool) (r : List Char) :
    matchNumber cc pw (c :: r) = none ∧ matchFunc cc pw (c :: r) = none ∧ matchKeyword cc pw (c :: r) = none := by
  have hd := nonword_not_digit cc hw
  refine ⟨?_, ?_, ?_⟩
  · simp [matchNumber, hd]
  · simp [matchFunc, identStart, hw]
  · simp [matchKeyword, identStart, hw]

theorem ruleAt_nonword (cfg : LexCfg) {c : Char} (hw : cfg.chars.isWord c = false) (hd : c ≠ '$') (pw : Bool)
    (r : List Char) (pos : Nat) :
    ruleAt cfg pw (c :: r) pos =
      match (if c = '\'' || c = '"' then scanStr c r else none) with
      | some content => quotedTok cfg content pos
      | none =>
        match (if c = '`' then scanStr c r else none) with
        | some content => .tok ⟨.quoted, .text (unescapeBackquote content), pos⟩ (content.length + 2)
        | none => symbolAt cfg c (c :: r) pos := by
  obtain ⟨h2, h3, h4⟩ := wordRules_nonword cfg.chars hw pw r
  simp only [ruleAt, hd, if_false, h2, h3, h4]
  rfl

theorem fracPart_len (cc : CharCfg) {after d2 : List Char} (h : fracPart cc after = some d2) :
    d2.length + 1 ≤ after.length := by
  revert h
  fun_cases fracPart cc after with
  | case1 a2 =>
      intro h
      rw [← Option.some.inj h]
      exact Nat.succ_le_succ (takeWhile_length_le cc.isDigit a2)
  | case2 => intro h; cases h
  | case3 => intro h; cases h
  | case4 => intro h; cases h

theorem matchNumber_spec (cc : CharCfg) {pw : Bool} {rest : List Char} {m : NumMatch}
    (h : matchNumber cc pw rest = some m) :
    m.int = rest.takeWhile cc.isDigit ∧ m.int ≠ [] ∧ 1 ≤ m.len ∧ m.len ≤ rest.length := by
  revert h
  fun_cases matchNumber cc pw rest with
  | case1 => intro h; cases h
  | case2 => intro h; cases h
  | case3 _ d1 hne after d2 hf =>
      intro h; cases h
      have hne' : d1 ≠ [] := by simpa using hne
      have := List.length_pos_iff.mpr hne'
      have : d1.length + after.length = rest.length := length_take_drop_while cc.isDigit rest
      have := fracPart_len cc hf
      refine ⟨rfl, hne', ?_, ?_⟩ <;> simp only [NumMatch.len] <;> omega
  | case4 _ d1 hne after =>
      intro h; cases h
      have hne' : d1 ≠ [] := by simpa using hne
      have := List.length_pos_iff.mpr hne'
      have : d1.length + after.length = rest.length := length_take_drop_while cc.isDigit rest
      refine ⟨rfl, hne', ?_, ?_⟩ <;> simp only [NumMatch.len] <;> omega
  | case5 => intro h; cases h

/-! ### `lexGo` on a text that is one token -/

theorem lexGo_skip_all (cfg : LexCfg) : ∀ (l : List Char) (k : Nat) (pw : Bool) (pos : Nat),
    l.length ≤ k → lexGo cfg k pw l pos = .ok []
  | [], _, _, _, _ => by simp [lexGo]
  | c :: r, 0, _, _, h => by simp at h
  | c :: r, k + 1, pw, pos, h => by
      simp only [lexGo]
      exact lexGo_skip_all cfg r k _ _ (by simp at h; omega)

theorem lexAll_cons (cfg : LexCfg) {c : Char} {r : List Char} (hi : isIgnored c = false) :
    lexAll cfg (c :: r) =
      match ruleAt cfg false (c :: r) 0 with
      | .tok t len => consTok t (lexGo cfg (len - 1) (cfg.chars.isWord c) r 1)
      | .err e => .error e := by
  simp only [lexAll, lexGo, hi, Bool.false_eq_true, if_false]
  rfl

/-- a text that the rules match as ONE token, whole -/
theorem lexAll_single (cfg : LexCfg) {c : Char} {r : List Char} {t : Token}
    (hi : isIgnored c = false) (h : ruleAt cfg false (c :: r) 0 = .tok t (r.length + 1)) :
    lexAll cfg (c :: r) = .ok [t] := by
  simp only [lexAll, lexGo, hi, h, Bool.false_eq_true, if_false, Nat.add_sub_cancel]
  rw [lexGo_skip_all cfg r r.length _ _ (Nat.le_refl _)]
  rfl

theorem lexAll_error (cfg : LexCfg) {c : Char} {r : List Char} {e : LexErr}
    (hi : isIgnored c = false) (h : ruleAt cfg false (c :: r) 0 = .err e) :
    lexAll cfg (c :: r) = .error e := by
  simp only [lexAll, lexGo, hi, h, Bool.false_eq_true, if_false]

/-- if nothing at all is produced, everything that was not skipped is an ignored character -/
theorem lexGo_ok_nil (cfg : LexCfg) (l : List Char) (k : Nat) (pw : Bool) (pos : Nat)
    (h : lexGo cfg k pw l pos = .ok []) : ∀ c ∈ l.drop k, isIgnored c = true := by
  fun_induction lexGo cfg k pw l pos with
  | case1 => simp
  | case2 _ _ _ _ _ ih => simpa using ih h
  | case3 _ c r _ hi ih =>
      intro d hd
      rcases List.mem_cons.mp hd with rfl | hd
      · exact hi
      · exact ih h d hd
  | case4 _ c r pos _ t len =>
      cases hg : lexGo cfg (len - 1) (cfg.chars.isWord c) r (pos + 1) <;> simp [hg, consTok] at h
  | case5 => cases h

theorem lexAll_single_inv (cfg : LexCfg) {c : Char} {r : List Char} {t : Token}
    (hi : isIgnored c = false) (h : lexAll cfg (c :: r) = .ok [t]) :
    ∃ len, ruleAt cfg false (c :: r) 0 = .tok t len ∧ ∀ x ∈ r.drop (len - 1), isIgnored x = true := by
  rw [lexAll_cons cfg hi] at h
  cases hr : ruleAt cfg false (c :: r) 0 with
  | err e => simp [hr] at h
  | tok t' len =>
      simp only [hr] at h
      cases hg : lexGo cfg (len - 1) (cfg.chars.isWord c) r 1 with
      | error e => simp [hg, consTok] at h
      | ok ts =>
          simp only [hg, consTok, Except.ok.injEq, List.cons.injEq] at h
          obtain ⟨rfl, rfl⟩ := h
          exact ⟨len, rfl, lexGo_ok_nil cfg _ _ _ _ hg⟩

/-! ### ply's ordering of the string rules keeps the rules -/

theorem mem_insertBy {α} (le : α → α → Bool) (x y : α) : ∀ (l : List α), y ∈ insertBy le x l → y = x ∨ y ∈ l
  | [], h => by simpa [insertBy] using h
  | z :: zs, h => by
      simp only [insertBy] at h
      split at h
      · simpa using h
      · rcases List.mem_cons.mp h with rfl | h'
        · simp
        · rcases mem_insertBy le x y zs h' with e | e
          · exact Or.inl e
          · exact Or.inr (List.mem_cons_of_mem _ e)

theorem mem_sortBy {α} (le : α → α → Bool) (y : α) : ∀ (l : List α), y ∈ sortBy le l → y ∈ l
  | [], h => by simp [sortBy] at h
  | x :: xs, h => by
      have h' : y ∈ insertBy le x (sortBy le xs) := by simpa [sortBy] using h
      rcases mem_insertBy le x y _ h' with e | e
      · simp [e]
      · exact List.mem_cons_of_mem _ (mem_sortBy le y xs e)

/-! ### `re.escape` lengths (ply sorts the string rules by them) -/

theorem escLen_append : ∀ (a b : List Char), escLen (a ++ b) = escLen a + escLen b
  | [], b => by simp [escLen]
  | c :: a, b => by simp [escLen, escLen_append a b, Nat.add_assoc]

theorem escLen_pos {b : List Char} (h : b ≠ []) : 0 < escLen b := by
  cases b with
  | nil => exact absurd rfl h
  | cons c r => simp only [escLen]; split <;> omega

/-- a symbol that properly extends another one has the longer regex, so ply tries it first -/
theorem escLen_lt_of_proper_prefix (a : List Char) {b : List Char} (h : b ≠ []) : escLen a < escLen (a ++ b) := by
  rw [escLen_append]; have := escLen_pos h; omega

/-! ### a concrete configuration: ASCII classes, the default operator table (for examples) -/

def asciiChars : CharCfg :=
  { isWord := fun c => c.isAlphanum || c == '_',
    isDigit := fun c => c.isDigit,
    digitVal := fun c => (c.toNat - 48) % 10,
    digit_word := by intro c h; simp [Char.isAlphanum, h],
    digit_lt := by intro c _; exact Nat.mod_lt _ (by decide),
    underscore_word := by decide,
    underscore_nondigit := by decide,
    nonword := by
      intro c h
      simp only [nonWordChars, List.mem_cons, List.not_mem_nil, or_false] at h
      rcases h with h | h | h | h | h | h | h | h | h | h | h | h | h | h | h | h | h <;> subst h <;> decide }

def defaultOps : List (List Char) :=
  [['.'], ['?', '.'], ['+'], ['-'], ['=', '~'], ['!', '~'], ['*'], ['/'], ['m', 'o', 'd'], ['>'], ['<'], ['>', '='],
   ['<', '='], ['!', '='], ['='], ['i', 'n'], ['n', 'o', 't'], ['a', 'n', 'd'], ['o', 'r'], ['-', '>']]

/-- `YaqlFactory().create()` on a stock CPython: `=>` is the name-value operator, and 4300 is the default of
`sys.get_int_max_str_digits()` (CPython 3.11 and later) -/
def asciiCfg : LexCfg :=
  LexCfg.ofTable asciiChars defaultOps true true (some ['=', '>']) (fun _ => none) 4300

/-- the string rules of `asciiCfg` in the order ply tries them: longest regular expression first (`?.` is `\?\.`,
four characters), then by rule name -/
def asciiRules : List StrRule :=
  [⟨['O', 'P', '_', 'C'], ['?', '.'], 4, .op ['?', '.']⟩,
   ⟨['O', 'P', '_', 'F'], ['=', '~'], 3, .op ['=', '~']⟩,
   ⟨['O', 'P', '_', 'G'], ['!', '~'], 3, .op ['!', '~']⟩,
   ⟨['O', 'P', '_', 'J'], ['m', 'o', 'd'], 3, .op ['m', 'o', 'd']⟩,
   ⟨['O', 'P', '_', 'R'], ['n', 'o', 't'], 3, .op ['n', 'o', 't']⟩,
   ⟨['O', 'P', '_', 'S'], ['a', 'n', 'd'], 3, .op ['a', 'n', 'd']⟩,
   ⟨['O', 'P', '_', 'U'], ['-', '>'], 3, .op ['-', '>']⟩,
   ⟨['I', 'N', 'D', 'E', 'X', 'E', 'R'], ['['], 2, .indexer⟩,
   ⟨['M', 'A', 'P', 'P', 'I', 'N', 'G'], ['=', '>'], 2, .mapping⟩,
   ⟨['O', 'P', '_', 'B'], ['.'], 2, .op ['.']⟩,
   ⟨['O', 'P', '_', 'D'], ['+'], 2, .op ['+']⟩,
   ⟨['O', 'P', '_', 'E'], ['-'], 2, .op ['-']⟩,
   ⟨['O', 'P', '_', 'H'], ['*'], 2, .op ['*']⟩,
   ⟨['O', 'P', '_', 'M'], ['>', '='], 2, .op ['>', '=']⟩,
   ⟨['O', 'P', '_', 'N'], ['<', '='], 2, .op ['<', '=']⟩,
   ⟨['O', 'P', '_', 'O'], ['!', '='], 2, .op ['!', '=']⟩,
   ⟨['O', 'P', '_', 'Q'], ['i', 'n'], 2, .op ['i', 'n']⟩,
   ⟨['O', 'P', '_', 'T'], ['o', 'r'], 2, .op ['o', 'r']⟩,
   ⟨['M', 'A', 'P'], ['{'], 1, .map⟩,
   ⟨['O', 'P', '_', 'I'], ['/'], 1, .op ['/']⟩,
   ⟨['O', 'P', '_', 'K'], ['>'], 1, .op ['>']⟩,
   ⟨['O', 'P', '_', 'L'], ['<'], 1, .op ['<']⟩,
   ⟨['O', 'P', '_', 'P'], ['='], 1, .op ['=']⟩]

theorem asciiCfg_rules : asciiCfg.rules = asciiRules := by decide +kernel

/-- for evaluating `asciiCfg` on a text without sorting the rules again -/
theorem asciiCfg_eq : asciiCfg = { asciiCfg with rules := asciiRules } := by rw [← asciiCfg_rules]

end Yaql.Lexer
