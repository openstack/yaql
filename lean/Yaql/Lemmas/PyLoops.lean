import Yaql.Model.PyPrelude
import Yaql.Lemmas.PyPrelude
/-!
General lemmas about the loop primitives of `Yaql/Model/PyPrelude.lean` (`forLoop`, `enumFrom`, folds with an
accumulator) used by the source-equivalence proofs `Props/SrcSeq.lean`, `SrcLimits.lean`, `SrcOpTable.lean` and
`SrcResolve.lean`; the lemmas about `whileLoop` are in `Lemmas/PyLoopsOp.lean`.

Style of those proofs: a helper lemma is stated for an *abstract* loop body `f` together with a pointwise
description `hf` of it written with `if` only; the main theorem unfolds the generated definition and
discharges `hf` for the generated lambda with the tactic `py_body` (so that harmless rewrites of the
Python source still go through).
-/
namespace Yaql.Lemmas.PyLoops
open Yaql

/-- discharge the pointwise description of a generated loop body -/
macro "py_body" : tactic =>
  `(tactic| (intros; first | rfl | (simp; done) | (simp only []; grind) | grind))

theorem enumerate_eq (xs : List α) : Py.enumerate xs = Py.enumFrom 0 xs := rfl

@[simp] theorem enumFrom_nil (i : Int) : Py.enumFrom i ([] : List α) = [] := rfl

@[simp] theorem enumFrom_cons (i : Int) (x : α) (xs : List α) :
    Py.enumFrom i (x :: xs) = (i, x) :: Py.enumFrom (i + 1) xs := rfl

/-- two loop bodies that agree pointwise give the same fold -/
theorem foldl_congr_fun {f g : σ → α → σ} (h : ∀ s x, f s x = g s x) (xs : List α) (s : σ) :
    xs.foldl f s = xs.foldl g s := by
  have : f = g := funext fun s => funext fun x => h s x
  rw [this]

theorem forLoop_congr_fun {f g : σ → α → Py.Step σ ρ} (h : ∀ s x, f s x = g s x) (xs : List α) (s : σ) :
    Py.forLoop xs s f = Py.forLoop xs s g := by
  have : f = g := funext fun s => funext fun x => h s x
  rw [this]

/-- a generator that yields every element: `for x in xs: yield x` -/
@[simp] theorem foldl_append_singleton (xs acc : List α) :
    xs.foldl (fun s x => s ++ [x]) acc = acc ++ xs := by
  induction xs generalizing acc with
  | nil => simp
  | cons x xs ih => simp [ih]

@[simp] theorem flatten_map_singleton (xs : List α) : (xs.map (fun x => [x])).flatten = xs := by
  induction xs with
  | nil => rfl
  | cons x xs ih => simp [ih]

/-- a generator that yields the image of every element: `for x in xs: yield g(x)` -/
theorem foldl_append_map (g : α → β) (xs : List α) (acc : List β) :
    xs.foldl (fun s x => s ++ [g x]) acc = acc ++ xs.map g := by
  induction xs generalizing acc with
  | nil => simp
  | cons x xs ih => simp [ih]

/-- a search loop: `for x in xs: if c(x): return r(x)` with no state -/
theorem forLoop_find (f : Unit → α → Py.Step Unit ρ) (c : α → Bool) (r : α → ρ)
    (hf : ∀ x, f () x = if c x then .ret (r x) else .next ()) (xs : List α) :
    Py.forLoop xs () f = match xs.find? c with
      | some x => .ret (r x)
      | none => .done () := by
  induction xs with
  | nil => rfl
  | cons x xs ih =>
    rw [Lemmas.PyPrelude.forLoop_cons, hf]
    cases h : c x <;> simp [h, ih]

end Yaql.Lemmas.PyLoops
