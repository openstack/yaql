import Yaql.Model.Seq
/-! `Value.beq` decides equality; hence Python's `==` as modelled by `pyEq`
(structural equality of canonical forms) is an equivalence relation. -/
namespace Yaql
namespace Value

mutual
theorem beq_eq : ∀ (a b : Value), beq a b = true → a = b
  | null, b, h => by cases b with | null => rfl | _ => cases h
  | bool a, b, h => by cases b with | bool b => simp [beq] at h; rw [h] | _ => cases h
  | int a, b, h => by cases b with | int b => simp [beq] at h; rw [h] | _ => cases h
  | flt a, b, h => by cases b with | flt b => simp [beq] at h; rw [h] | _ => cases h
  | str a, b, h => by cases b with | str b => simp [beq] at h; rw [h] | _ => cases h
  | host a, b, h => by cases b with | host b => simp [beq] at h; rw [h] | _ => cases h
  | tuple a, b, h => by cases b with | tuple b => rw [beq] at h; rw [beqL_eq a b h] | _ => cases h
  | list a, b, h => by cases b with | list b => rw [beq] at h; rw [beqL_eq a b h] | _ => cases h
  | set a, b, h => by cases b with | set b => rw [beq] at h; rw [beqL_eq a b h] | _ => cases h
  | iter a, b, h => by cases b with | iter b => rw [beq] at h; rw [beqL_eq a b h] | _ => cases h
  | dict a, b, h => by cases b with | dict b => rw [beq] at h; rw [beqP_eq a b h] | _ => cases h
theorem beqL_eq : ∀ (a b : List Value), beqL a b = true → a = b
  | [], [], _ => rfl
  | x :: xs, y :: ys, h => by
    simp [beqL] at h
    rw [beq_eq x y h.1, beqL_eq xs ys h.2]
  | [], _ :: _, h => by simp [beqL] at h
  | _ :: _, [], h => by simp [beqL] at h
theorem beqP_eq : ∀ (a b : List (Value × Value)), beqP a b = true → a = b
  | [], [], _ => rfl
  | (k, v) :: xs, (k', v') :: ys, h => by
    simp [beqP] at h
    rw [beq_eq k k' h.1.1, beq_eq v v' h.1.2, beqP_eq xs ys h.2]
  | [], _ :: _, h => by simp [beqP] at h
  | _ :: _, [], h => by simp [beqP] at h
end

mutual
theorem beq_refl : ∀ (a : Value), beq a a = true
  | null => rfl
  | bool _ | int _ | flt _ | str _ | host _ => by simp [beq]
  | tuple a | list a | set a | iter a => by simp [beq, beqL_refl a]
  | dict a => by simp [beq, beqP_refl a]
theorem beqL_refl : ∀ (a : List Value), beqL a a = true
  | [] => rfl
  | x :: xs => by simp [beqL, beq_refl x, beqL_refl xs]
theorem beqP_refl : ∀ (a : List (Value × Value)), beqP a a = true
  | [] => rfl
  | (k, v) :: xs => by simp [beqP, beq_refl k, beq_refl v, beqP_refl xs]
end

instance : LawfulBEq Value where
  eq_of_beq {a b} h := beq_eq a b h
  rfl {a} := beq_refl a

instance : DecidableEq Value := fun a b =>
  if h : (a == b) = true then isTrue (eq_of_beq h) else isFalse (fun e => h (e ▸ beq_self_eq_true a))

theorem pyEq_iff (a b : Value) : pyEq a b = true ↔ canon a = canon b := by
  simp [pyEq]

theorem pyEq_refl (a : Value) : pyEq a a = true := by simp [pyEq]
theorem pyEq_symm (a b : Value) : pyEq a b = pyEq b a := by
  simp only [pyEq]; exact Bool.eq_iff_iff.mpr ⟨fun h => by simp [eq_of_beq h], fun h => by simp [eq_of_beq h]⟩
theorem pyEq_trans {a b c : Value} (h₁ : pyEq a b = true) (h₂ : pyEq b c = true) : pyEq a c = true := by
  rw [pyEq_iff] at *; exact h₁.trans h₂

theorem pyEq_false_of {a b c : Value} (h₁ : pyEq a c = true) (h₀ : ¬ pyEq a b = true) : pyEq b c = false := by
  cases h : pyEq b c with
  | false => rfl
  | true => exact absurd (pyEq_trans h₁ (by rwa [pyEq_symm])) h₀

/-- `==` depends only on the class of each side -/
theorem pyEq_congr_left {a b : Value} (h : pyEq a b = true) (c : Value) : pyEq a c = pyEq b c := by
  simp only [pyEq]; rw [(pyEq_iff a b).mp h]
theorem pyEq_congr_right {a b : Value} (h : pyEq a b = true) (c : Value) : pyEq c a = pyEq c b := by
  simp only [pyEq]; rw [(pyEq_iff a b).mp h]

end Value
end Yaql
