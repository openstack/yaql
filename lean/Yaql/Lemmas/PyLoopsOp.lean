import Yaql.Model.PyPrelude
import Yaql.Lemmas.PyPrelude
import Yaql.Lemmas.PyLoops
/-!
General lemmas about the Python primitives of `Yaql/Model/PyPrelude.lean` used by `Props/SrcOpTable.lean`:
indexing / `list.insert` at a natural-number position, the index search
`for i, x in enumerate(xs): if p(x): pos = i; break`, and the scan
`while pos < len(xs) and p(xs[pos]): pos += 1`.

As in `Lemmas/PyLoops.lean` the loop lemmas are stated for an abstract body `f` with a pointwise description.
-/
namespace Yaql.Lemmas.PyLoopsOp
open Yaql

/-! ## `xs[k]`, `xs.insert(k, v)` for `0 <= k <= len(xs)` -/

theorem index_nat (xs : List α) (i : Int) (k : Nat) (hi : i = (k : Int)) (hk : k < xs.length) :
    Py.index xs i = .ok xs[k] := by
  subst hi
  have h1 : ¬ ((k : Int) < 0) := by omega
  simp [Py.index, h1, hk]

theorem listInsert_nat (xs : List α) (i : Int) (k : Nat) (v : α) (hi : i = (k : Int)) (hk : k ≤ xs.length) :
    Py.listInsert xs i v = xs.take k ++ v :: xs.drop k := by
  subst hi
  simp only [Py.listInsert, Lemmas.PyPrelude.clampIdx_natCast, Nat.min_eq_left hk]

/-- `xs.insert(k, v)` does not raise for a position inside the list when the list is shorter than `2 ** 63` -/
theorem listInsert?_nat (xs : List α) (i : Int) (k : Nat) (v : α) (hi : i = (k : Int)) (hk : k ≤ xs.length)
    (hlen : (xs.length : Int) < 2 ^ 63) :
    Py.listInsert? xs i v = .ok (xs.take k ++ v :: xs.drop k) := by
  have h : Py.ssizeOk i = true := by
    simp only [Py.ssizeOk, decide_eq_true_eq]
    omega
  simp only [Py.listInsert?, h, if_true, listInsert_nat xs i k v hi hk]

/-! ## `for i, x in enumerate(xs, start): if p(x): pos = i; break` -/

theorem forLoop_enum_findIdx (p : α → Bool) (f : Int → Int × α → Py.Step Int ρ)
    (hf : ∀ s i x, f s (i, x) = if p x = true then .brk i else .next s)
    (xs : List α) (i s : Int) :
    Py.forLoop (Py.enumFrom i xs) s f = .done (((xs.findIdx? p).map (fun (j : Nat) => i + (j : Int))).getD s) := by
  induction xs generalizing i with
  | nil => rfl
  | cons x xs ih =>
    rw [PyLoops.enumFrom_cons, Lemmas.PyPrelude.forLoop_cons, hf, List.findIdx?_cons]
    by_cases hp : p x = true
    · simp [hp]
    · have hp' : p x = false := by simpa using hp
      simp only [hp', Bool.false_eq_true, if_false, ih]
      cases List.findIdx? p xs with
      | none => rfl
      | some j => simp only [Option.map_some, Option.getD_some, Int.natCast_add, Int.natCast_one]; congr 1; omega

/-! ## `while pos < len(xs) and p(xs[pos]): pos += 1` -/

/-- the scan stops at `pos + (number of leading elements of xs[pos:] satisfying p)`; it needs one unit of fuel per
    step plus one for the final test.  The translator emits `while True:` (`hc`) with the loop test moved into the
    body, which breaks when the test fails (`hf`, `hf'`). -/
theorem whileLoop_scan (xs : List α) (p : α → Bool) (c : Int → Bool) (f : Int → Py.Step Int ρ)
    (hc : ∀ s, c s = true)
    (hf : ∀ (k : Nat) (v : α), k < xs.length → Py.index xs (k : Int) = .ok v →
      f (k : Int) = if p v = true then .next ((k : Int) + 1) else .brk (k : Int))
    (hf' : ∀ (k : Nat), xs.length ≤ k → f (k : Int) = .brk (k : Int))
    (fuel : Nat) (pos : Nat) (hfuel : xs.length - pos + 1 ≤ fuel) :
    Py.whileLoop fuel (pos : Int) c f
      = some (.done (((pos + ((xs.drop pos).takeWhile p).length : Nat) : Int))) := by
  induction fuel generalizing pos with
  | zero => omega
  | succ n ih =>
    rw [Py.whileLoop, if_pos (hc _)]
    by_cases hlt : pos < xs.length
    · have hd : xs.drop pos = xs[pos] :: xs.drop (pos + 1) := by simp
      rw [hf pos _ hlt (index_nat xs _ pos rfl hlt), hd, List.takeWhile_cons]
      by_cases hp : p xs[pos] = true
      · simp only [hp, if_true]
        have h := ih (pos + 1) (by omega)
        rw [Int.natCast_add, Int.natCast_one] at h
        rw [h]
        simp only [List.length_cons]
        congr 3
        omega
      · simp [hp]
    · rw [hf' pos (by omega), List.drop_of_length_le (by omega)]
      simp

end Yaql.Lemmas.PyLoopsOp
